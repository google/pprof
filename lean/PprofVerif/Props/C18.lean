import PprofVerif.Lemmas.DotEscape
import PprofVerif.Lemmas.DotEmit
import PprofVerif.Lemmas.DotDocIds
import PprofVerif.Lemmas.CallgrindComp
import PprofVerif.Gen.DotSites
import PprofVerif.Gen.HtmlSinks
/-!
# C18 — Graph outputs are syntactically valid for any names

Property theorems only (helper lemmas live in `Lemmas/DotEscape`, `Lemmas/DotEmit`, `Lemmas/DotLex`,
`Lemmas/DotDocLex`, `Lemmas/DotDocParse`, `Lemmas/DotDocIds`, `Lemmas/CallgrindNum`, `Lemmas/CallgrindComp`).

The tie to the code has three parts, all re-established on every run of `bin/check C18`:
* `Gen/DotSites.lean` and `Gen/HtmlSinks.lean` are REGENERATED from the source by
  `tools/extract/{dotsites,htmlsinks}.go`; the `decide` theorems below fail to build when a new
  unescaped splice / trusted-type conversion appears or `escapeForDot` changes;
* the Lean functions the theorems are about (`Dot.lex`/`Dot.parse`, `Callgrind.check`) are the
  ones `pvdrv-C18` runs on the REAL output of `pprof -dot` and `pprof -callgrind`, `report.Generate`,
  `graph.ComposeDot` (harness/c18*.go);
* `Dot.escape` is compared with the observable behaviour of `escapeForDot` (node tooltips).
-/
namespace PV.Props.C18
open PV PV.Dot

/-! ## DOT -/

/-- The source of `escapeForDot` is re-read on every run.  When its body is in one of the forms
the translator understands — a chain of one-byte `strings.ReplaceAll`, a `strings.NewReplacer`
with one-byte patterns, or a byte-wise `switch` loop (optionally behind an `IndexAny` fast path) —
its action on each single byte, which determines a byte-wise function, is extracted and must be
the byte map of the model: newline ↦ `\l`, `"` ↦ `\"`, `\` ↦ `\\`, all other bytes unchanged.
For any other body the form is "unknown" and this obligation is vacuous: the map is then pinned
by the harness alone, which pushes every byte value 0..255 (alone, doubled, after a backslash,
and all together) through the real `escapeForDot` in every run and compares with `Dot.escape`. -/
theorem escape_spec_matches :
    (Gen.DotSites.escapeForm = "unknown" ∨
      Gen.DotSites.escapeBytes = [(NL, escByte NL), (DQ, escByte DQ), (BS, escByte BS)])
    ∧ escByte NL = [BS, LL] ∧ escByte DQ = [BS, DQ] ∧ escByte BS = [BS, BS] := by decide +kernel

/-- `escapeForDot` acts byte by byte: `\` ↦ `\\`, `"` ↦ `\"`, newline ↦ `\l`, everything else unchanged
(so the order of the three nested `ReplaceAll` calls does not let one rewrite the output of another). -/
theorem escape_bytewise (s : Bytes) : escape s = s.flatMap escByte := escape_eq_flatMap s

/-- **Quoted-string lexing of escaped text** — for ALL byte strings `s` (quotes, backslashes,
newlines, trailing backslash, non-UTF-8) and any following input `r`: a quoted DOT string whose
body is `escapeForDot s` ends exactly at the closing quote that pprof wrote. -/
theorem lex_quoted_escape (s r : Bytes) :
    lexQuoted (DQ :: escape s ++ DQ :: r) = some (escape s, r) :=
  lexQuoted_of_qsafeB (qsafeB_escape s) r

-- non-vacuity: a name made of a quote, a backslash and a newline, followed by more DOT text
example : lexQuoted (DQ :: escape [DQ, BS, NL, BS] ++ DQ :: [0x5d]) = some ([BS, DQ, BS, BS, BS, LL, BS, BS], [0x5d]) := by decide

/-- The escaped text contains no unescaped quote (it is safe between quotes) and no newline at all. -/
theorem escape_no_bare_quote_no_newline (s : Bytes) : qsafeB (escape s) = true ∧ NL ∉ escape s :=
  ⟨qsafeB_escape s, not_mem_NL_escape s⟩

/-- Text that is safe between quotes stays so under concatenation: labels assembled from escaped
names, literal separators (`\n`, `\l`, blanks) and formatted numbers lex as ONE string. -/
theorem quoted_concat_safe (a b r : Bytes) (ha : qsafeB a = true) (hb : qsafeB b = true) :
    lexQuoted (DQ :: (a ++ b) ++ DQ :: r) = some (a ++ b, r) :=
  lexQuoted_of_qsafeB (qsafeB_append ha hb) r

example : qsafeB (escape [DQ] ++ [BS, 0x6e] ++ escape [BS]) = true := by decide

/-- Escaping is faithful: Graphviz's reading of the escaped text (`\\`→`\`, `\"`→`"`, `\l`→line break)
is the original string. -/
theorem unescape_escape (s : Bytes) : unescape (escape s) = s := Dot.unescape_escape s


/-! ### the strings the emitter assembles

`Model/DotEmit.lean` mirrors how dotgraph.go (with fixes/C18-dot-escape-all-sites.patch) builds
each quoted string from escaped names, literal separators and formatted numbers.  External
functions are parameters: `shorten` = ShortenFunctionName (arbitrary), `fmtv` = FormatValue
(arbitrary: its result is escaped by `builder.formatValue`), `split` = strings.Split (arbitrary),
`pct` = measurement.Percentage (assumed to print no quote/backslash), `base` = filepath.Base
(assumed to keep escaped text safe: it cuts at `/`, which is never part of an escape unit). -/

/-- **Node labels lex as one string** for every NodeInfo (function, file and object names of any
bytes, any address/line/column), any values: `"` ++ label ++ `"` is read back as exactly the
label — including the post-escape rewrites `::`→`\n`, `[...]`→`[…]`, `.`→`\n` of
`multilinePrintableName`, which are shown not to cut an escape unit. -/
theorem node_label_lexes (shorten base : Bytes → Bytes) (fmtv pct : Int → Bytes)
    (hbase : ∀ s, qsafeB (base (escape s)) = true) (hpct : ∀ v, Plain (pct v))
    (i : Info) (flat cum : Int) (r : Bytes) :
    lexQuoted (DQ :: nodeLabel shorten base fmtv pct i flat cum ++ DQ :: r)
      = some (nodeLabel shorten base fmtv pct i flat cum, r) :=
  lexQuoted_of_qsafeB (nodeLabel_qsafe shorten base fmtv pct hbase hpct i flat cum) r

-- non-vacuity of the hypotheses (base = identity, a percentage text) on a hostile NodeInfo
example : (∀ s, qsafeB (id (escape s)) = true) ∧ (∀ v : Int, Plain ((fun _ => [0x31, 0x32, 0x2e, 0x35, 0x25]) v)) ∧
    qsafeB (nodeLabel id id (fun _ => [0x31, DQ]) (fun _ => [0x35, 0x25])
      ⟨[DQ, 0x2e, BS], [BS], [DQ], 4096, 7, 0⟩ 3 5) = true :=
  ⟨qsafeB_escape, fun _ => by show Plain [0x31, 0x32, 0x2e, 0x35, 0x25]; unfold Plain; decide, by decide +kernel⟩

/-- **Tooltips lex as one string**: node tooltip `name (value)` and edge tooltip `src -> dst (w)`. -/
theorem tooltips_lex (base : Bytes → Bytes) (fmtv : Int → Bytes) (i j : Info) (flat cum w : Int)
    (residual : Bool) (r : Bytes) :
    lexQuoted (DQ :: nodeTooltip base fmtv i flat cum ++ DQ :: r) = some (nodeTooltip base fmtv i flat cum, r) ∧
    lexQuoted (DQ :: edgeTooltip base fmtv i j w residual ++ DQ :: r) = some (edgeTooltip base fmtv i j w residual, r) :=
  ⟨lexQuoted_of_qsafeB (nodeTooltip_qsafe base fmtv i flat cum) r,
   lexQuoted_of_qsafeB (edgeTooltip_qsafe base fmtv i j w residual) r⟩

/-- **Tag nodelet labels and the legend lex as one string**: tag names are split at graph.joinLabels'
`\n` separators, every piece escaped, and re-joined; legend lines are escaped and joined with `\l`. -/
theorem tag_and_legend_labels_lex (split : Bytes → List Bytes) (name : Bytes) (labels : List Bytes) (r : Bytes) :
    lexQuoted (DQ :: tagLabel split name ++ DQ :: r) = some (tagLabel split name, r) ∧
    lexQuoted (DQ :: legendLabel labels ++ DQ :: r) = some (legendLabel labels, r) :=
  ⟨lexQuoted_of_qsafeB (tagLabel_qsafe split name) r, lexQuoted_of_qsafeB (legendLabel_qsafe labels) r⟩

example : tagLabel (fun s => [s.take 2, s.drop 4]) [DQ, BS, BS, 0x6e, DQ] = [BS, DQ, BS, BS, BS, 0x6e, BS, DQ] := by decide


/-! ### the document

`Model/DotDoc.lean` mirrors WHICH statements `ComposeDot` writes and with which identifiers:
`digraph "title" {`, the node defaults, the legend subgraph, per node `N<i>` its statement, its
tag nodelets `N<i>_<j>` with their edges and the numeric nodelets `N<source>_<k>` below the node
or a tag nodelet, then the graph edges `N<src> -> N<dst>`, then `}`.  Attribute values are
abstract: any identifier-like bare value, any quoted body that is safe between quotes (the
theorems above show the bodies pprof assembles are). -/

/-- **The document model parses** — for every graph (any number of nodes, nodelets, numeric
nodelets, edges, any attribute lists): lexing and parsing the BYTES of the document give back
the title, the legend node followed by the node statements in order, and the edge statements. -/
theorem dot_model_parses (g : G) (hg : g.OK) :
    parse g.bytes = some ⟨some (unquote g.title), legendNodes g.legend ++ nodesOf g.stmts, edgesOf g.stmts⟩ := by
  unfold parse G.bytes
  rw [lexes_doc g.title g.legend g.stmts hg.title hg.legend (G.stmts_ok g hg)]
  exact parseToks_doc g.title g.legend g.stmts (fun p hp => (hg.legend p hp).2) (G.stmts_ok g hg)

/-- **Edges reference only declared nodes** — the check `wellFormed` that the harness applies to
real output (parses, and no edge endpoint lacks a node statement) succeeds on the document of
every graph whose edges connect nodes of the graph: the identifier scheme `N%d` / `N%d_%d` /
`N%s_%d` never produces an endpoint without a declaration. -/
theorem dot_edges_declared (g : G) (hg : g.OK) : wellFormed g.bytes = true := by
  unfold wellFormed
  rw [dot_model_parses g hg]
  simp only [Graph.undeclared, Graph.declared, List.isEmpty_iff, List.filter_eq_nil_iff, List.mem_flatMap,
    Bool.not_eq_true', Bool.not_eq_false, List.contains_iff_mem, List.map_append, List.mem_append,
    List.mem_cons, List.not_mem_nil, or_false]
  rintro i ⟨e, he, rfl | rfl⟩
  · exact Or.inr (G.edges_declared g hg e he).1
  · exact Or.inr (G.edges_declared g hg e he).2

-- non-vacuity: a two-node graph with a tag nodelet, a numeric nodelet below it, one edge, a legend
example : G.OK ⟨escape [DQ], some (escape [BS], []), [⟨[], [⟨0, [], [], [⟨0, [], []⟩]⟩], []⟩, ⟨[], [], []⟩], [⟨1, 0, []⟩]⟩ :=
  { title := qsafeB_escape _
    legend := by
      intro p hp; cases hp
      exact ⟨qsafeB_escape _, by simp⟩
    nodes := by
      simp only [List.mem_cons, List.not_mem_nil, or_false, GNode.OK, GNodelet.OK, GNum.OK, forall_eq_or_imp,
        false_implies, implies_true, forall_eq, and_self]
    edgeAttrs := by simp
    edgeEnds := by simp }

/-- What makes a regenerated splice site acceptable: literals, numbers and escaped values
anywhere; outside quotes nothing else, except the caller-chosen node shape; inside quotes the
only unescaped value is the result of the caller-supplied label `Formatter`. -/
def siteOK (s : Gen.DotSites.Site) : Bool :=
  match s.cls with
  | .lit | .numeric => true
  | .escaped => s.quoted
  | .callback => s.quoted && s.fn == "addNode" && s.key == "label" && s.expr == "attrs.Formatter(&node.Info)"
  | .nodeattr => !s.quoted && s.key == "shape"
  | .raw => false

/-- **Every splice of a string into DOT text is escaped** (table regenerated from dotgraph.go). -/
theorem all_dot_sites_safe : Gen.DotSites.sites.all siteOK = true := by decide +kernel

/-- The regenerated table is not empty-handed: it covers the attributes that carry names
(guards against an extractor that silently stops seeing the emitters) and no other file of the
module emits DOT text.  (`Gen.DotSites.escapeAllMaps` records whether `escapeAllForDot` is in a
recognised "apply escapeForDot to every element" form; when it is not, only the harness — legend
lines with metacharacters — pins it.) -/
theorem dot_sites_cover :
    (["digraph", "label", "tooltip", "labeltooltip", "URL", "id"].all fun k =>
        Gen.DotSites.sites.any fun s => s.key == k && s.quoted && s.cls == .escaped) = true
    ∧ Gen.DotSites.otherEmitters = [] := by decide +kernel

/-! ## callgrind -/
open PV.Callgrind

/-- **Name compression**: feed any sequence of names (any bytes) through `callgrindName` with one
shared table, as `printCallgrind` does for `fn=`/`cfn=` (and `fl=`/`cfl=`, `ob=`); the checker
resolves every emitted token — `(n) name` definitions and bare `(n)` back-references alike — to
the single-line form of the name it stands for.  In particular every back-reference was defined
earlier, with that name. -/
theorem callgrind_backrefs_defined (names : List Callgrind.Bytes) :
    resolveAll [] (emitAll [] names).1 = .ok (names.map sanitize, mirror (emitAll [] names).2) :=
  resolveAll_emitAll WF.nil names

-- non-vacuity: a repeated name (back-reference), a name with a newline, a blank name
example : (emitAll [] [[0x61], [0x61], [0x61, 0x0a, 0x62], [0x20]]).1 =
    [[0x28, 0x31, 0x29, 0x20, 0x61], [0x28, 0x31, 0x29], [0x28, 0x32, 0x29, 0x20, 0x61, 0x20, 0x62], []] := by
  decide +kernel

/-- **Names are single lines that cannot be mistaken for a reference**: whatever bytes a name
consists of — in particular white space only, with or without line breaks — what `callgrindLine`
(line breaks to blanks first, leading blanks trimmed second: the order matters) hands to
`callgrindName` contains no newline and is empty (written as the empty name) or starts with a
non-blank byte. -/
theorem callgrind_name_single_line (name : Callgrind.Bytes) :
    Callgrind.NL ∉ sanitize name ∧ (sanitize name = [] ∨ ∃ b t, sanitize name = b :: t ∧ isBlank b = false) :=
  sanitize_single_line name

-- a blank-only name with a line break collapses to the empty name; an inner line break becomes a blank
example : sanitize [0x20, 0x0a, 0x09] = [] ∧ sanitize [0x0a, 0x61, 0x0a, 0x62] = [0x61, 0x20, 0x62] := by decide

/-- **Subposition compression**: for all 64-bit addresses, the token `callgrindAddress` emits for
`cur` after `prev` (`*`, `+n`, `-n` or absolute hex — whichever it picks) decodes, against the
corresponding subposition `prev` of the last cost line, to `cur`; without a previous line the
token is absolute. -/
theorem callgrind_positions_decode (prev cur : Nat) (hp : prev < two64) (hc : cur < two64) :
    decodeSub (some prev) (cgAddr (some prev) cur) = some cur ∧
    (∀ last, decodeSub last (cgAddr none cur) = some cur) :=
  ⟨decodeSub_cgAddr_some prev cur hp hc, fun last => decodeSub_cgAddr_none last cur hc⟩

example : cgAddr (some 0x1200) 0x1300 = [0x2b, 0x32, 0x35, 0x36] ∧ (0x1300 : Nat) < two64 := by decide +kernel

/-- KNOWN FINDING `C18/callgrind/calls-target-position` (golden files pin the output): the
statement "the `calls=` target decodes to the callee's address" is FALSE of `printCallgrind`,
which compresses the target against the PREVIOUS NODE's address (`prevInfo`) although the last
cost line is the current node's.  Witness (DESIGN §3): nodes at 0x1300, 0x1200, 0x1100 in this
order; while printing the node at 0x1200 (previous node 0x1300) a call to 0x1300 is written as
`*`, which a reader decodes against the last cost line, 0x1200. -/
theorem callgrind_calls_target_defect_witness :
    decodeSub (some 0x1200) (cgAddr (some 0x1300) 0x1300) = some 0x1200 ∧ (0x1200 : Nat) ≠ 0x1300 := by
  decide +kernel

/-- What does hold of the code as it is: the `calls=` target decodes correctly whenever the
previous node has the address of the current one (in particular for every granularity other
than `addresses`, where all addresses are 0), and for the first node (absolute form). -/
theorem callgrind_calls_target_partial (node callee : Nat) (hn : node < two64) (hc : callee < two64) :
    decodeSub (some node) (cgAddr (some node) callee) = some callee ∧
    decodeSub (some node) (cgAddr none callee) = some callee :=
  ⟨decodeSub_cgAddr_some node callee hn hc, decodeSub_cgAddr_none _ callee hc⟩

/-! ## HTML -/

/-- Sinks through which text may reach an HTTP response without html/template's contextual
escaping: the SVG produced by Graphviz (`dot -Tsvg`, which escapes labels itself), JSON from
`json.Marshal` (which escapes `<`, `>`, `&`) as a script value, the output of a template, plain
text errors (`http.Error` sets text/plain + nosniff), the protobuf download, redirects, and
delegation to another handler of the package. -/
def allowedSinkKinds : List String :=
  ["template.HTML(svg:dotToSvg)", "template.JS(json.Marshal)", "write:template-output", "http.Error",
   "profile.Write", "http.Redirect", "delegate:ServeHTTP", "delegate:handler"]

/-- **No other path to the page**: every trusted-type conversion and every write to a
ResponseWriter in the module (regenerated list) is of an allowed kind. -/
theorem html_sinks_allowed :
    (Gen.HtmlSinks.sinks.all fun s => allowedSinkKinds.contains s.kind) = true
    ∧ (Gen.HtmlSinks.sinks.any fun s => s.kind == "write:template-output") = true := by decide +kernel

end PV.Props.C18
