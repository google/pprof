import PprofVerif.Lemmas.SymFinal
/-!
# C12 — Symbolization only adds names; measurements are untouched

Property theorems only (helper lemmas: `Lemmas/Sym{Basic,Valid,Frame,Final}.lean`).  All theorems
are about `Sym.symbolize` (`Model/Symbolize.lean`), the executable model of
`Symbolizer.Symbolize` = mode parsing; `doLocalSymbolize`; `symbolz.Symbolize`; `Demangle`, and hold
for **every** profile, mode string, source table and for **every** behaviour of the plug-ins: the
object-file tool and the symbolz POST are arbitrary state machines (`ObjTool σ`, `Symz τ`, any
`σ τ`), `url.Parse`, the response-line parser and `demangle.Filter` are arbitrary functions.
The correspondence check (harness/c12.go) ties the model to the Go code on every run.
The model is the repaired behaviour (fixes/C12-*.patch).
-/
namespace PV.Props.C12
open PV PV.Sym

variable {σ τ : Type}

/-- **Frame condition.** Whatever the plug-ins answer: samples (count, order, values, labels,
location-id lists) and all header fields are unchanged; every location keeps id, mapping and
address, every mapping keeps id, start, limit, offset, file and build id, in table order; the
existing functions stay in place with their id, system name, file name and start line. Only lines
(with the folded flag), function names, new functions and the has-symbols flags can differ. -/
theorem symbolize_frame_condition (env : Env σ τ) (mode : Str) (sources : Sources) (p : Profile)
    (s : σ) (t : τ) :
    let q := (symbolize env mode sources p s t).profile
    q.samples = p.samples ∧ q.sampleType = p.sampleType ∧ q.defaultSampleType = p.defaultSampleType ∧
    q.comments = p.comments ∧ q.docURL = p.docURL ∧ q.dropFrames = p.dropFrames ∧
    q.keepFrames = p.keepFrames ∧ q.timeNanos = p.timeNanos ∧ q.durationNanos = p.durationNanos ∧
    q.periodType = p.periodType ∧ q.period = p.period ∧
    q.locations.map (fun l => (l.id, l.mappingID, l.address)) =
      p.locations.map (fun l => (l.id, l.mappingID, l.address)) ∧
    q.mappings.map (fun m => (m.id, m.start, m.limit, m.offset, m.file, m.buildID)) =
      p.mappings.map (fun m => (m.id, m.start, m.limit, m.offset, m.file, m.buildID)) ∧
    ∃ extra, q.functions.map (fun f => (f.id, f.systemName, f.filename, f.startLine)) =
      p.functions.map (fun f => (f.id, f.systemName, f.filename, f.startLine)) ++ extra := by
  intro q
  obtain ⟨hq, hmaps, hlocs⟩ := symbolize_frame env mode sources p s t
  obtain ⟨extra, h, hfs, _, hkey, _⟩ := symbolize_functions env mode sources p s t
  have hq : q = _ := hq
  refine hq ▸ ⟨rfl, rfl, rfl, rfl, rfl, rfl, rfl, rfl, rfl, rfl, rfl, ?_, ?_, ?_⟩
  · exact (hlocs.map_eq fun l l' r => by rw [r.id, r.mappingID, r.address]).symm
  · exact (hmaps.map_eq fun m m' r => by rw [r.id, r.start, r.limit, r.offset, r.file, r.buildID]).symm
  · refine ⟨extra.map fun f => (f.id, f.systemName, f.filename, f.startLine), ?_⟩
    have hk : (fun f => (f.id, f.systemName, f.filename, f.startLine)) ∘ h =
        fun f => (f.id, f.systemName, f.filename, f.startLine) := funext fun f => by
      obtain ⟨a, b, c, d⟩ := hkey f
      simp only [Function.comp, a, b, c, d]
    show List.map _ q.functions = _
    rw [hfs, List.map_map, hk, List.map_append]

/-- **Has-symbols flags only go from false to true**, mapping by mapping. -/
theorem symbolize_flags_monotone (env : Env σ τ) (mode : Str) (sources : Sources) (p : Profile)
    (s : σ) (t : τ) (i : Nat) (m : Mapping) (hm : p.mappings[i]? = some m) :
    ∃ m', (symbolize env mode sources p s t).profile.mappings[i]? = some m' ∧
      (m.hasFunctions = true → m'.hasFunctions = true) ∧ (m.hasFilenames = true → m'.hasFilenames = true) ∧
      (m.hasLineNumbers = true → m'.hasLineNumbers = true) ∧
      (m.hasInlineFrames = true → m'.hasInlineFrames = true) := by
  obtain ⟨m', hm', r⟩ := (symbolize_frame env mode sources p s t).2.1.get? i hm
  exact ⟨m', hm', r.hasFunctions, r.hasFilenames, r.hasLineNumbers, r.hasInlineFrames⟩

/-- **The result is a valid profile with unique ids** (the re-check of fetch.go:117 cannot fail),
provided the input is valid and the function-id counter did not overflow uint64 during the run
(`wrapped` is the model's ghost flag for `maxFunctionID++` wrapping to 0; see
`symbolize_not_wrapped` for a sufficient condition on the input). -/
theorem symbolize_valid (env : Env σ τ) (mode : Str) (sources : Sources) (p : Profile) (s : σ) (t : τ)
    (hv : p.Valid) (hw : (symbolize env mode sources p s t).wrapped = false) :
    (symbolize env mode sources p s t).profile.Valid := by
  cases hp : parseMode mode with
  | none => rw [(symbolize_none env mode sources p s t hp).1]; exact hv
  | some o =>
    have hs := symbolize_some env mode sources p s t o hp
    rw [hs.2] at hw
    rw [hs.1]
    have hr := symbolizeTables_rel env o sources p s t
    have hgood : Good (symbolizeTables env o sources p s t).2.1.functions :=
      symbolizeTables_inv tabInv_good env o sources p s t (fun _ => good_of_valid p hv) hw
    obtain ⟨h, hfin, hkey, _⟩ := finalFunctions_map env o sources p s t
    rw [hfin]
    exact valid_replace p _ _ _ hv (hr.1.mono fun _ _ r => r.1.id)
      (hr.2.1.mono fun _ _ r => ⟨r.id, r.mappingID⟩) (hgood.map fun f => (hkey f).1)
      ((hr.2.2 (locsIn_of_valid p hv)).map fun f => (hkey f).1)

/-- The hypothesis of `symbolize_valid` holds whenever the largest function id of the input plus
the number of functions added by the run fits a uint64 (the repaired code allocates above the
largest id in use; ids next to 2⁶⁴ are the one case it does not handle). -/
theorem symbolize_not_wrapped (env : Env σ τ) (mode : Str) (sources : Sources) (p : Profile) (s : σ) (t : τ)
    (h : maxFuncID p.functions +
      ((symbolize env mode sources p s t).profile.functions.length - p.functions.length) < two64) :
    (symbolize env mode sources p s t).wrapped = false := by
  cases hp : parseMode mode with
  | none => exact (symbolize_none env mode sources p s t hp).2
  | some o =>
    have hs := symbolize_some env mode sources p s t o hp
    rw [hs.2]
    obtain ⟨_, hfin, _⟩ := finalFunctions_map env o sources p s t
    obtain ⟨k, hk, _, _, hw⟩ := symbolizeTables_winv env o sources p s t
    rw [hs.1] at h
    simp only [hfin, List.length_map, hk, Nat.add_sub_cancel_left] at h
    exact hw h

/-- **Mappings that already carry function names are left alone unless force is requested**: when
the mode does not request force, such a mapping is returned unchanged (flags included), and every
location of it is returned unchanged (same lines, same folded flag). "Requests force" is
`(parseMode mode).force`: a `force` option or `demangle=full|none|templates` (also the bare tokens
`full` and `templates`, which `strings.TrimPrefix` leaves as they are). -/
theorem symbolize_respects_has_symbols (env : Env σ τ) (mode : Str) (sources : Sources) (p : Profile)
    (s : σ) (t : τ) (o : Opts) (hp : parseMode mode = some o) (hforce : o.force = false) :
    let q := (symbolize env mode sources p s t).profile
    (∀ (i : Nat) (m : Mapping), p.mappings[i]? = some m → m.hasFunctions = true → q.mappings[i]? = some m) ∧
    (∀ (i : Nat) (l : Location), p.locations[i]? = some l →
        (∀ m ∈ p.mappings, m.id = l.mappingID → m.hasFunctions = true) → q.locations[i]? = some l) := by
  intro q
  have hq : q = _ := (symbolize_some env mode sources p s t o hp).1
  rw [hq]
  have hr := symbolizeTables_rel env o sources p s t
  exact ⟨fun i m hm hf => hr.1.get?_eq hm fun _ r => r.2 fun ht => ht ⟨hforce, hf⟩,
    fun i l hl hall => hr.2.1.get?_eq hl fun _ r =>
      r.unchanged fun ⟨m, hm, e, ht⟩ => ht ⟨hforce, hall m hm e⟩⟩

/-- When the mode disables the remote step (`local`, `fastlocal`), any of HasFunctions,
HasFilenames, HasLineNumbers protects a mapping and its locations (symbolizer.go:159). -/
theorem symbolize_respects_has_symbols_local (env : Env σ τ) (mode : Str) (sources : Sources)
    (p : Profile) (s : σ) (t : τ) (o : Opts) (hp : parseMode mode = some o) (hforce : o.force = false)
    (hremote : o.remote = false) :
    let q := (symbolize env mode sources p s t).profile
    let carries := fun m : Mapping => m.hasFunctions = true ∨ m.hasFilenames = true ∨ m.hasLineNumbers = true
    (∀ (i : Nat) (m : Mapping), p.mappings[i]? = some m → carries m → q.mappings[i]? = some m) ∧
    (∀ (i : Nat) (l : Location), p.locations[i]? = some l →
        (∀ m ∈ p.mappings, m.id = l.mappingID → carries m) → q.locations[i]? = some l) := by
  intro q carries
  have hq : q = _ := (symbolize_some env mode sources p s t o hp).1
  rw [hq]
  have hr := symbolizeTables_rel_local env o sources p s t hremote
  exact ⟨fun i m hm hf => hr.1.get?_eq hm fun _ r => r.2 fun ht => ht ⟨hforce, hf⟩,
    fun i l hl hall => hr.2.get?_eq hl fun _ r =>
      r.unchanged fun ⟨m, hm, e, ht⟩ => ht ⟨hforce, hall m hm e⟩⟩

/-- **Driver level** (`fetchProfiles`: Symbolize, RemoveUninteresting, unsourceMappings): for a
profile without a drop_frames expression the fetched-and-symbolized profile has exactly the
samples of the input (count, order, values, labels, location ids), every location keeps id,
mapping and address, every mapping keeps id, start, limit and offset — nothing between fetching
and reporting sums, drops or renumbers measurements, whatever the plug-ins answer. (With a
drop_frames expression frames are pruned by name, which is the documented purpose of names.) -/
theorem fetch_symbolize_measurements_untouched (env : Env σ τ) (prune : Profile → Profile)
    (isAbsURL : Str → Bool) (mode : Str) (sources : Sources) (p : Profile) (s : σ) (t : τ) (q : Profile)
    (hd : p.dropFrames = []) (h : fetchStep env prune isAbsURL mode sources p s t = some q) :
    q.samples = p.samples ∧ q.sampleType = p.sampleType ∧
    q.locations.map (fun l => (l.id, l.mappingID, l.address)) =
      p.locations.map (fun l => (l.id, l.mappingID, l.address)) ∧
    q.mappings.map (fun m => (m.id, m.start, m.limit, m.offset)) =
      p.mappings.map (fun m => (m.id, m.start, m.limit, m.offset)) := by
  obtain ⟨hq, hmaps, hlocs⟩ := symbolize_frame env mode sources p s t
  rw [fetchStep_eq env mode sources p s t prune isAbsURL q hd h]
  refine ⟨(congrArg Profile.samples hq :), (congrArg Profile.sampleType hq :), ?_, ?_⟩
  · exact (hlocs.map_eq fun l l' r => by rw [r.id, r.mappingID, r.address]).symm
  · show List.map _ (unsourceMappings isAbsURL _) = _
    rw [unsourceMappings_map _ _ fun _ => rfl]
    exact (hmaps.map_eq fun m m' r => by rw [r.id, r.start, r.limit, r.offset]).symm

/-- Mode `none`/`no` returns the profile as it is. -/
theorem symbolize_none_identity (env : Env σ τ) (mode : Str) (sources : Sources) (p : Profile)
    (s : σ) (t : τ) (h : parseMode mode = none) : (symbolize env mode sources p s t).profile = p :=
  (symbolize_none env mode sources p s t h).1

/-- **`adjust`** (symbolz.go:184) computes `addr + offset` exactly and signals overflow exactly when
the sum leaves the uint64 range — for every uint64 address and int64 offset, `MinInt64` included. -/
theorem adjust_spec (addr : Nat) (off : Int) (ha : addr < two64)
    (hlo : -(two63 : Int) ≤ off) (hhi : off < (two63 : Int)) :
    adjust addr off =
      if 0 ≤ (addr : Int) + off ∧ (addr : Int) + off < (two64 : Int)
      then some ((addr : Int) + off).toNat else none :=
  adjust_eq addr off ha hlo hhi

/-- **`removeMatching`** only deletes bytes (the result is a subsequence of the name), is the
identity on names without brackets, and drops a bracket group without nested brackets together
with its brackets, continuing after it. -/
theorem removeMatching_spec (a b : UInt8) (hab : a ≠ b) :
    (∀ s, (removeMatching s a b).Sublist s) ∧
    (∀ s, a ∉ s → b ∉ s → removeMatching s a b = s) ∧
    (∀ pre mid post, a ∉ pre → b ∉ pre → a ∉ mid → b ∉ mid →
      removeMatching (pre ++ a :: (mid ++ b :: post)) a b = pre ++ removeMatching post a b) :=
  ⟨fun s => removeMatching_sublist s a b, fun s ha hb => removeMatching_noop s a b ha hb,
   fun pre mid post h1 h2 h3 h4 => removeMatching_group pre mid post a b hab h1 h2 h3 h4⟩

/-- **Demangling never replaces a non-empty name by an empty one**, assuming `demangle.Filter`
returns a non-empty string for a non-empty argument: for every function, force flag and
demangler mode; id, system name, file name and start line are unchanged. -/
theorem demangle_nonempty (filter : List DOpt → Str → Str)
    (hf : ∀ o s, s ≠ [] → filter o s ≠ []) (force : Bool) (dm : DMode) (fs : List Function)
    (i : Nat) (f : Function) (hi : fs[i]? = some f) (hn : f.name ≠ []) :
    ∃ g, (demangle filter force dm fs)[i]? = some g ∧ g.name ≠ [] ∧ g.id = f.id ∧
      g.systemName = f.systemName ∧ g.filename = f.filename ∧ g.startLine = f.startLine := by
  refine ⟨demangleOne filter force dm f, ?_, demangleOne_name_ne_nil filter hf force dm f hn,
    demangleOne_frame filter force dm f⟩
  simp [demangle, hi]

/-- … and through the whole of `Symbolize`: an existing function with a non-empty name keeps a
non-empty name, and a function created by symbolization (its name is the non-empty name the
plug-in reported) does not end up with an empty name. -/
theorem symbolize_names_nonempty (env : Env σ τ) (hf : ∀ o s, s ≠ [] → env.filter o s ≠ [])
    (mode : Str) (sources : Sources) (p : Profile) (s : σ) (t : τ) :
    let q := (symbolize env mode sources p s t).profile
    (∀ (i : Nat) (f : Function), p.functions[i]? = some f → f.name ≠ [] →
        ∃ g : Function, q.functions[i]? = some g ∧ g.name ≠ []) ∧
    (∀ (i : Nat) (g : Function), p.functions.length ≤ i → q.functions[i]? = some g →
        g.systemName ≠ [] → g.name ≠ []) := by
  intro q
  obtain ⟨extra, h, hfs, hex, hkey, hne⟩ := symbolize_functions env mode sources p s t
  have hq : q.functions = _ := hfs
  rw [hq]
  constructor
  · intro i f hi hn
    have hlt : i < p.functions.length := (List.getElem?_eq_some_iff.mp hi).1
    refine ⟨h f, ?_, hne hf f hn⟩
    rw [List.getElem?_map, List.getElem?_append_left hlt, hi]
    rfl
  · intro i g hi hg hsys
    rw [List.getElem?_map, List.getElem?_append_right hi] at hg
    obtain ⟨f0, hf0, rfl⟩ := Option.map_eq_some_iff.mp hg
    rw [(hkey f0).2.1] at hsys
    exact hne hf f0 (hex f0 (List.mem_of_getElem? hf0) ▸ hsys)

/-! ### non-vacuity and the two defects of the pinned tree -/

/-- an object tool that opens every file and reports one frame `<unknown>` for every address. -/
def exTool : ObjTool Unit where
  openFile _ _ := ((), .ok ())
  buildID _ := ((), [])
  sourceLine _ a := ((), .ok [{ func := b!"<unknown>", file := b!"a.c", line := Int.ofNat a, column := 0, startLine := 1 }])
  close _ := ()

def exEnv : Env Unit Unit where
  tool := exTool
  isSourceURL _ := false
  symz := { symbolzURL := fun _ => [], post := fun _ _ _ => ((), .err "none"), parseLine := fun _ => none }
  filter _ s := s

/-- a valid profile with a sparse function id (5), a symbolized mapping (1) and an unsymbolized one (2). -/
def exProfile : Profile :=
  { (default : Profile) with
    sampleType := [{ typ := b!"cpu", unit := b!"ns" }]
    samples := [{ locationIDs := [1, 2], values := [7], label := [(b!"k", [b!"v"])], numLabel := [], numUnit := [] }]
    mappings := [{ id := 1, start := 4096, limit := 8192, offset := 0, file := b!"/bin/a", buildID := [],
                   hasFunctions := true, hasFilenames := false, hasLineNumbers := false, hasInlineFrames := false },
                 { id := 2, start := 8192, limit := 12288, offset := 0, file := b!"/lib/b.so", buildID := [],
                   hasFunctions := false, hasFilenames := false, hasLineNumbers := false, hasInlineFrames := false }]
    locations := [{ id := 1, mappingID := 1, address := 4100, lines := [{ functionID := 5, line := 3, column := 0 }], isFolded := false },
                  { id := 2, mappingID := 2, address := 8200, lines := [], isFolded := false }]
    functions := [{ id := 5, name := b!"main", systemName := b!"main", filename := b!"m.c", startLine := 1 }] }

-- hypotheses of `symbolize_valid` / `symbolize_respects_has_symbols` / `symbolize_names_nonempty` hold for
-- a run that really symbolizes: mapping 2 gets a new function (id 6, above the sparse id 5) whose
-- name `<unknown>` survives demangling; mapping 1 and its location are untouched
example :
    exProfile.Valid ∧ (symbolize exEnv b!"local" [] exProfile () ()).wrapped = false ∧
    (parseMode b!"local").map (fun o => (o.force, o.remote)) = some (false, false) ∧
    (symbolize exEnv b!"local" [] exProfile () ()).profile.Valid ∧
    (symbolize exEnv b!"local" [] exProfile () ()).profile.functions.map (fun f => (f.id, f.name)) =
      [(5, b!"main"), (6, b!"<unknown>")] ∧
    (symbolize exEnv b!"local" [] exProfile () ()).profile.locations.map (fun l => l.lines.map (·.functionID)) =
      [[5], [6]] ∧
    (symbolize exEnv b!"local" [] exProfile () ()).profile.mappings.map (·.hasFunctions) = [true, true] := by
  decide +kernel

-- `adjust_spec`: the extreme arguments of symbolz_test.go's table
example : adjust 18446744073709551615 1 = none ∧ adjust 9223372036854775808 (-9223372036854775808) = some 0 ∧
    adjust 0 (-1) = none ∧ adjust 9223372036854775808 9223372036854775807 = some 18446744073709551615 := by
  decide +kernel

-- defect #11 of the pinned tree: stripping can delete the whole name; the repaired heuristic keeps it
example : removeMatching b!"<unknown>" 60 62 = [] ∧
    heuristicName (dmodeOptions .dflt) b!"<unknown>" = b!"<unknown>" := by decide +kernel

-- `removeMatching_spec` instance: "foo::baz<double>(double)" → "foo::baz<double>"
example : removeMatching b!"foo::baz<double>(double)" 40 41 = b!"foo::baz<double>" := by decide +kernel

-- mode parsing: which modes request force (hypothesis of `symbolize_respects_has_symbols`)
example : (parseMode b!"local").map (·.force) = some false ∧
    (parseMode b!"remote:FORCE").map (·.force) = some true ∧
    (parseMode b!"demangle=templates").map (·.force) = some true ∧
    (parseMode b!"fastlocal").map (·.remote) = some false ∧ parseMode b!"local:none" = none := by decide +kernel

-- defect #10 of the pinned tree: with an existing function id 5 and `len+1` allocation five new
-- functions would reach id 5 again; the repaired allocation continues above the largest id
example : ((FTab.rescan { functions := [{ id := 5, name := [], systemName := [], filename := [], startLine := 0 }],
                          top := 0, wrapped := false }).alloc b!"f" [] 0).2 = 6 := by decide +kernel

-- `fetch_symbolize_measurements_untouched`: its hypotheses hold for a fetch that really symbolizes
example : exProfile.dropFrames = [] ∧
    ((fetchStep exEnv id (fun _ => false) b!"local" [] exProfile () ()).map
      (fun q => (q.samples.length, q.functions.length))) = some (1, 2) := by decide +kernel

/-! #### mapping file names through the fetch path — known finding
`C12/driver/tables/url-like-file-without-buildid-cleared`

Full statement (what "only adds names" asks for; FALSE of the code as it is, see the witness):

    fetchStep … p = some q → p.dropFrames = [] →
      q.mappings.map (fun m => (m.file, m.buildID)) = p.mappings.map (fun m => (m.file, m.buildID))
      -- up to the documented substitution: a mapping with neither build id nor file that
      -- collectMappingSources filled with the source URL gets no file back

`unsourceMappings` clears the file of EVERY mapping without build id whose file parses as an
absolute URL; it cannot tell the source URL it is meant to remove from a genuine name such as
`C:\svc\server.exe`, `jar:file:/a.jar!/x.so` or `x:y`. Proved: the statement under the hypothesis
that excludes such mappings; and a witness that it fails without it. -/

theorem fetch_keeps_mapping_files_partial (env : Env σ τ) (prune : Profile → Profile)
    (isAbsURL : Str → Bool) (mode : Str) (sources : Sources) (p : Profile) (s : σ) (t : τ) (q : Profile)
    (hd : p.dropFrames = [])
    (hx : ∀ m ∈ p.mappings, m.buildID = [] → isAbsURL m.file = false)
    (h : fetchStep env prune isAbsURL mode sources p s t = some q) :
    q.mappings.map (fun m => (m.file, m.buildID)) = p.mappings.map (fun m => (m.file, m.buildID)) := by
  obtain ⟨_, hmaps, _⟩ := symbolize_frame env mode sources p s t
  rw [fetchStep_eq env mode sources p s t prune isAbsURL q hd h]
  have key : ∀ m' ∈ (symbolize env mode sources p s t).profile.mappings,
      m'.buildID = [] → isAbsURL m'.file = false := by
    intro m' hm' hb
    obtain ⟨m, hm, r⟩ := hmaps.mem_right hm'
    rw [r.file]
    exact hx m hm (r.buildID ▸ hb)
  show List.map _ (unsourceMappings isAbsURL _) = _
  rw [unsourceMappings_eq_self isAbsURL _ key]
  exact (hmaps.map_eq fun m m' r => by rw [r.file, r.buildID]).symm

/-- the full statement fails: a valid profile whose only mapping has no build id and the file
name `x:y` (an absolute URL for `url.Parse`) comes back without file name — with mode `none`, i.e.
without any symbolization at all. -/
theorem fetch_clears_url_like_file_witness :
    ∃ (p q : Profile), p.Valid ∧ p.dropFrames = [] ∧
      fetchStep (σ := Unit) (τ := Unit)
        { tool := { openFile := fun _ _ => ((), .err "none"), buildID := fun _ => ((), []),
                    sourceLine := fun _ _ => ((), .err "none"), close := fun _ => () },
          isSourceURL := fun _ => false,
          symz := { symbolzURL := fun _ => [], post := fun _ _ _ => ((), .err "none"), parseLine := fun _ => none },
          filter := fun _ s => s }
        id (fun f => f == b!"x:y") b!"none" [] p () () = some q ∧
      p.mappings.map (fun m => (m.file, m.buildID)) = [(b!"x:y", [])] ∧
      q.mappings.map (fun m => (m.file, m.buildID)) = [([], [])] :=
  ⟨{ (default : Profile) with
      mappings := [{ id := 1, start := 4096, limit := 8192, offset := 0, file := b!"x:y", buildID := [],
                     hasFunctions := false, hasFilenames := false, hasLineNumbers := false, hasInlineFrames := false }] },
   { (default : Profile) with
      mappings := [{ id := 1, start := 4096, limit := 8192, offset := 0, file := [], buildID := [],
                     hasFunctions := false, hasFilenames := false, hasLineNumbers := false, hasInlineFrames := false }] },
   by decide +kernel⟩

-- hypotheses of `fetch_keeps_mapping_files_partial` are satisfiable by a run that symbolizes
example : exProfile.dropFrames = [] ∧ (∀ m ∈ exProfile.mappings, m.buildID = [] → (fun _ : Str => false) m.file = false) ∧
    ((fetchStep exEnv id (fun _ => false) b!"local" [] exProfile () ()).map
      (fun q => q.mappings.map (·.file))) = some [b!"/bin/a", b!"/lib/b.so"] := by
  refine ⟨by decide, fun _ _ _ => rfl, by decide +kernel⟩

end PV.Props.C12
