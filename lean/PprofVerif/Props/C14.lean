import PprofVerif.Lemmas.LegacyLineEnds
import PprofVerif.Lemmas.LegacyFinish
import PprofVerif.Lemmas.LegacyPb
import PprofVerif.Model.LegacyPb
/-!
# C14 — legacy text and binary profiles convert with the documented values

For every legacy format: a document type, a printer (`printX`, with the variation the Go
parsers tolerate: comment and blank lines, header variants, spacing, zero padding, a trailing
memory map in `/proc/maps` or brief form), the documented meaning `expectedX`, and a Lean parser
`parseX` mirroring the Go parser (`Model/Legacy*.lean`).  The theorems say

    parseX (printX d) = ok (expectedX d)      for ALL well-formed documents d

so the documented conversion is what the (model of the) parser computes on every printable
input.  The correspondence check ties `parseX` and `expectedX` to the real `profile.ParseData`
on every run.  Float unsampling (`ScaleFn`, `CycFn`) is a parameter: the theorems hold for
every instance.  `finish`/`javaAssemble` (location table, mapping heuristics) are shared by
`expectedX` and `parseX`; `sample_addresses_resolve` shows that the ids they hand out resolve to
the documented addresses.  Helper lemmas live in `Lemmas/Legacy*.lean`.
-/
namespace PV.Props.C14
open PV PV.Legacy

/-! ### number renderings -/

/-- `%d` then reading it back (`strconv.ParseInt(_, 10, 64)` on the captured digits). -/
theorem dec_print_parse (n : Nat) (h : n < two63) : parseI64 (dec n) = some n := parseI64_dec h

/-- `%d` read back with base 0 (`strconv.ParseInt(_, 0, 64)`): no leading zero, so never octal. -/
theorem dec_print_parse_base0 (n : Nat) (h : n < two63) : parseI64Base0 (dec n) = some n := parseI64Base0_dec h

/-- `0x%0<w>x` then reading it back (`strconv.ParseUint(_, 0, 64)`), for every padding width. -/
theorem hex_print_parse (w n : Nat) (h : n < two64) : parseU64Base0 (hex0x w n) = some n := parseU64Base0_hex0x h

/-- a printed stack ` 0x… 0x…` is read back as the same addresses (`parseHexAddresses`). -/
theorem addrs_print_parse (w : Nat) (as : List Nat) (h : ∀ a ∈ as, a < two64) :
    parseHexAddresses (printAddrs w as) = some as := parseHexAddresses_printAddrs w as h

/-- a printed memory-map entry (either form, any spacing) is read back as the mapping it stands
for; non-executable entries are skipped. -/
theorem mapEntry_print_parse (e : MapEntry) (h : e.wf = true) :
    parseMappingEntry e.print = (match e.mapping with | some m => .mapping m | none => .skip) :=
  parseMappingEntry_print e h

/-- a printed memory-map section — entries interleaved with comment/blank lines, attribute lines
`name=value`, entries whose file is written `$name<suffix>`, any line behind a glog prefix
`… file.cc:123] ` — gives exactly the mappings of its executable entries, in order, with every
`$name` standing for the value assigned to `name` earlier in the section. -/
theorem mapSection_print_parse (m : MapSection) (h : m.wf = true) : parseProcMaps m.bodyLines = m.mappings :=
  parseProcMaps_bodyLines m h

/-- `removeLoggingInfo`: a glog prefix `<text>:<line>] ` (text without brackets) is cut off, whatever follows. -/
theorem log_prefix_removed (p : LogPrefix) (hp : p.wf = true) (rest : Str) : removeLoggingInfo (p.print ++ rest) = rest :=
  p.remove hp rest

/-- the `$attr` rule on its own: after `name=value`, an entry whose file is written `$name<suffix>`
is the entry with file `value<suffix>` (both lines may carry a glog prefix). -/
theorem map_attr_reference_rule (log1 log2 : Option LogPrefix) (indent : Nat) (name value suffix : Str) (spaced : Bool)
    (e : MapEntry)
    (h : (MapSection.mk [([], .attr log1 indent name spaced value), ([], .entryRef log2 e name suffix)] []).wf = true) :
    parseProcMaps [(MapLine.attr log1 indent name spaced value).print, (MapLine.entryRef log2 e name suffix).print]
      = (e.withFile (value ++ suffix)).mapping.toList :=
  (parseProcMaps_bodyLines _ h).trans (MapSection.mappings_attr_ref [] [] [] log1 log2 indent name value suffix spaced e)

/-! ### one theorem per format -/

/-- Go count profiles (goroutine, threadcreate, …). -/
theorem parseCount_printCount (d : CountDoc) (h : d.wf = true) :
    parseGoCount (printCount d) = .ok (expectedCount d) := parseGoCount_printCount d h

/-- Heap profiles (heap, heap_v2, heapz_v2, heapprofile, growth[z], fragmentation[z]). -/
theorem parseHeap_printHeap (scale : ScaleFn) (d : HeapDoc) (h : d.wf = true) :
    parseHeap scale (printHeap d) = .ok (expectedHeap scale d) := Legacy.parseHeap_printHeap scale d h

/-- Contention / mutex profiles. -/
theorem parseContention_printContention (cyc : CycFn) (d : ContDoc) (h : d.wf = true) :
    parseContention cyc (printContention d) = .ok (expectedContention cyc d) :=
  Legacy.parseContention_printContention cyc d h

/-- Threadz profiles. -/
theorem parseThread_printThread (d : ThreadDoc) (h : d.wf = true) :
    parseThread (printThread d) = .ok (expectedThread d) := Legacy.parseThread_printThread d h

/-- Binary CPU profiles, all four word layouts (the decoders tried before the right one reject
the header). -/
theorem parseCpu_printCpu (d : CpuDoc) (h : d.wf = true) : parseCPU (printCpu d) = .ok (expectedCpu d) :=
  parseCPU_printCpu d h

/-- Binary Java CPU profiles (third header word 1), all four word layouts: values
`[count, count·period·1000]`, addresses as in the file (no adjustment, no signal-frame or
duplicate-leaf removal), the trailer's function/file/line for the addresses it names, all
addresses cleared, CPU frame filters. -/
theorem parseJavaCpu_printJavaCpu (d : JavaCpuDoc) (h : d.wf = true) :
    parseCPU (printJavaCpu d) = .ok (expectedJavaCpu d) := parseCPU_printJavaCpu d h

/-- Java heapz / contentionz profiles. -/
theorem parseJava_printJava (scale : ScaleFn) (d : JavaDoc) (h : d.wf = true) :
    parseJavaProfile scale (printJava d) = .ok (expectedJava scale d) := Legacy.parseJava_printJava scale d h

/-! ### line endings and document termination

The printers above terminate every line with `\n`.  `renderLines crlf noFinal ls` renders the same
lines with `\r\n` on an arbitrary subset of them and, optionally, no terminator after the last one;
the conversion is the same for every such rendering.  (Hypothesis `hlast`: an unterminated EMPTY
last line is no line for `bufio.Scanner`; the printers' last line is empty only when it is a blank
filler.)  Java heapz/contentionz documents and material after the final terminator (blank lines,
blanks, NUL) are tied by correspondence only. -/

/-- `bufio.ScanLines` reads the lines back under every mixture of `\n` / `\r\n` and with or without
a final terminator. -/
theorem lines_any_termination (cs : List Bool) (noFinal : Bool) (ls : List Str) (h : ∀ l ∈ ls, LineOK l)
    (hlast : noFinal = true → ls.getLast? ≠ some []) : splitLines (renderLines cs noFinal ls) = ls :=
  splitLines_renderLines cs noFinal ls h hlast

theorem parseCount_any_termination (cs : List Bool) (nf : Bool) (d : CountDoc) (h : d.wf = true)
    (hlast : nf = true → d.lines.getLast? ≠ some []) :
    parseGoCount (renderLines cs nf d.lines) = .ok (expectedCount d) := parseGoCount_renderLines cs nf d h hlast

theorem parseHeap_any_termination (scale : ScaleFn) (cs : List Bool) (nf : Bool) (d : HeapDoc) (h : d.wf = true)
    (hlast : nf = true → d.lines.getLast? ≠ some []) :
    parseHeap scale (renderLines cs nf d.lines) = .ok (expectedHeap scale d) := parseHeap_renderLines scale cs nf d h hlast

theorem parseContention_any_termination (cyc : CycFn) (cs : List Bool) (nf : Bool) (d : ContDoc) (h : d.wf = true)
    (hlast : nf = true → d.lines.getLast? ≠ some []) :
    parseContention cyc (renderLines cs nf d.lines) = .ok (expectedContention cyc d) :=
  parseContention_renderLines cyc cs nf d h hlast

theorem parseThread_any_termination (cs : List Bool) (nf : Bool) (d : ThreadDoc) (h : d.wf = true)
    (hlast : nf = true → d.lines.getLast? ≠ some []) :
    parseThread (renderLines cs nf d.lines) = .ok (expectedThread d) := parseThread_renderLines cs nf d h hlast

/-- binary CPU profiles: any termination of the memory map that follows the end marker -/
theorem parseCpu_any_termination (cs : List Bool) (nf : Bool) (d : CpuDoc) (h : d.wf = true)
    (hlast : nf = true → ∀ m, d.map = some m → m.bodyLines.getLast? ≠ some []) :
    parseCPU (printCpuWith cs nf d) = .ok (expectedCpu d) := parseCPU_printCpuWith cs nf d h hlast

/-- `parseJavaLocations` (`ReadString('\n')` + `TrimSpace`) reads the same location lines under every
line termination; in particular an unterminated last line is still processed (seeded change C14-p). -/
theorem javaTrailer_any_termination (cs : List Bool) (nf : Bool) (ls : List Str) (h : ∀ l ∈ ls, LineOK l) :
    javaLocLoop (javaLocLines (renderLines cs nf ls)) = javaLocLoop ls := javaLocLines_renderLines cs nf ls h

/-- binary Java CPU profiles: any termination of the trailer, no side condition -/
theorem parseJavaCpu_any_termination (cs : List Bool) (nf : Bool) (d : JavaCpuDoc) (h : d.wf = true) :
    parseCPU (printJavaCpuWith cs nf d) = .ok (expectedJavaCpu d) := parseCPU_printJavaCpuWith cs nf d h

-- the renderings differ from the standard one: CRLF on the first line, last line unterminated
example : renderLines [true] true [asc "a", asc "b"] = asc "a\r\nb" ∧ renderLines [] false [asc "a", asc "b"] = unlines [asc "a", asc "b"] := by
  decide +kernel

/-! ### `ParseData` level (protobuf decoder first, then the chain of legacy parsers)

Full statement of the property for a format X:
`parseDataReal scale cyc (printX d) = ok (expectedX d)` where `parseDataReal` is `ParseData` with the
codec model `Codec.parseUncompressed` as the protobuf decoder.

* It is FALSE on the pinned tree for binary CPU documents whose bytes also decode as a protobuf
  message (known finding `C14/cpu/taken-for-protobuf`): `parseData_cpu_shadowed_by_protobuf` is the
  model-level witness (the corpus input, evaluated by the kernel).
* It is PROVED without any hypothesis for: little-endian binary CPU profiles of both flavours
  (the header `0 3 …` reads as field 0 with wire type 3, which the decoder rejects), heap,
  contention/mutex and Java heapz/contentionz documents (their first bytes `hea…`/`---…` read as
  a field with the wrong wire type).
* For every format it is proved for an ARBITRARY decoder `pb` under the hypothesis that `pb`
  rejects the document with an error other than errNoData/errConcatProfile (`…_partial`); this is
  the form that covers big-endian CPU, count and threadz documents, whose first bytes do not
  determine what the decoder does.

In each case the statement includes that every parser tried EARLIER in `parseLegacy` answers
`errUnrecognized` (not another error) on the printed document. -/

/-- binary CPU documents through the whole dispatch, unless the protobuf decoder takes them -/
theorem parseData_printCpu_partial (pb : Str → Outcome Profile) (scale : ScaleFn) (cyc : CycFn) (d : CpuDoc)
    (h : d.wf = true) (hpb : PbRejects (pb (printCpu d))) :
    parseData pb scale cyc (printCpu d) = .ok (expectedCpu d) :=
  (parseData_of_pb_rejects pb scale cyc _ hpb).trans (parseLegacy_printCpu scale cyc d h)

/-- binary Java CPU documents through the whole dispatch -/
theorem parseData_printJavaCpu_partial (pb : Str → Outcome Profile) (scale : ScaleFn) (cyc : CycFn) (d : JavaCpuDoc)
    (h : d.wf = true) (hpb : PbRejects (pb (printJavaCpu d))) :
    parseData pb scale cyc (printJavaCpu d) = .ok (expectedJavaCpu d) :=
  (parseData_of_pb_rejects pb scale cyc _ hpb).trans (parseLegacy_printJavaCpu scale cyc d h)

/-- heap documents through the whole dispatch (`parseCPU` answers "unrecognized" on text) -/
theorem parseData_printHeap_partial (pb : Str → Outcome Profile) (scale : ScaleFn) (cyc : CycFn) (d : HeapDoc)
    (h : d.wf = true) (hpb : PbRejects (pb (printHeap d))) :
    parseData pb scale cyc (printHeap d) = .ok (expectedHeap scale d) :=
  (parseData_of_pb_rejects pb scale cyc _ hpb).trans (parseLegacy_printHeap scale cyc d h)

/-- count documents: `parseCPU` and `parseHeap` answer "unrecognized" (the header
`<name> profile: total <n>` cannot be read as a `heap profile:` header whatever the name) -/
theorem parseData_printCount_partial (pb : Str → Outcome Profile) (scale : ScaleFn) (cyc : CycFn) (d : CountDoc)
    (h : d.wf = true) (hpb : PbRejects (pb (printCount d))) :
    parseData pb scale cyc (printCount d) = .ok (expectedCount d) :=
  (parseData_of_pb_rejects pb scale cyc _ hpb).trans (parseLegacy_printCount scale cyc d h)

/-- threadz documents: `parseCPU`, `parseHeap`, `parseGoCount` answer "unrecognized".  `chainOK`: a
document that starts directly with a thread header must not carry a heap-profile header in its
(free-text) thread name — otherwise `parseHeap` claims it; every other first line is covered. -/
theorem parseData_printThread_partial (pb : Str → Outcome Profile) (scale : ScaleFn) (cyc : CycFn) (d : ThreadDoc)
    (h : d.wf = true) (hc : d.chainOK = true) (hpb : PbRejects (pb (printThread d))) :
    parseData pb scale cyc (printThread d) = .ok (expectedThread d) :=
  (parseData_of_pb_rejects pb scale cyc _ hpb).trans (parseLegacy_printThread scale cyc d h hc)

/-- contention / mutex documents: `parseCPU`, `parseHeap`, `parseGoCount`, `parseThread` answer
"unrecognized" -/
theorem parseData_printContention_partial (pb : Str → Outcome Profile) (scale : ScaleFn) (cyc : CycFn) (d : ContDoc)
    (h : d.wf = true) (hpb : PbRejects (pb (printContention d))) :
    parseData pb scale cyc (printContention d) = .ok (expectedContention cyc d) :=
  (parseData_of_pb_rejects pb scale cyc _ hpb).trans (parseLegacy_printContention scale cyc d h)

/-- Java heapz / contentionz documents: all five earlier parsers answer "unrecognized"
(`parseContention` accepts the `--- contentionz 1 ---` line and then meets `format` / `resolution`) -/
theorem parseData_printJava_partial (pb : Str → Outcome Profile) (scale : ScaleFn) (cyc : CycFn) (d : JavaDoc)
    (h : d.wf = true) (hpb : PbRejects (pb (printJava d))) :
    parseData pb scale cyc (printJava d) = .ok (expectedJava scale d) :=
  (parseData_of_pb_rejects pb scale cyc _ hpb).trans (parseLegacy_printJava scale cyc d h)

/-! with the real decoder model: no hypothesis on the decoder -/

/-- little-endian binary CPU profiles (either word size): the real decoder rejects them -/
theorem parseData_printCpu_littleEndian (scale : ScaleFn) (cyc : CycFn) (d : CpuDoc) (h : d.wf = true) (hle : d.big = false) :
    parseDataReal scale cyc (printCpu d) = .ok (expectedCpu d) :=
  parseData_printCpu_partial _ scale cyc d h (pbRejects_printCpu_littleEndian d hle)

/-- little-endian binary Java CPU profiles -/
theorem parseData_printJavaCpu_littleEndian (scale : ScaleFn) (cyc : CycFn) (d : JavaCpuDoc) (h : d.wf = true)
    (hle : d.big = false) : parseDataReal scale cyc (printJavaCpu d) = .ok (expectedJavaCpu d) :=
  parseData_printJavaCpu_partial _ scale cyc d h (pbRejects_printJavaCpu_littleEndian d hle)

/-- every heap document -/
theorem parseData_printHeap (scale : ScaleFn) (cyc : CycFn) (d : HeapDoc) (h : d.wf = true) :
    parseDataReal scale cyc (printHeap d) = .ok (expectedHeap scale d) :=
  parseData_printHeap_partial _ scale cyc d h (pbRejects_printHeap d)

/-- every contention / mutex document -/
theorem parseData_printContention (scale : ScaleFn) (cyc : CycFn) (d : ContDoc) (h : d.wf = true) :
    parseDataReal scale cyc (printContention d) = .ok (expectedContention cyc d) :=
  parseData_printContention_partial _ scale cyc d h (pbRejects_printContention d)

/-- every Java heapz / contentionz document -/
theorem parseData_printJava (scale : ScaleFn) (cyc : CycFn) (d : JavaDoc) (h : d.wf = true) :
    parseDataReal scale cyc (printJava d) = .ok (expectedJava scale d) :=
  parseData_printJava_partial _ scale cyc d h (pbRejects_printJava d)

/-- Witness of the known finding `C14/cpu/taken-for-protobuf`: the full statement fails on the
model.  The corpus document is well-formed, the real decoder ACCEPTS its bytes (every byte pair
reads as a field: tag 0 is skipped, `32 00` is an empty string-table entry), so `ParseData` returns
the empty protobuf profile, which is not the documented conversion. -/
theorem parseData_cpu_shadowed_by_protobuf (scale : ScaleFn) (cyc : CycFn) :
    shadowedCpuDoc.wf = true ∧
    parseDataReal scale cyc (printCpu shadowedCpuDoc) = .ok emptyPbProfile ∧
    parseDataReal scale cyc (printCpu shadowedCpuDoc) ≠ .ok (expectedCpu shadowedCpuDoc) := by
  refine ⟨shadowed_wf, parseDataReal_shadowed scale cyc, ?_⟩
  rw [parseDataReal_shadowed]
  intro e
  exact shadowed_ne (Outcome.ok.inj e)

/-- Witness of the known finding `C14/count/taken-for-concatenated-protobuf` (same root cause:
the decoder runs first): a well-formed count profile named `H1H1` — `H` is the tag byte of
time_nanos, met twice — makes the decoder report `errConcatProfile`, after which `ParseData` does not
try the legacy parsers at all; the hypothesis `PbRejects` of `parseData_printCount_partial` excludes it. -/
theorem parseData_count_shadowed_by_concat (scale : ScaleFn) (cyc : CycFn) :
    concatCountDoc.wf = true ∧
    parseDataReal scale cyc (printCount concatCountDoc) = .err errConcatProfile ∧
    ¬ PbRejects (Codec.parseUncompressed (printCount concatCountDoc)) := by
  refine ⟨concatCount_wf, parseDataReal_concatCount scale cyc, ?_⟩
  rintro ⟨e, he, _, h2⟩
  rw [concatCount_pb] at he
  exact h2 (Outcome.err.inj he).symm

/-- Witness of the known finding `C14/thread/taken-for-heap`: the hypothesis `chainOK` of
`parseData_printThread_partial` cannot be dropped.  A well-formed threadz document that starts
directly with the header of a thread NAMED like a heap profile header is claimed by `parseHeap`
(its header regexp is unanchored), which then fails on the stack lines with an error that is not
`errUnrecognized` — so `parseThread` is never tried. -/
theorem parseLegacy_thread_taken_for_heap (scale : ScaleFn) (cyc : CycFn) :
    heapNamedThreadDoc.wf = true ∧ heapNamedThreadDoc.chainOK = false ∧
    parseLegacy scale cyc (printThread heapNamedThreadDoc) = .err "unexpected number of sample values" :=
  ⟨heapNamedThread_wf, heapNamedThread_chain, parseLegacy_heapNamedThread scale cyc⟩

/-! ### the rules the property names -/

/-- The ids `finish` hands to the samples resolve to the raw addresses: for every final sample
whose addresses are in the location table, looking its location ids up gives back its stack. -/
theorem sample_addresses_resolve (h : Header) (tf fin : List RawSample) (parsed : List Mapping) (s : RawSample)
    (hs : ∀ a ∈ s.addrs, a ∈ tf.flatMap (·.addrs)) :
    (s.addrs.map (idOf (dedup (tf.flatMap (·.addrs))))).map (addrOf (finish h tf fin parsed)) = s.addrs.map some :=
  finish_stack h tf fin parsed s hs

/-- Address rule, end to end for count profiles: the i-th record `n @ a₁ a₂ …` of any well-formed
document becomes the i-th sample, with value `n` and a stack whose locations have the addresses
`a₁−1, a₂−1, …` (every frame is a call site). -/
theorem addr_adjust_rule (d : CountDoc) (h : d.wf = true) (i : Nat) (r : CountRec) (hr : d.recs[i]? = some r) :
    ∃ p s, parseGoCount (printCount d) = .ok p ∧ p.samples[i]? = some s ∧ s.values = [(r.n : Int)] ∧
      s.locationIDs.map (addrOf p) = r.addrs.map (fun a => some (decr64 a)) := by
  obtain ⟨t, h1, h2, h3⟩ := finish_getElem (countHeader d.name) (d.recs.map CountRec.sample) (d.recs.map CountRec.sample)
    (tailMappings d.map) i r.sample (by rw [List.getElem?_map, hr]; rfl)
    (fun a ha => List.mem_flatMap.2 ⟨_, List.mem_map.2 ⟨r, List.mem_of_getElem? hr, rfl⟩, ha⟩)
  exact ⟨expectedCount d, t, parseGoCount_printCount d h, h1, h2, h3.trans List.map_map⟩

/-- Sign rule of heap records (the grammar admits negative in-use columns, `(-?\d+)`): every
count other than exactly 0 — negative ones included — gives the block-size label `bytes / count`
(Go integer division) and, in a sampled (`v2`) profile with rate > 1 and non-zero bytes, goes
through the unsampling function; a printed negative pair is read back with its sign. -/
theorem heap_negative_counts_rule (scale : ScaleFn) (hasAlloc : Bool) (rate : Nat) (inN inB : Int) (alN alB : Nat)
    (addrs : List Nat) (hn : inN ≠ 0) :
    (heapSample scale hasAlloc true rate inN inB alN alB addrs).numLabel = [(asc "bytes", [goDiv inB inN])] ∧
    (inB ≠ 0 → 1 < rate → unsample scale true rate inN inB = scale inN inB rate) ∧
    (-(two63 : Int) ≤ inN → inN < (two63 : Int) → parseI64Z (intStr inN) = some inN) :=
  ⟨heapSample_numLabel scale hasAlloc true rate inB alN alB addrs hn, unsample_sampled scale hn, parseI64Z_intStr⟩

/-- Sign rule of contention attributes (`strconv.ParseInt(_, 0, 64)` admits negative values):
nothing is scaled unless the sampling period is positive, and the delay only when cycles/second
is positive as well. -/
theorem contention_sign_rule (cyc : CycFn) (st : ContState) (cycles count : Nat) (addrs : List Nat) :
    (st.period ≤ 0 → (contSample cyc st cycles count addrs).values = [(count : Int), (cycles : Int)]) ∧
    (0 < st.period → st.cpuHz ≤ 0 →
      (contSample cyc st cycles count addrs).values = [wrapI64 ((count : Int) * st.period), (cycles : Int)]) :=
  ⟨contSample_values_of_period_nonpos cyc cycles count addrs, contSample_values_of_cpuHz_nonpos cyc cycles count addrs⟩

/-- Address rule where the leaf is not a call: threadz and binary CPU samples keep the first
address and move the others back by one. -/
theorem addr_adjust_rule_leaf (leaf : Nat) (callers : List Nat) (period count : Nat) :
    (cpuSample period count (leaf :: callers)).addrs = leaf :: callers.map decr64 ∧
    (threadSamplesRev [ThreadRec.mk 0 [] 0 (.stack [ThreadLine.mk 0 0 .pc (leaf :: callers) none])] []).map (·.addrs)
      = [leaf :: callers.map decr64] := ⟨rfl, by simp [threadSamplesRev, adjustCallers]⟩

/-- "same as previous thread": the record adds no sample, it adds one to the value of the
preceding sample (and is ignored when there is none). -/
theorem threadz_same_as_previous (rs : List ThreadRec) (r : ThreadRec) (blanks indent : Nat)
    (hr : r.body = .same blanks indent) :
    threadSamplesRev (rs ++ [r]) [] = bumpLast (threadSamplesRev rs []) ∧
    (bumpLast (threadSamplesRev rs [])).length = (threadSamplesRev rs []).length ∧
    (∀ s rest, threadSamplesRev rs [] = s :: rest → ∀ v vs, s.values = v :: vs →
      ∃ s', bumpLast (threadSamplesRev rs []) = s' :: rest ∧ s'.values = (v + 1) :: vs ∧ s'.addrs = s.addrs) :=
  ⟨threadSamplesRev_same rs hr, bumpLast_length _, fun s rest hs v vs hv => by rw [hs]; exact bumpLast_cons rest hv⟩

/-- Signal-handler frame rule of binary CPU profiles: with `n ≥ 1` samples, an address that is the
second frame of at least `n − n/32` of them is removed from exactly the samples that have it in
second place (`dropSecondIf`), all other samples are left alone; at most one address can
qualify; when none does nothing is removed.  (`expectedCpu` applies the step twice.) -/
theorem cpu_signal_frame_rule (ss : List RawSample) (hn : ss ≠ []) :
    (∀ a, secondCount ss a ≥ ss.length - ss.length / 32 → stripSignalFrame ss = ss.map (dropSecondIf a)) ∧
    (∀ a b, secondCount ss a ≥ ss.length - ss.length / 32 → secondCount ss b ≥ ss.length - ss.length / 32 → a = b) ∧
    ((∀ a, secondCount ss a < ss.length - ss.length / 32) → stripSignalFrame ss = ss) :=
  ⟨fun a ha => stripSignalFrame_of_shared ss hn a ha,
   fun _ _ ha hb => signal_frame_unique ss hn ha hb,
   fun h => stripSignalFrame_of_none ss h⟩

/-! ### non-vacuity: well-formed documents with records, fillers and a memory map exist -/
example : (({ pre := [{ indent := 1, comment := some (asc " c") }], name := asc "goroutine", total := 3, width := 8,
              recs := [{ fill := [], n := 2, addrs := [4198401, 1] }], post := [],
              map := some { entries := [([], .entry none ⟨2, false, 8, 4194304, 4259840, 0,
                                               .brief true none (some (asc "/bin/x")) none none⟩)], post := [] } } : CountDoc).wf) = true := by
  decide +kernel

-- a memory map with a glog prefix, an attribute and a reference to it (cppbench.heap: `source=/home`, `$source/…`)
example : (({ entries := [([], .attr (some { text := asc "W1220 15:07:15.2 8272 logger.cc", line := 12033 }) 1 (asc "source") false (asc "/home")),
                          ([{ indent := 0, comment := some (asc " c") }],
                           .entryRef none ⟨2, false, 8, 4194304, 4259840, 0, .brief true none none none none⟩
                             (asc "source") (asc "/cppbench_server_main"))],
              post := [] } : MapSection).wf) = true := by decide +kernel

example : (({ big := false, w64 := true, period := 10000, recs := [{ count := 5, addrs := [3, 4] }], eod := true, blanksAfter := 1,
              locs := [{ fill := [], indent := 1, width := 8, addr := 3, gap := 0,
                         kind := .fileLine (asc "com.example.F.f") (asc "F.java") 103 }] } : JavaCpuDoc).wf) = true := by decide +kernel

-- a threadz document starting directly with a thread header, whose name is not a heap header
example : (({ pre := [], head := none, width := 8,
              recs := [{ id := 1, name := asc "main", tid := 7,
                         body := .stack [{ blanks := 0, indent := 2, label := .pc, addrs := [4198401], sym := none }] }],
              ending := .noStack 0 none } : ThreadDoc).chainOK) = true := by decide +kernel

-- the decoder hypothesis of the `_partial` theorems holds of an ordinary count document
example : PbRejects (Codec.parseUncompressed (printCount
    ⟨[], asc "goroutine", 1, 0, [{ fill := [], n := 1, addrs := [4198401] }], [], none⟩)) :=
  ⟨"unknown wire type", by decide +kernel, by decide +kernel, by decide +kernel⟩

example : (({ kind := .heapV2, totInuseN := 1, totInuseB := 2, totAllocN := 3, totAllocB := 4, rate := some 1024, pad := 1, width := 0,
              recs := [{ fill := [], indent := 2, inuseN := 1, inuseB := 512, allocN := 2, allocB := 1024, addrs := [4198401] }],
              post := [], libs := true, map := none } : HeapDoc).wf) = true := by decide +kernel

-- a difference profile: negative in-use columns (seeded change C14-l: `-3: -3072` has block size 1024)
example : (({ kind := .heapV2, totInuseN := 1, totInuseB := 2, totAllocN := 1, totAllocB := 2, rate := some 524288, pad := 0, width := 0,
              recs := [{ fill := [], indent := 0, inuseN := -3, inuseB := -3072, allocN := 0, allocB := 0, addrs := [4198401] }],
              post := [], libs := false, map := none } : HeapDoc).wf) = true ∧ goDiv (-3072) (-3) = 1024 := by decide +kernel

-- contention attributes with negative values
example : (({ head := .mutex, attrs := [{ fill := [], indent := 0, key := .samplingPeriod, value := -5, spaced := true }], width := 0,
              recs := [{ fill := [], indent := 0, cycles := 10, count := 2, gap := 0, addrs := [4198401] }],
              post := [], map := none } : ContDoc).wf) = true := by decide +kernel

example : (({ big := true, w64 := false, period := 10000, recs := [{ count := 5, addrs := [4198401, 4198500] }],
              eod := true, map := none } : CpuDoc).wf) = true := by decide +kernel

example : (({ pre := [], head := some (1, []), width := 8,
              recs := [{ id := 1, name := asc "main", tid := 7,
                         body := .stack [{ blanks := 0, indent := 2, label := .pc, addrs := [4198401], sym := some (asc "main") }] },
                       { id := 2, name := asc "t", tid := 8, body := .same 0 2 }],
              ending := .noStack 3 none } : ThreadDoc).wf) = true := by decide +kernel

-- the signal-frame rule applies: 3 samples sharing their second frame
example : stripSignalFrame [⟨[1, 9, 2], [1], []⟩, ⟨[3, 9], [1], []⟩, ⟨[4, 9, 5], [1], []⟩]
    = [⟨[1, 2], [1], []⟩, ⟨[3], [1], []⟩, ⟨[4, 5], [1], []⟩] := by decide +kernel

end PV.Props.C14
