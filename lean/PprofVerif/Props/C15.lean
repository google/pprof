import PprofVerif.Lemmas.Measure
import PprofVerif.Model.MeasureFacts
import PprofVerif.Spec.Units
/-!
# C15 — Unit conversion and value formatting preserve magnitude

Property theorems only (helper lemmas live in `Lemmas/Measure.lean`).  They are about the
executable model `Model/Measure.lean` of `internal/measurement` in EXACT rational arithmetic (`Q`;
`Q.eqv` is equality of the denoted rationals, by cross-multiplication), over the unit
table `table` that `tools/extract/units.go` regenerates from `measurement.UnitTypes` on every
run.  Two kinds of statements:

* **table facts**, decided by the kernel on the regenerated table each run (`decide`): they fail
  to elaborate when /repo's table stops having the property;
* **theorems for all values** — all `Int` values (hence all int64, MinInt64 included), all unit
  strings — about ANY table `T` that passes the table facts they name as hypotheses; together
  with the table facts they are statements about the real table.

What float64 rounding adds to the exact results is not covered here: the correspondence check
compares the real code with this model within relative 2⁻⁵⁰ (exactly where IEEE arithmetic is
exact).  The model is of the code repaired by fixes/C15-sniffunit-mus.patch and
fixes/C15-autoscale-minint64.patch and fixes/C15-canonical-name-is-a-unit-name.patch.
-/
namespace PV.Props.C15
open PV PV.Measure

/-! ## table facts (re-decided on every run) -/

/-- every factor is a positive rational and no two units of a family have the same size -/
theorem factors_positive_distinct : factorsPosB table = true ∧ factorsDistinctB table = true := by
  decide +kernel

/-- no alias of one family — nor its plural — is an alias of another family -/
theorem aliases_disjoint_across_families : aliasesDisjointB table = true := by
  -- evaluated with the clash test that looks at first bytes first: a third of the comparisons
  unfold aliasesDisjointB
  simp only [← aliasClashFast_eq]
  decide +kernel

/-- sniffing a unit's canonical (printed) name, any listed alias, the plural of names of two or
more bytes, and the upper-case spellings of all of them finds exactly that unit; aliases are
listed in lower case -/
theorem every_alias_recognised :
    everyAliasRecognisedB table = true ∧ aliasesLowerB table = true := by decide +kernel

/-- the default unit of every family is one of its units (same printed name, same size) -/
theorem default_unit_in_family : defaultInFamilyB table = true := by decide +kernel

/-- "auto" and "minimum" are not unit names -/
theorem auto_words_are_not_units : autoNotUnitB table = true := by decide +kernel

/-- the table says what the hand-written dictionary `Spec/Units.lean` says: the same families,
the same printed names, the same sets of names, and the same size ratios
(2^10 steps for bytes, 10^3 / 3600 for time, decimal prefixes for GCU within float64 rounding) -/
theorem table_refines_spec : refinesSpecB table = true := by
  -- evaluated with the ratios compared under matching unit pairs only: n³ tests per family, not n⁴
  unfold refinesSpecB
  simp only [← familyMatchesFast_eq]
  decide +kernel

/-- in every family except GCU (whose factors are float64 values of decimal fractions) a larger
unit is a whole number of hundredths of a smaller one — the hypothesis of `label_monotone_partial` -/
theorem unit_steps_centesimal :
    (table.all fun F => centesimalB F || F.name == [71, 67, 85]) = true := by decide +kernel

/-! ## conversion -/

/-- **Same family ⇒ exact ratio.**  If the first family that recognises the source string is `F`
(source unit `ua`) and the target string denotes `ub` in `F`, the result carries `ub`'s name and
its value is `v · (f_a / f_b)`; equivalently value · f_b = v · f_a. -/
theorem scale_same_family_exact (T : Table) (hpos : factorsPosB T = true) (v : Int) (frm dst : Str)
    (F : Family) (ua ub : MUnit) (hf : firstFamily T frm = some (F, ua))
    (hd : isAuto dst = false) (ht : sniffUnit F dst = some ub) :
    (scale T v frm dst).2 = ub.name ∧
    Q.eqv (scale T v frm dst).1 ((Q.ofInt v).mul (ua.factor.div ub.factor)) ∧
    Q.eqv ((scale T v frm dst).1.mul ub.factor) ((Q.ofInt v).mul ua.factor) := by
  rw [scale_eq_core, scaleCore_eq, hf]
  simp only [convertFrom_of_sniff hd ht]
  have pb := (firstFamily_posU hpos hf).2.2 ub (sniffUnit_some ht).1
  exact ⟨trivial, Q.mul_div_assoc _ _ _, Q.div_mul_cancel _ _ pb.1⟩

example : firstFamily table [107, 98] /- "kb" -/ ≠ none ∧ isAuto [77, 66] /- "MB" -/ = false := by decide +kernel

/-- **Identity for equal units**: when source and target strings denote the same unit (in
particular when they are the same string) the value is unchanged. -/
theorem scale_id (T : Table) (hpos : factorsPosB T = true) (v : Int) (frm dst : Str)
    (F : Family) (ua : MUnit) (hf : firstFamily T frm = some (F, ua))
    (hd : isAuto dst = false) (ht : sniffUnit F dst = some ua) :
    (scale T v frm dst).2 = ua.name ∧ Q.eqv (scale T v frm dst).1 (Q.ofInt v) := by
  obtain ⟨h1, _, h3⟩ := scale_same_family_exact T hpos v frm dst F ua ua hf hd ht
  obtain ⟨hua, _, pu⟩ := firstFamily_posU hpos hf
  exact ⟨h1, Q.eqv_of_mul_eqv_mul (pu ua hua).1 (pu ua hua).2 h3⟩

example : (firstFamily table [66] /- "B" -/).map (·.2) =
    (firstFamily table [98, 121, 116, 101, 115] /- "bytes" -/).map (·.2) ∧
    (firstFamily table [66]).isSome = true := by
  decide +kernel

/-- **Commutes with negation**, for every value (in exact arithmetic the `value < 0 && -value > 0`
guard of `Scale` is transparent; for int64 the statement is about v ≠ MinInt64, whose negation is
not an int64). -/
theorem scale_neg (T : Table) (v : Int) (frm dst : Str) :
    scale T (-v) frm dst = ((scale T v frm dst).1.neg, (scale T v frm dst).2) := by
  rw [scale_eq_core, scale_eq_core, scaleCore_neg]

/-- the MinInt64 guard: `Scale` on MinInt64 does not recurse and agrees with the exact formula -/
theorem scale_minInt64_guard (T : Table) (frm dst : Str) :
    scale T minInt64 frm dst = scaleCore T minInt64 frm dst ∧ negI64 minInt64 = minInt64 := by
  exact ⟨scale_eq_core T minInt64 frm dst, by decide⟩

/-- **Never crosses families, never treats an unknown unit as a known one.**
(1) A source string no family recognises: factor 1, value unchanged, the target string passed
through ("" for the skip words).  (2) A source unit of family `F`: whatever the target is (a unit of
`F`, of another family, unknown, "auto", "minimum"), the result is expressed in a unit `u` of `F`
itself (one of its units or its default unit) and value · f_u = v · f_a — the magnitude is
preserved and no unit of another family is ever attached.  (3) A target that `F` does not
recognise gives the result in `F`'s default unit. -/
theorem scale_never_crosses_family (T : Table) (hpos : factorsPosB T = true) (v : Int) (frm dst : Str) :
    (firstFamily T frm = none → scale T v frm dst = passthrough v dst) ∧
    (∀ F ua, firstFamily T frm = some (F, ua) →
      (∃ u, (u ∈ F.units ∨ u = F.default) ∧ (scale T v frm dst).2 = u.name ∧
        Q.eqv ((scale T v frm dst).1.mul u.factor) ((Q.ofInt v).mul ua.factor)) ∧
      (isAuto dst = false → sniffUnit F dst = none →
        scale T v frm dst = (((Q.ofInt v).mul ua.factor).div F.default.factor, F.default.name))) := by
  rw [scale_eq_core, scaleCore_eq]
  refine ⟨fun h => by rw [h], ?_⟩
  intro F ua hf
  rw [hf]
  obtain ⟨_, pd, pu⟩ := firstFamily_posU hpos hf
  refine ⟨?_, ?_⟩
  · obtain ⟨u, hu, hp, hname, hval⟩ := convertFrom_magnitude F ua v dst pd pu
    refine ⟨u, hu, hname, ?_⟩
    simp only
    rw [hval]
    exact Q.div_mul_cancel _ _ hp.1
  · intro hd hn
    simp only [convertFrom, hd, hn, Bool.false_eq_true, if_false]

example : firstFamily table [119, 105, 100, 103, 101, 116, 115] /- "widgets" -/ = none := by decide +kernel
example : (match firstFamily table [107, 98] /- "kb" -/ with
    | some (F, _) => (sniffUnit F [109, 115] /- "ms" -/).isNone
    | none => false) = true := by
  decide +kernel

/-- **Automatic selection picks the largest unit that keeps the magnitude at or above one.**
For a source unit `ua` of family `F` and `v ≠ 0`, the target "auto"/"minimum" yields a unit `u` of
`F` with value = v·f_a / f_u, `1 ≤ |v|·f_a / f_u`, and every unit `w` of `F` that also keeps the
magnitude at or above one is no larger than `u`.  For `v = 0` the default unit is used. -/
theorem autoscale_largest_ge_one (T : Table) (hpos : factorsPosB T = true) (v : Int) (frm dst : Str)
    (F : Family) (ua : MUnit) (hf : firstFamily T frm = some (F, ua)) (hd : isAuto dst = true) :
    (v ≠ 0 → ∃ u ∈ F.units,
      scale T v frm dst = (((Q.ofInt v).mul ua.factor).div u.factor, u.name) ∧
      Qual ((Q.ofInt v).mul ua.factor) u ∧
      ∀ w ∈ F.units, Qual ((Q.ofInt v).mul ua.factor) w → Q.le w.factor u.factor) ∧
    (v = 0 → scale T v frm dst = (((Q.ofInt 0).mul ua.factor).div F.default.factor, F.default.name)) := by
  rw [scale_eq_core, scaleCore_eq, hf]
  obtain ⟨hua, _, pu⟩ := firstFamily_posU hpos hf
  have pa := pu ua hua
  have spec := autoScale_spec F ((Q.ofInt v).mul ua.factor) pu
  simp only [convertFrom, hd, if_true]
  refine ⟨?_, ?_⟩
  · intro hv
    cases ha : autoScale F ((Q.ofInt v).mul ua.factor) with
    | none =>
      -- impossible: the source unit itself keeps |v| ≥ 1
      rw [ha] at spec
      exact absurd (qual_self hv pa) (spec ua hua)
    | some r => rw [ha] at spec; exact spec
  · intro hv
    subst hv
    cases ha : autoScale F ((Q.ofInt 0).mul ua.factor) with
    | none => rfl
    | some r =>
      rw [ha] at spec
      obtain ⟨u, hu, _, hq, _⟩ := spec
      exact absurd hq (not_qual_zero (pu u hu) pa.2)

example : isAuto sAuto = true ∧ isAuto sMinimum = true := by decide +kernel

/-! ## labels -/

/-- the number `ScaledLabel` prints is the scaled value rounded to two decimals, and a value that
rounds to zero is printed as a bare "0" -/
theorem label_number (T : Table) (v : Int) (frm dst : Str) :
    Q.eqv (label T v frm dst).1 (round2 (scale T v frm dst).1) ∧
    ((round2 (scale T v frm dst).1).num ≠ 0 → (label T v frm dst).2 = (scale T v frm dst).2) := by
  unfold label
  simp only
  split
  · rename_i h
    exact ⟨by simp [Q.eqv, Q.zero, h], fun hne => absurd h hne⟩
  · exact ⟨Q.eqv_refl _, fun _ => rfl⟩

/-
Full statement `label_monotone` (not proved): for every table passing the table facts, every
family and all values v₁ ≤ v₂, label(v₁) read back with its unit ≤ label(v₂) read back with its
unit.  What is missing: (a) families whose unit ratios are not whole hundredths — over exact
rationals the statement is FALSE by one float64 ulp for the GCU family, whose factors are the
float64 values of 1e-9, 1e-6, 1e-3 (round2 of a value just below a unit step can exceed the step
by 2⁻⁵² relative); (b) negative values follow from `scale_neg` and the oddness of `round2`, not
stated here.
-/

/-- **Labels are monotone in the value** (proved part): in a family whose unit steps are whole
hundredths (`centesimalB`: bytes and time, see `unit_steps_centesimal`), for values
1 ≤ v₁ ≤ v₂ in the same source unit with automatic unit selection, the two labels carry units
`u₁`, `u₂` of the family, and the printed numbers read back with their units are ordered:
round2(x₁)·f₁ ≤ round2(x₂)·f₂. -/
theorem label_monotone_partial (T : Table) (hpos : factorsPosB T = true) (frm dst : Str)
    (F : Family) (ua : MUnit) (hf : firstFamily T frm = some (F, ua)) (hd : isAuto dst = true)
    (hcent : centesimalB F = true) (v1 v2 : Int) (h1 : 1 ≤ v1) (h12 : v1 ≤ v2) :
    ∃ u1 ∈ F.units, ∃ u2 ∈ F.units,
      (scale T v1 frm dst).2 = u1.name ∧ (scale T v2 frm dst).2 = u2.name ∧
      Q.le ((round2 (scale T v1 frm dst).1).mul u1.factor) ((round2 (scale T v2 frm dst).1).mul u2.factor) := by
  obtain ⟨hua, _, pu⟩ := firstFamily_posU hpos hf
  have pa := pu ua hua
  obtain ⟨u1, hu1, e1, q1, m1⟩ := (autoscale_largest_ge_one T hpos v1 frm dst F ua hf hd).1 (by omega)
  obtain ⟨u2, hu2, e2, q2, m2⟩ := (autoscale_largest_ge_one T hpos v2 frm dst F ua hf hd).1 (by omega)
  refine ⟨u1, hu1, u2, hu2, by rw [e1], by rw [e2], ?_⟩
  rw [e1, e2]
  have P1 := pu u1 hu1
  have P2 := pu u2 hu2
  have hd1 : 0 < ((Q.ofInt v1).mul ua.factor).den := Nat.mul_pos Nat.one_pos pa.2
  have h0 : 0 ≤ ((Q.ofInt v1).mul ua.factor).num := Int.mul_nonneg (show 0 ≤ v1 by omega) pa.1.le
  have hle : Q.le ((Q.ofInt v1).mul ua.factor) ((Q.ofInt v2).mul ua.factor) :=
    Q.mul_le_mul (Q.ofInt_le_ofInt h12) (Q.le_refl _) (show 0 ≤ v2 by omega) pa.1.le
  have h02 := Q.nonneg_of_le h0 hd1 hle
  -- "keeps the magnitude at or above one" read as "is no larger than it"
  refine label_mono h0 hd1 (Nat.mul_pos Nat.one_pos pa.2) P1.1 P1.2 P2.1 P2.2 hle
    ((qual_iff_le P1 h0).1 q1) ((qual_iff_le P2 h02).1 q2)
    (fun h => m1 u2 hu2 ((qual_iff_le P2 h0).2 h))
    (fun h => m2 u1 hu1 ((qual_iff_le P1 h02).2 h)) fun lt12 => ?_
  have := List.all_eq_true.1 (List.all_eq_true.1 hcent u1 hu1) u2 hu2
  rw [Q.ltB, decide_eq_true lt12] at this
  exact of_decide_eq_true this

example : (table.filter centesimalB).length = 2 := by decide +kernel

/-! ## the report's value formatter (`-divide_by`) -/

/-- `int64(float64(v)·r)`: the divided value is within one sample unit of `v·r`, truncated toward
zero (stated without dividing: |v·r.num − w·r.den| < r.den). -/
theorem scaleByRatio_truncates (v : Int) (r : Q) (hd : 0 < r.den) :
    (v * r.num - scaleByRatio v r * r.den).natAbs < r.den ∧
    (0 ≤ v * r.num → 0 ≤ scaleByRatio v r ∧ scaleByRatio v r * r.den ≤ v * r.num) ∧
    (v * r.num ≤ 0 → scaleByRatio v r ≤ 0 ∧ v * r.num ≤ scaleByRatio v r * r.den) := by
  rw [scaleByRatio_eq_tdiv v r (Nat.pos_iff_ne_zero.1 hd)]
  generalize v * r.num = a
  have hd' : (0 : Int) ≤ r.den := Int.natCast_nonneg _
  have nonneg : ∀ b : Int, 0 ≤ b → 0 ≤ b.tdiv r.den ∧ b.tdiv r.den * r.den ≤ b := fun b hb =>
    ⟨Int.tdiv_nonneg hb hd', Int.mul_comm .. ▸ Int.mul_tdiv_self_le hb⟩
  refine ⟨?_, nonneg a, fun ha => ?_⟩
  · rw [Int.mul_comm, ← Int.tmod_def, Int.natAbs_tmod]
    exact Nat.mod_lt _ hd
  · have := nonneg (-a) (by omega)
    rw [Int.neg_tdiv, Int.neg_mul] at this
    omega

/-- **Formatting with a ratio labels the DIVIDED value**: for a ratio r > 0, r ≠ 1 the printed
number is the rounded scaled value of `w = scaleByRatio v r`, and under automatic unit selection
the unit is the largest unit of the source's family that keeps the magnitude of `w` — the value
actually printed, not the undivided `v` — at or above one. -/
theorem formatValue_labels_divided_value (T : Table) (hpos : factorsPosB T = true) (r : Q)
    (hr : Q.lt Q.zero r) (hr1 : ¬ Q.eqv r Q.one) (v : Int) (frm dst : Str)
    (F : Family) (ua : MUnit) (hf : firstFamily T frm = some (F, ua)) (hd : isAuto dst = true) :
    formatValue T r v frm dst = label T (scaleByRatio v r) frm dst ∧
    Q.eqv (formatValue T r v frm dst).1 (round2 (scale T (scaleByRatio v r) frm dst).1) ∧
    (scaleByRatio v r ≠ 0 → ∃ u ∈ F.units,
      scale T (scaleByRatio v r) frm dst =
        (((Q.ofInt (scaleByRatio v r)).mul ua.factor).div u.factor, u.name) ∧
      Qual ((Q.ofInt (scaleByRatio v r)).mul ua.factor) u ∧
      ∀ w ∈ F.units, Qual ((Q.ofInt (scaleByRatio v r)).mul ua.factor) w → Q.le w.factor u.factor) := by
  have e : formatValue T r v frm dst = label T (scaleByRatio v r) frm dst := by
    unfold formatValue
    rw [show Q.ltB Q.zero r = true from decide_eq_true hr, decide_eq_false hr1]
    rfl
  refine ⟨e, ?_, ?_⟩
  · rw [e]; exact (label_number T _ frm dst).1
  · exact (autoscale_largest_ge_one T hpos _ frm dst F ua hf hd).1

example : scaleByRatio 4194304 ⟨1, 1024⟩ = 4096 ∧ scaleByRatio (-7) ⟨1, 2⟩ = -3 ∧
    (formatValue table ⟨1, 1024⟩ 4194304 [98] /- "b" -/ sMinimum).2 = [107, 66] /- "kB" -/ := by decide +kernel

/-! ## the one output unit of a report (`unit=minimum`) -/

/-- **The unit `selectOutputUnit` chooses does not depend on the signs of the values**: two
graphs whose nodes have the same magnitudes, node by node (a diff profile and its mirror image,
or any subset of entries negated), get the same output unit. -/
theorem selectOutputUnit_sign_invariant (T : Table) (a b : List (Int × Int)) (h : SameMagnitudes a b)
    (total : Int) (r : Q) (su : Str) (cg : Bool) :
    selectOutputUnit T a total r su cg = selectOutputUnit T b total r su cg := by
  unfold selectOutputUnit
  rw [minMagnitude_congr h]

/-- in particular under negation of every value -/
theorem selectOutputUnit_neg (T : Table) (a : List (Int × Int)) (total : Int) (r : Q) (su : Str) (cg : Bool) :
    selectOutputUnit T (a.map fun n => (-n.1, -n.2)) total r su cg = selectOutputUnit T a total r su cg :=
  selectOutputUnit_sign_invariant T _ a (sameMagnitudes_neg a) total r su cg

example : SameMagnitudes [(20000, 20000), (6000, 6000), (-3, -3)] [(-20000, -20000), (6000, 6000), (3, 3)] ∧
    selectOutputUnit table [(20000, 20000), (6000, 6000), (-3, -3)] 26003 Q.one [109, 115] /- "ms" -/ false
      = [109, 115] := by
  refine ⟨?_, by decide +kernel⟩
  exact .cons rfl rfl (.cons rfl rfl (.cons rfl rfl .nil))

/-- **The smallest non-zero value stays visible**: without a ratio, for a sample unit `ua` of family
`F` and a graph whose smallest non-zero magnitude is `m`, the chosen unit is a unit `u` of `F` that
keeps `m` — or, when the ×100 rule applies, `100·m` — at or above one, so `m` is printed as at
least 0.01 and never as 0. -/
theorem selectOutputUnit_keeps_smallest_visible (T : Table) (hpos : factorsPosB T = true)
    (nodes : List (Int × Int)) (total : Int) (su : Str) (cg : Bool)
    (F : Family) (ua : MUnit) (hf : firstFamily T su = some (F, ua)) (hm : minMagnitude nodes ≠ 0) :
    ∃ u ∈ F.units, (u.name ≠ [] → selectOutputUnit T nodes total Q.one su cg = u.name) ∧
      (Qual ((Q.ofInt (minMagnitude nodes : Nat)).mul ua.factor) u ∨
       Qual ((Q.ofInt (100 * (minMagnitude nodes : Nat))).mul ua.factor) u) := by
  have hauto : isAuto sMinimum = true := by decide +kernel
  have hm' : ((minMagnitude nodes : Nat) : Int) ≠ 0 := by exact_mod_cast hm
  have h100 : (100 * ((minMagnitude nodes : Nat) : Int)) ≠ 0 := by omega
  obtain ⟨a1, _⟩ := autoscale_largest_ge_one T hpos (minMagnitude nodes : Nat) su sMinimum F ua hf hauto
  obtain ⟨a2, _⟩ := autoscale_largest_ge_one T hpos (100 * (minMagnitude nodes : Nat)) su sMinimum F ua hf hauto
  obtain ⟨u1, hu1, e1, q1, _⟩ := a1 hm'
  obtain ⟨u2, hu2, e2, q2, _⟩ := a2 h100
  have hact : (Q.ltB Q.zero Q.one && !decide (Q.eqv Q.one Q.one)) = false := by decide +kernel
  unfold selectOutputUnit
  simp only [hact, hm', if_false, Bool.false_eq_true]
  split
  · refine ⟨u2, hu2, ?_, Or.inr q2⟩
    intro hne
    rw [e2]; simp [hne]
  · refine ⟨u1, hu1, ?_, Or.inl q1⟩
    intro hne
    rw [e1]; simp [hne]

/-! ## harmonising several profiles -/

/-- **`ScaleProfiles` preserves each profile's physical totals.**  For a table passing the table
facts, whenever the model of `ScaleProfiles` succeeds on profiles `ps`, every output profile is the
input profile `Harmonised`: sample types keep their Type; the ratio of column `i` times the
physical size of its new unit is the physical size of its old unit; every sample value is
multiplied by the ratio of its column; the period is converted the same way — and therefore, for
every column, (Σ new values) · size(new unit) = (Σ old values) · size(old unit). -/
theorem scaleProfiles_preserves_totals (T : Table) (hpos : factorsPosB T = true)
    (hdis : aliasesDisjointB T = true) (hauto : autoNotUnitB T = true)
    (ps : List MProf) (out : List MProfOut) (h : scaleProfiles T ps = .ok out) :
    ∃ f : MProf → MProfOut, out = ps.map f ∧ ∀ p ∈ ps,
      Harmonised T p (f p) ∧
      ((∀ s ∈ p.samples, s.length = p.sampleTypes.length) →
        ∀ i (h1 : i < p.sampleTypes.length) (h2 : i < (f p).sampleTypes.length),
          Q.eqv ((colTotalQ (f p).samples i).mul (phys T (f p).sampleTypes[i].unit))
            ((Q.ofInt (colTotal p.samples i)).mul (phys T p.sampleTypes[i].unit))) := by
  obtain ⟨f, hout, hf⟩ := scaleProfiles_spec hpos (uniqueFamily_of_disjoint T hdis) hauto ps out h
  exact ⟨f, hout, fun p hp => ⟨hf p hp, fun hrows i h1 h2 => harmonised_totals (hf p hp) hrows i h1 h2⟩⟩

/-- the common type `CommonValueType` returns is one of the inputs and every input is compatible
with it (same unit string, or a unit of the same family) -/
theorem commonValueType_is_compatible_input (T : Table) (hdis : aliasesDisjointB T = true)
    (l : List VT) (c : VT) (h : commonValueType T l = .ok (some c)) :
    c ∈ l ∧ ∀ t ∈ l, CompatU T t.unit c.unit :=
  commonValueType_ok (uniqueFamily_of_disjoint T hdis) h

example : (scaleProfiles table
    [{ periodType := none, period := 0, sampleTypes := [⟨[], [109, 115]⟩], samples := [[5]] },
     { periodType := none, period := 0, sampleTypes := [⟨[], [110, 115]⟩], samples := [[7]] }]).isOk = true := by
  decide +kernel

/-! ## percentages -/

/-- **Percentages are computed from absolute ratios**: the ratio is `|v| · 100 / |total|`
(stated without dividing), insensitive to the signs of value and total, never negative, and 0
for a zero total. -/
theorem percentage_abs (v t : Int) :
    (t ≠ 0 → (pctRatio v t).num * t.natAbs = v.natAbs * 100 * (pctRatio v t).den ∧ 0 < (pctRatio v t).den) ∧
    pctRatio (-v) t = pctRatio v t ∧ pctRatio v (-t) = pctRatio v t ∧
    0 ≤ (pctRatio v t).num ∧ pctRatio v 0 = Q.zero := by
  by_cases ht : t = 0
  · subst ht
    have z : ∀ w, pctRatio w 0 = Q.zero := fun _ => if_pos rfl
    rw [Int.neg_zero, z, z]
    exact ⟨fun h => absurd rfl h, rfl, rfl, Int.le_refl _, rfl⟩
  · rw [pctRatio_of_ne ht, pctRatio_of_ne ht, pctRatio_of_ne (Int.neg_ne_zero.2 ht), Int.natAbs_neg,
      Int.natAbs_neg]
    exact ⟨fun _ => ⟨rfl, Int.natAbs_pos.2 ht⟩, rfl, rfl,
      Int.mul_nonneg (Int.natCast_nonneg _) (by decide), if_pos rfl⟩

example : pctRatio (-1) 3 = ⟨100, 3⟩ ∧ pctClass (pctRatio 9995 10000) = .hundred := by decide +kernel

end PV.Props.C15
