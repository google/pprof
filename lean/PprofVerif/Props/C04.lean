import PprofVerif.Lemmas.GraphTree
import PprofVerif.Lemmas.Aggregate
/-!
# C04 — report flat, cum and edge values equal their definition over samples

Property theorems only (helper lemmas live in `Lemmas/Graph*.lean`, `TagFrames.lean`, `Aggregate.lean`).  They are about the
executable model `PV.Graph.newGraph` / `computeTotalWD` (`Model/Graph.lean`, mirroring
internal/graph/graph.go `newGraph` and internal/report/report.go `computeTotal`) and the
specification `PV.GSpec` (`Spec/Graph.lean`).  All statements hold for ALL sample lists, all key
types with decidable equality (so for every granularity / noinlines / call_tree notion of entry
identity), all values and divisors.  Every figure is a pair `WD = (Σ value, Σ divisor)`; the
number shown is `WD.value` (Σ value / Σ divisor by Go's truncating division when mean is on).
The correspondence check ties the model to the Go code on every run.
-/
namespace PV.Props.C04
open PV PV.GSpec PV.Graph

variable {κ : Type} [DecidableEq κ]

/-- cum of an entry = Σ over the samples in which it occurs anywhere — a sample counted once even
under recursion (the `seenNode` set) — both the value sum and the divisor sum. -/
theorem graph_cum_eq_spec (ss : List (GSample κ)) (n : κ) :
    (newGraph allKept ss).cum n = cumSpec ss n := by
  rw [newGraph_cum, cumSpecK_allKept]

/-- flat of an entry = Σ over the samples whose leaf frame is that entry. -/
theorem graph_flat_eq_spec (ss : List (GSample κ)) (n : κ) :
    (newGraph allKept ss).flat n = flatSpec ss n := by
  rw [newGraph_flat, flatSpecK_allKept]

/-- weight of the edge a→b = Σ over the samples in which `a` is immediately followed by `b`, each
sample once (the `seenEdge` set); self edges have no weight. -/
theorem graph_edge_eq_spec (ss : List (GSample κ)) (a b : κ) :
    (newGraph allKept ss).weight a b = edgeSpec ss a b := by
  rw [newGraph_weight, edgeSpecK_allKept]

/-- an edge is present iff some counted sample (value or divisor non-zero) has that adjacency. -/
theorem graph_edge_exists_iff (ss : List (GSample κ)) (a b : κ) :
    (newGraph allKept ss).hasEdge a b = edgeExists ss a b := by
  rw [newGraph_hasEdge, edgeExistsK_allKept]

/-- no edge of an untrimmed graph is marked residual. -/
theorem graph_no_residual (ss : List (GSample κ)) (a b : κ) :
    (newGraph allKept ss).residual a b = false := by
  rw [newGraph_residual, edgeResidualSpecK_allKept]

/-- the report total: Σ |value| (Σ divisor), over the diff-base samples only when their Σ |value| > 0. -/
theorem total_eq_spec (ss : List (GSample κ)) : computeTotalWD ss = totalSpec ss :=
  PV.Graph.total_eq_spec ss

/-- mean variants: the SHOWN numbers (value sum divided by divisor sum) agree with the specification. -/
theorem mean_eq_spec (ss : List (GSample κ)) (n a b : κ) :
    ((newGraph allKept ss).cum n).value = (cumSpec ss n).value ∧
    ((newGraph allKept ss).flat n).value = (flatSpec ss n).value ∧
    ((newGraph allKept ss).weight a b).value = (edgeSpec ss a b).value ∧
    computeTotal ss = (totalSpec ss).value := by
  rw [graph_cum_eq_spec, graph_flat_eq_spec, graph_edge_eq_spec]
  exact ⟨rfl, rfl, rfl, by unfold computeTotal; rw [PV.Graph.total_eq_spec]⟩

/-- call-tree mode (`newTree`): an entry is identified by its path from the root
(`treeSample` re-keys every frame by the prefix of the stack ending at it); its cum is the Σ over
the samples whose stack passes through that path. -/
theorem tree_cum_eq_spec (ss : List (GSample κ)) (n : List κ) :
    (newTree ss).cum n = cumSpec (ss.map treeSample) n := PV.Graph.tree_cum_eq_spec ss n

/-- call-tree mode: flat = Σ over the samples whose whole stack is that path. -/
theorem tree_flat_eq_spec (ss : List (GSample κ)) (n : List κ) :
    (newTree ss).flat n = flatSpec (ss.map treeSample) n := PV.Graph.tree_flat_eq_spec ss n

/-- call-tree mode: the edge parent-path → child-path weighs the Σ over the samples passing through
the child path. -/
theorem tree_edge_eq_spec (ss : List (GSample κ)) (a b : List κ) :
    (newTree ss).weight a b = edgeSpec (ss.map treeSample) a b := PV.Graph.tree_edge_eq_spec ss a b

/-- `SampleIndexByName` never selects a column outside the sample types, whatever the option string
(so the value extractor `v[ix]` cannot index out of range on a valid profile). -/
theorem sampleIndexByName_in_range (p : Profile) (si : Str) (i : Nat)
    (h : sampleIndexByName p si = some i) : i < p.sampleType.length :=
  sampleIndexByName_lt p si i h

/-- on a valid profile (CheckValid and references inside the tables) and an in-range value column the
abstraction of the profile to samples — entry identity via `nodeInfo`, stack order, value and
divisor — is defined, at every granularity (`aggregate` first or not), so the theorems above speak
about every valid profile; no dangling id and no short value list is ever met. -/
theorem samplesOf_defined_of_valid (clean : Str → Str) (p : Profile) (o : GOpts) (vi : Nat) (mean : Bool)
    (hv : p.Valid) (hvi : vi < p.sampleType.length) :
    ∃ ss, samplesOf clean p o vi mean = some ss ∧
      (∀ n, (newGraph allKept ss).cum n = cumSpec ss n ∧ (newGraph allKept ss).flat n = flatSpec ss n) ∧
      (∀ a b, (newGraph allKept ss).weight a b = edgeSpec ss a b) ∧ computeTotalWD ss = totalSpec ss := by
  obtain ⟨ss, h⟩ := samplesOf_defined clean p o vi mean hv hvi
  exact ⟨ss, h, fun n => ⟨graph_cum_eq_spec ss n, graph_flat_eq_spec ss n⟩,
    fun a b => graph_edge_eq_spec ss a b, total_eq_spec ss⟩

-- non-vacuity / sanity: direct recursion a→a→b with value 5 counts once for a, and a second sample b→a with value −3:
-- cum a = 5 − 3, flat b = 5, edge a→b = 5, no self edge, total = |5| + |−3|
example : let ss : List (GSample Nat) := [{ frames := [1, 1, 2], w := 5, d := 1 }, { frames := [2, 1], w := -3, d := 1 }]
    ((newGraph allKept ss).cum 1 = ⟨2, 2⟩ ∧ (newGraph allKept ss).flat 2 = ⟨5, 1⟩ ∧
     (newGraph allKept ss).weight 1 2 = ⟨5, 1⟩ ∧ (newGraph allKept ss).weight 1 1 = 0 ∧
     computeTotalWD ss = ⟨8, 2⟩) := by decide

-- call tree: a→a→b gives three distinct path entries, each counted once
example : let ss : List (GSample Nat) := [{ frames := [1, 1, 2], w := 5, d := 0 }]
    ((newTree ss).cum [1] = ⟨5, 0⟩ ∧ (newTree ss).cum [1, 1] = ⟨5, 0⟩ ∧ (newTree ss).flat [1, 1, 2] = ⟨5, 0⟩ ∧
     (newTree ss).weight [1] [1, 1] = ⟨5, 0⟩) := by decide

-- "1" selects column 1, "7" is out of range, "" selects the last column (no default type)
example : let p : Profile := { (default : Profile) with sampleType := [⟨[111], []⟩, ⟨[115], []⟩] }
    (sampleIndexByName p [49] = some 1 ∧ sampleIndexByName p [55] = none ∧ sampleIndexByName p [] = some 1) := by decide

/-! ## entry identity: `-tagroot` / `-tagleaf` pseudo frames and `Aggregate` -/

/-- `addLabelNodes` (internal/driver/tagroot.go; string labels) on a valid profile: the abstract
sample list of the rewritten profile is the original one in which the stack of every sample `s` has
become `rootFrames ++ frames ++ leafFrames` — one pseudo frame per root key in key order outermost
(first key = new root), one per leaf key innermost (last key = new leaf), each named by the
comma-joined values of that label on `s` and filed under the key (`Graph.extendFrames`); values,
divisors and the diff-base mark are untouched.  Hence every figure theorem above holds of the
extended stacks (instantiated here for cum, flat, edge weight and total). -/
theorem tagroot_tagleaf_frames (clean : Str → Str) (p : Profile) (o : GOpts) (rootKeys leafKeys : List Str)
    (vi : Nat) (mean : Bool) (hv : p.Valid) (ss : List (GSample NodeInfo))
    (h : samplesOf clean p o vi mean = some ss) :
    let ss' := List.zipWith (fun s g => ({ g with frames := extendFrames clean rootKeys leafKeys s g.frames } : GSample NodeInfo))
      p.samples ss
    samplesOf clean (addLabelNodes p rootKeys leafKeys) o vi mean = some ss' ∧
    (∀ n, (newGraph allKept ss').cum n = cumSpec ss' n ∧ (newGraph allKept ss').flat n = flatSpec ss' n) ∧
    (∀ a b, (newGraph allKept ss').weight a b = edgeSpec ss' a b) ∧ computeTotalWD ss' = totalSpec ss' := by
  intro ss'
  exact ⟨samplesOf_addLabelNodes clean p o rootKeys leafKeys vi mean hv.findMapping_zero ss h,
    fun n => ⟨graph_cum_eq_spec ss' n, graph_flat_eq_spec ss' n⟩,
    fun a b => graph_edge_eq_spec ss' a b, total_eq_spec ss'⟩

-- non-vacuity: one sample main (label k=v) with tagroot=k, tagleaf=k: stack  [v@k, main, v@k]
example :
    let fn : Function := { id := 1, name := [109], systemName := [], filename := [], startLine := 0 }
    let loc : Location := { id := 1, mappingID := 0, address := 0, lines := [{ functionID := 1, line := 0, column := 0 }], isFolded := false }
    let s : Sample := { locationIDs := [1], values := [5], label := [([107], [[118]])], numLabel := [], numUnit := [] }
    let p : Profile := { (default : Profile) with sampleType := [⟨[99], []⟩], samples := [s], locations := [loc], functions := [fn] }
    p.Valid ∧
    (samplesOf id (addLabelNodes p [[107]] [[107]]) {} 0 false).map (fun ss => ss.map (fun g => g.frames.map (·.name))) =
      some [[[118], [109], [118]]] := by decide

/-- `Profile.Aggregate` preserves validity for every flag combination (it blanks fields, ids are
untouched) — so on a valid profile the abstraction to samples is defined at every granularity and
all figure theorems apply to the aggregated profile. -/
theorem aggregate_valid (clean : Str → Str) (p : Profile) (f : AggFlags) (o : GOpts) (vi : Nat) (mean : Bool)
    (hv : p.Valid) (hvi : vi < p.sampleType.length) :
    (aggregate p f).Valid ∧ ∃ ss, samplesOf clean (aggregate p f) o vi mean = some ss :=
  ⟨PV.Graph.aggregate_valid p f hv,
   samplesOf_defined clean (aggregate p f) o vi mean (PV.Graph.aggregate_valid p f hv) hvi⟩

/-- the stacks of the aggregated profile are the stacks computed on the ORIGINAL records with the
fields the flags blank taken as blank and, without inline frames, only the outermost line of every
location (`Graph.framesAgg` / `nodeInfoAgg`): id lookups commute with the in-place rewriting. For
the CLI: `aggregateG` decodes granularity × noinlines × showcolumns (`driver.aggregate`). -/
theorem aggregate_frames (clean : Str → Str) (p : Profile) (o : GOpts) (g : Granularity) (noInlines showColumns : Bool)
    (s : Sample) :
    framesOf clean (aggregateG p g noInlines showColumns) o s =
      match aggFlags g noInlines showColumns with
      | none => framesOf clean p o s
      | some f => framesAgg clean p o f s := by
  unfold aggregateG
  cases aggFlags g noInlines showColumns with
  | none => rfl
  | some f => exact framesOf_aggregate clean p o f s

/-- per granularity, which fields can distinguish two entries: `functions` entries carry no address,
file, line or column; `filefunctions` no address, line, column; `files` no address, name, start
line (so one source file is ONE entry however many functions with different start lines it holds),
line, column; `lines` no address (and no column unless `showcolumns`); with `noinlines` every location
contributes exactly one entry. -/
theorem granularity_identity (clean : Str → Str) (p : Profile) (o : GOpts) (g : Granularity) (noInlines showColumns : Bool)
    (f : AggFlags) (hf : aggFlags g noInlines showColumns = some f) (s : Sample) (fs : List NodeInfo)
    (h : framesAgg clean p o f s = some fs) :
    (∀ ni ∈ fs,
      (g = .functions → ni.address = 0 ∧ ni.file = [] ∧ ni.lineno = 0 ∧ ni.columnno = 0) ∧
      (g = .filefunctions → ni.address = 0 ∧ ni.lineno = 0 ∧ ni.columnno = 0) ∧
      (g = .files → ni.address = 0 ∧ ni.name = [] ∧ ni.origName = [] ∧ ni.startLine = 0 ∧ ni.lineno = 0 ∧ ni.columnno = 0) ∧
      (g = .lines → ni.address = 0 ∧ (showColumns = false → ni.columnno = 0))) ∧
    (noInlines = true → fs.length = s.locationIDs.length) := by
  constructor
  · intro ni hni
    obtain ⟨l, ln, objfile, hn⟩ := framesAgg_mem h hni
    obtain ⟨ha, hl, hc, hfl, hfn⟩ := nodeInfoAgg_fields hn
    -- in each case the flags are read off `aggFlags`
    refine ⟨?_, ?_, ?_, ?_⟩ <;> rintro rfl <;> simp only [aggFlags, Option.some.injEq] at hf <;> subst hf
    · exact ⟨ha rfl, hfl rfl, (hl rfl).1, (hl rfl).2⟩
    · exact ⟨ha rfl, (hl rfl).1, (hl rfl).2⟩
    · exact ⟨ha rfl, (hfn rfl).1, (hfn rfl).2.1, (hfn rfl).2.2, (hl rfl).1, (hl rfl).2⟩
    · exact ⟨ha rfl, fun hs => hc hs⟩
  · rintro rfl
    refine framesAgg_length_noinline ?_ h
    cases g <;> simp [aggFlags] at hf <;> (try subst hf) <;> rfl

-- non-vacuity: location with two lines (inlined g in f), granularity functions+noinlines keeps only the
-- outermost line and blanks file/line: one entry named "f"
example :
    let fns : List Function := [{ id := 1, name := [102], systemName := [], filename := [47, 97], startLine := 3 },
                                { id := 2, name := [103], systemName := [], filename := [47, 98], startLine := 7 }]
    let loc : Location := { id := 1, mappingID := 0, address := 4096, lines := [{ functionID := 2, line := 10, column := 2 }, { functionID := 1, line := 20, column := 4 }], isFolded := false }
    let s : Sample := { locationIDs := [1], values := [5], label := [], numLabel := [], numUnit := [] }
    let p : Profile := { (default : Profile) with sampleType := [⟨[99], []⟩], samples := [s], locations := [loc], functions := fns }
    p.Valid ∧ (aggregateG p .functions true false).Valid ∧
    framesOf id (aggregateG p .functions true false) {} s =
      some [{ name := [102], origName := [], address := 0, file := [], startLine := 0, lineno := 0, columnno := 0, objfile := [] }] ∧
    (framesOf id (aggregateG p .lines false false) {} s).map (fun fs => fs.map (fun n => (n.name, n.lineno, n.columnno))) =
      some [([102], 20, 0), ([103], 10, 0)] := by decide

-- non-vacuity (files granularity): two functions of the same file with different start lines are ONE entry
example :
    let fns : List Function := [{ id := 1, name := [102], systemName := [102], filename := [47, 97], startLine := 3 },
                                { id := 2, name := [103], systemName := [103], filename := [47, 97], startLine := 70 }]
    let l1 : Location := { id := 1, mappingID := 0, address := 4096, lines := [{ functionID := 1, line := 10, column := 0 }], isFolded := false }
    let l2 : Location := { id := 2, mappingID := 0, address := 8192, lines := [{ functionID := 2, line := 80, column := 0 }], isFolded := false }
    let s : Sample := { locationIDs := [1, 2], values := [5], label := [], numLabel := [], numUnit := [] }
    let p : Profile := { (default : Profile) with sampleType := [⟨[99], []⟩], samples := [s], locations := [l1, l2], functions := fns }
    p.Valid ∧ (framesOf id (aggregateG p .files false false) {} s).map (fun fs => fs.eraseDups.length) = some 1 := by decide

end PV.Props.C04
