import PprofVerif.Lemmas.Conc
import PprofVerif.Lemmas.ConcProgress
import PprofVerif.Lemmas.ConcFS
import PprofVerif.Lemmas.ConcRW
import PprofVerif.Gen.LockFacts
/-!
# C20 — shared profile and tool state is safe under concurrent use

Property theorems only (the lemmas are in `Lemmas/Conc*.lean`).

**What is proved.**  For the executable interleaving semantics of `Model/Conc.lean` — threads made
of sections `lock m; body; unlock m` whose bodies are sequences of atomic accesses that other
threads may interleave with — for ALL sets of threads and ALL schedules:

* `mutual_exclusion`: a mutex never has two holders;
* `lock_discipline_serialisable`: if every access to a variable `v` happens in a section that holds
  `L v`, every terminated execution leaves exactly the memory obtained by running the section
  bodies one after the other, uninterrupted, in lock-acquisition order, and that order respects
  every thread's program order (so no torn state, no lost update, and the result is one of the
  results of "the same operations run one at a time");
* `no_deadlock_single_lock_per_op`: a program whose sections take at most one lock is never stuck
  and every complete execution has exactly `totalSteps` steps; `no_deadlock_ordered_locks`: the
  same progress for nested locks acquired in rank order; `slots_disjoint_writes`: goroutines that
  write only their own slot (fetch.go's fork/join) leave the sequential result;
* `rwlock_writer_exclusive`, `rwlock_reads_see_whole_values`: for a `sync.RWMutex` (writers exclusive,
  readers may overlap) every value read is the value after a prefix of complete write sections and
  the final value is the writes in lock-acquisition order — this is what licenses a READ site that
  holds only the read lock, and nothing licenses a write there;
* `once_single_init`: any number of concurrent `once.Do` calls run exactly one initialiser, once;
* `excl_create_distinct_names`: `k` concurrent `newTempFile` loops return pairwise distinct names,
  none of which existed before, existing files keep their contents, and a loop gives up only when
  every name below the limit is taken;
* witnesses that the hypotheses matter: `nested_locks_can_deadlock`,
  `unguarded_access_not_serialisable`, `nonexcl_create_collides`.

**What ties this to pprof.**  The per-run obligations at the end are evaluated by `decide` over
`Gen/LockFacts.lean`, which tools/extract/lockfacts.go REGENERATES from /repo's current source on
every run: every syntactic access site of the guarded variables is dominated by its guard
(`all_sites_guarded`), nested acquisitions follow a lock hierarchy (`lock_order_acyclic`),
newTempFile opens with `O_CREATE|O_EXCL` and retries on EEXIST (`tempfile_excl`), every goroutine
is joined (WaitGroup or channel) before its results are read, or is the detached `go openBrowser`
(`goroutines_joined`), and the copy-on-write `binrep` is written only while fresh
(`immutable_written_only_fresh`).

**Outside the model** (trusted / checked only by the `-race` run of harness/c20.go): the Go memory
model (that a held `sync.Mutex` / completed `sync.Once` / `WaitGroup.Wait` orders the accesses),
the scheduler, the kernel's atomic `O_EXCL`, aliasing the syntactic site analysis cannot see
(reflection, pointers that escape a locked region), and the race detector's completeness.
-/
namespace PV.Props.C20
open PV.Conc PV.ConcFacts

/-! ## the protocol, for all thread sets and all interleavings -/

/-- At most one holder: in every configuration reachable by any schedule of any program, two
different threads never hold the same mutex. -/
theorem mutual_exclusion {σ : Type} (prog : List (Thread σ)) (mem0 : Mem σ) (sched : List Nat)
    (c' : Config σ) (log : List (Nat × Section σ))
    (hrun : exec (initial prog mem0) sched = some (c', log))
    (i j m : Nat) (ti tj : TState σ) (hij : i ≠ j)
    (hi : c'.ts[i]? = some ti) (hj : c'.ts[j]? = some tj) :
    ¬ (ti.holds m = true ∧ tj.holds m = true) := by
  intro ⟨h1, h2⟩
  exact mutexInv_exec (mutexInv_initial prog mem0) hrun hij hi hj m h1 h2

/-- **Lock discipline ⇒ serialisable.**  `L v` is the mutex guarding variable `v`; the program is
disciplined when every section holds exactly the mutex that guards everything its body touches.
Then for every schedule that runs the program to termination:
1. the final memory is the memory produced by running the entered sections sequentially, each body
   uninterrupted, in the order in which their locks were acquired;
2. that order contains, for every thread, exactly its sections in program order;
3. and nothing else. -/
theorem lock_discipline_serialisable {σ : Type} (L : Nat → Nat) (prog : List (Thread σ))
    (hd : Disciplined L prog) (mem0 : Mem σ) (sched : List Nat) (c' : Config σ)
    (log : List (Nat × Section σ))
    (hrun : exec (initial prog mem0) sched = some (c', log)) (hterm : c'.terminated = true) :
    c'.mem = runSerial (log.map (·.2)) mem0 ∧
    (∀ (i : Nat) (h : i < prog.length), sectionsOf log i = prog[i]) ∧
    (∀ e ∈ log, e.1 < prog.length) := by
  refine ⟨?_, fun i hlt => ?_, fun e he => ?_⟩
  · funext v
    rw [exec_var (goodCfg_initial hd mem0) hrun hterm v, pendAll_initial, runSerial_apply, List.foldl_map]
    rfl
  · have := exec_rest hrun i
    rw [restAt_initial, restAt_terminated hterm, List.append_nil, List.getElem?_eq_getElem hlt] at this
    exact this.symm
  · obtain ⟨th, hth, _⟩ := exec_log_initial hrun he
    exact (List.getElem?_eq_some_iff.mp hth).1

/-- **One lock at a time ⇒ no deadlock, and termination.**  If no section takes two locks then
after any schedule (a) unless every thread has finished, some thread can take a step,
(b) the schedule is no longer than `totalSteps prog`, and (c) it has exactly that length when all
threads have finished.  So every execution can be extended until it terminates, and does so after
`totalSteps prog` steps. -/
theorem no_deadlock_single_lock_per_op {σ : Type} (prog : List (Thread σ)) (hs : SingleLock prog)
    (mem0 : Mem σ) (sched : List Nat) (c' : Config σ) (log : List (Nat × Section σ))
    (hrun : exec (initial prog mem0) sched = some (c', log)) :
    (c'.terminated = false → canStep c' = true) ∧
    sched.length ≤ totalSteps prog ∧
    (c'.terminated = true → sched.length = totalSteps prog) := by
  have hlen := exec_length hrun
  rw [cfgSize_initial] at hlen
  refine ⟨progress (singleCfg_exec (singleCfg_initial hs mem0) hrun), by omega, fun hterm => ?_⟩
  have := cfgSize_terminated hterm
  omega

/-- **Lock hierarchy ⇒ no deadlock.**  Sections may take several (nested) locks; if every section
acquires them in strictly increasing `rank`, then after any schedule either every thread has
finished or some thread can take a step; and (for every program) a schedule is never longer than
`totalSteps prog`.  `no_deadlock_single_lock_per_op` is the special case of at most one lock. -/
theorem no_deadlock_ordered_locks {σ : Type} (rank : Nat → Nat) (prog : List (Thread σ))
    (ho : OrderedLocks rank prog) (mem0 : Mem σ) (sched : List Nat) (c' : Config σ)
    (log : List (Nat × Section σ)) (hrun : exec (initial prog mem0) sched = some (c', log)) :
    (c'.terminated = false → canStep c' = true) ∧ sched.length ≤ totalSteps prog := by
  have hlen := exec_length hrun
  rw [cfgSize_initial] at hlen
  exact ⟨progress_ordered (ordCfg_exec (ordCfg_initial ho mem0) hrun), by omega⟩

/-- **Fork/join with one result slot per goroutine** (fetch.go: `go func(s *profileSource){…}(&sources[i])`,
then `wg.Wait()`): if goroutine `i` only ever writes slot `i` — with or without locks — then in
every terminated execution slot `v` holds exactly what goroutine `v` running alone would have left
there, and slots without a goroutine are untouched. -/
theorem slots_disjoint_writes {σ : Type} (prog : List (Thread σ))
    (hown : ∀ (i : Nat) (t : Thread σ), prog[i]? = some t → ∀ s ∈ t, ∀ a ∈ s.body, a.var = i)
    (mem0 : Mem σ) (sched : List Nat) (c' : Config σ) (log : List (Nat × Section σ))
    (hrun : exec (initial prog mem0) sched = some (c', log)) (hterm : c'.terminated = true) (v : Nat) :
    c'.mem v = match prog[v]? with
               | some t => runSerial t mem0 v
               | none => mem0 v := by
  exact (exec_slots (ownSlot_initial hown mem0) hrun hterm v).trans (slotFinal_initial prog mem0 v)

/-- thread 0 takes mutex 0 then 1, thread 1 takes 1 then 0 -/
def abba : List (Thread Unit) := [[⟨[0, 1], []⟩], [⟨[1, 0], []⟩]]

/-- The hypothesis of `no_deadlock_single_lock_per_op` matters: with nested locks the schedule
"thread 0, thread 1" reaches a configuration that is not terminated and in which no thread can
step. -/
theorem nested_locks_can_deadlock :
    (exec (initial abba fun _ => ()) [0, 1]).map (fun r => (r.1.terminated, canStep r.1))
      = some (false, false) := by decide +kernel

/-- `lock 0; v := 1; v := v + 1; unlock 0` -/
def guardedSec : Section Nat := ⟨[0], [⟨0, fun _ => 1⟩, ⟨0, fun x => x + 1⟩]⟩
/-- `v := 10` holding nothing -/
def unguardedSec : Section Nat := ⟨[], [⟨0, fun _ => 10⟩]⟩
def racy : List (Thread Nat) := [[guardedSec], [unguardedSec]]

/-- The hypothesis of `lock_discipline_serialisable` matters: one unguarded access and the final
value (11) is the result of neither sequential order (10 and 2). -/
theorem unguarded_access_not_serialisable :
    (exec (initial racy fun _ => 0) [0, 0, 1, 1, 1, 0, 0]).map (fun r => (r.1.terminated, r.1.mem 0))
      = some (true, 11) ∧
    runSerial [guardedSec, unguardedSec] (fun _ => 0) 0 = 10 ∧
    runSerial [unguardedSec, guardedSec] (fun _ => 0) 0 = 2 := by decide +kernel

/-- **sync.Once.**  Thread `i` calls `o.Do(f)` for every `f` in `inits[i]` (any number of threads,
any number of calls, any initialisers).  In every terminated execution exactly one of the supplied
initialisers has been applied, exactly once, to the initial value, and the Once is marked done. -/
theorem once_single_init {τ : Type} (o : Nat) (inits : List (List (τ → τ))) (x0 : τ)
    (mem0 : Mem (Bool × τ)) (h0 : mem0 o = (false, x0)) (sched : List Nat)
    (c' : Config (Bool × τ)) (log : List (Nat × Section (Bool × τ)))
    (hrun : exec (initial (onceProg o inits) mem0) sched = some (c', log))
    (hterm : c'.terminated = true) (hne : ∃ fs ∈ inits, fs ≠ []) :
    ∃ f, (∃ fs ∈ inits, f ∈ fs) ∧ c'.mem o = (true, f x0) := by
  have hser := lock_discipline_serialisable (fun v => v) (onceProg o inits)
    (onceProg_disciplined o inits) mem0 sched c' log hrun hterm
  cases log with
  | nil =>
    -- some thread has a call to make, so the log of a terminated execution is not empty
    obtain ⟨fs, hfs, hfsne⟩ := hne
    obtain ⟨i, hi, hget⟩ := List.getElem_of_mem hfs
    have := hser.2.1 i (by simpa [onceProg] using hi)
    simp [sectionsOf, onceProg, hget] at this
    exact absurd this hfsne
  | cons e log' =>
    obtain ⟨f, hf, hef⟩ := onceProg_log hrun List.mem_cons_self
    refine ⟨f, hf, ?_⟩
    rw [hser.1, runSerial_apply, h0, List.map_cons, hef]
    refine once_fold o f _ (fun s hs => ?_) x0
    obtain ⟨e', he', rfl⟩ := List.mem_map.mp hs
    obtain ⟨g, _, hg⟩ := onceProg_log hrun (List.mem_cons_of_mem _ he')
    exact ⟨g, hg⟩

/-- **Exclusive create.**  `k` concurrent runs of newTempFile's loop (`O_CREATE|O_EXCL`, next index
on EEXIST) on a directory `d0`, any schedule, stopped at any point: (1) two creators never hold the
same name; (2) every file that existed before still has its content; (3) a returned name did not
exist before and contains what its creator wrote; (4) a creator gives up only when every index
below the limit is taken. -/
theorem excl_create_distinct_names (limit : Nat) (tag : Nat → Nat) (d0 : FS.Dir) (k : Nat)
    (sched : List Nat) (s' : FS.State)
    (hrun : FS.exec true limit tag (FS.start d0 k) sched = some s') :
    (∀ (i j n : Nat), i ≠ j → s'.cs[i]? = some (.got n) → s'.cs[j]? = some (.got n) → False) ∧
    (∀ n c, d0 n = some c → s'.dir n = some c) ∧
    (∀ (i n : Nat), s'.cs[i]? = some (.got n) → d0 n = none ∧ s'.dir n = some (tag i)) ∧
    (∀ (i : Nat), s'.cs[i]? = some .gaveUp → ∀ n, 1 ≤ n → n < limit → (s'.dir n).isSome = true) := by
  have hinv := FS.inv_exec (FS.inv_start limit tag d0 k) hrun
  exact ⟨hinv.distinct, hinv.keep, hinv.got, hinv.gaveUp⟩

/-- **sync.RWMutex: a writer excludes everybody.**  In every state reachable by any schedule of any
program, while one thread holds the write lock every other thread holds nothing (readers may
overlap with readers only). -/
theorem rwlock_writer_exclusive {σ : Type} (x0 : σ) (prog : List (List (RW.Op σ))) (sched : List Nat)
    (s' : RW.State σ) (hrun : RW.exec (RW.start x0 prog) sched = some s')
    (i j : Nat) (ti tj : RW.TS σ) (hij : i ≠ j) (hi : s'.ts[i]? = some ti) (hj : s'.ts[j]? = some tj)
    (hw : ti.isWriting = true) : tj.isIdle = true :=
  (RW.inv_exec (RW.inv_start x0 prog) hrun).excl hij hi hj hw

/-- **sync.RWMutex: reads see whole values, writes serialise.**  Write sections are sequences of
atomic updates (not atomic as a whole); reads hold only the read lock.  For every program and
schedule, stopped anywhere: every value a reader has seen is the value after some PREFIX of the
write sections in lock-acquisition order, each run completely (never a half-applied write); and
once all threads have finished the variable holds the value of all write sections run one after
the other in that order. -/
theorem rwlock_reads_see_whole_values {σ : Type} (x0 : σ) (prog : List (List (RW.Op σ)))
    (sched : List Nat) (s' : RW.State σ) (hrun : RW.exec (RW.start x0 prog) sched = some s') :
    (∀ e ∈ s'.obs, ∃ k, k ≤ s'.wlog.length ∧ e.2 = RW.runWrites (s'.wlog.reverse.take k) x0) ∧
    (s'.terminated = true → s'.val = RW.runWrites s'.wlog.reverse x0) := by
  have hinv := RW.inv_exec (RW.inv_start x0 prog) hrun
  exact ⟨hinv.reads, fun hterm => (RW.finish_terminated hterm).symm.trans hinv.value⟩

/-- two writers adding 1 twice (non-atomically) and two readers -/
def rwProg : List (List (RW.Op Nat)) :=
  [[.write [(· + 1), (· + 1)]], [.read], [.write [(· + 1), (· + 1)], .read], [.read]]

-- the readers overlap with each other (1 and 3 hold the read lock together) and see 2, never 1 or 3
example : (RW.exec (RW.start 0 rwProg) [0, 0, 0, 0, 1, 3, 1, 3, 3, 1, 2, 2, 2, 2, 2, 2, 2]).map
    (fun s => (s.terminated, s.val, s.obs.map (·.2))) = some (true, 4, [4, 2, 2]) := by decide +kernel

-- a reader cannot get in while a write is half done, nor a writer while a reader holds the lock
example : (RW.exec (RW.start 0 rwProg) [0, 0, 1]).isNone = true ∧
    (RW.exec (RW.start 0 rwProg) [1, 0]).isNone = true := by decide +kernel

/-- a directory in which `profile001` exists with content 7 -/
def oneFile : FS.Dir := fun n => if n = 1 then some 7 else none

/-- Without `O_EXCL` (the open succeeds on an existing name) two concurrent creators both return
`profile001` and the existing file is overwritten. -/
theorem nonexcl_create_collides :
    (FS.exec false 10000 (fun i => 100 + i) (FS.start oneFile 2) [0, 1]).map
        (fun s => (s.cs, s.dir 1)) = some ([.got 1, .got 1], some 101) := by decide +kernel

/-! ## non-vacuity of the hypotheses -/

/-- two counters, each guarded by its own mutex, incremented non-atomically (two actions) -/
def incr (v : Nat) : Section Nat := ⟨[v], [⟨v, fun x => x + 1⟩, ⟨v, fun x => x + 1⟩]⟩
def counters : List (Thread Nat) := [[incr 0], [incr 1], [incr 0, incr 1]]

example : Disciplined (fun v => v) counters ∧ SingleLock counters := by
  have h : ∀ t ∈ counters, ∀ s ∈ t, s = incr 0 ∨ s = incr 1 := by simp [counters]
  refine ⟨fun t ht s hs => ?_, fun t ht s hs => ?_⟩ <;> rcases h t ht s hs with rfl | rfl
  · exact ⟨0, rfl, by decide⟩
  · exact ⟨1, rfl, by decide⟩
  · exact Nat.le_refl 1
  · exact Nat.le_refl 1

-- a schedule that interleaves the bodies of threads 0 and 1 terminates with the sequential result
example : (exec (initial counters fun _ => 0) [0, 1, 0, 1, 1, 0, 0, 2, 1, 2, 2, 2, 2, 2, 2, 2]).map
    (fun r => (r.1.terminated, r.1.mem 0, r.1.mem 1, r.2.map (·.1))) = some (true, 4, 4, [0, 1, 2, 2]) := by
  decide +kernel

-- a step of a thread that waits for a held mutex is not a schedule
example : (exec (initial counters fun _ => 0) [0, 2]).isNone = true := by decide +kernel

-- once: three goroutines, four calls, counting initialiser: the counter ends at exactly 1
example : (exec (initial (onceProg 0 [[(· + 1)], [(· + 1), (· + 1)], [(· + 1)]]) fun _ => (false, 0))
    [2, 2, 2, 0, 0, 0, 1, 1, 1, 1, 1, 1]).map (fun r => (r.1.terminated, r.1.mem 0))
    = some (true, (true, 1)) := by decide +kernel

-- exclusive create: 3 creators, indices 1 and 3 taken: they end with 5, 2, 4
example : (FS.exec true 10000 id (FS.start (fun n => if n = 1 ∨ n = 3 then some 9 else none) 3)
    [0, 1, 2, 1, 0, 2, 2, 2, 0, 0, 0]).map (fun s => s.cs) = some [.got 5, .got 2, .got 4] := by decide +kernel

/-- both threads nest mutex 1 inside mutex 0 (the same order): a lock hierarchy -/
def nestedOrdered : List (Thread Nat) :=
  [[⟨[0, 1], [⟨0, fun x => x + 1⟩]⟩], [⟨[0, 1], [⟨0, fun x => x * 2⟩]⟩]]

example : OrderedLocks (fun m => m) nestedOrdered := by
  simp [OrderedLocks, nestedOrdered]

-- … and it runs to completion (thread 1 waits for thread 0)
example : (exec (initial nestedOrdered fun _ => 3) [0, 0, 0, 0, 1, 1, 1, 1]).map
    (fun r => (r.1.terminated, r.1.mem 0)) = some (true, 8) := by decide +kernel

/-- three goroutines, goroutine `i` writes only slot `i`, no locks at all -/
def slots : List (Thread Nat) :=
  [[⟨[], [⟨0, fun _ => 10⟩]⟩], [⟨[], [⟨1, fun _ => 11⟩, ⟨1, fun x => x + 1⟩]⟩], [⟨[], [⟨2, fun _ => 12⟩]⟩]]

example : ∀ (i : Nat) (t : Thread Nat), slots[i]? = some t → ∀ s ∈ t, ∀ a ∈ s.body, a.var = i := by
  intro i t hi
  match i with
  | 0 | 1 | 2 => cases hi; simp
  | n + 3 => cases hi

example : (exec (initial slots fun _ => 0) [1, 0, 2, 1, 0, 2, 1, 2, 0, 1]).map
    (fun r => (r.1.terminated, r.1.mem 0, r.1.mem 1, r.1.mem 2, r.1.mem 3)) = some (true, 10, 12, 12, 0) := by
  decide +kernel

/-! ## per-run obligations over the regenerated lock facts -/

open PV.Gen.LockFacts in
/-- Every syntactic access site of every guarded variable in the current source is dominated by
the variable's guard (mutex held / inside or after the `Once`), or the object is still
thread-local (fresh, under construction, package initialisation), or it is a read in `Close`;
a site that holds only the READ lock of a `sync.RWMutex` is accepted for reads and rejected for
writes; and every guarded variable is in fact accessed under its guard somewhere. -/
theorem all_sites_guarded : allSitesOk guards sites = true ∧ allGuardsUsed guards sites = true := by
  decide +kernel

open PV.Gen.LockFacts in
/-- Wherever a function of profile/, internal/driver/, internal/binutils/, internal/transport/ acquires
a mutex or enters a `Once` while holding another one (directly, through callees, or across these
packages), the inner guard has a strictly higher rank in the regenerated rank table: the nesting
relation is acyclic — the hypothesis `OrderedLocks` of `no_deadlock_ordered_locks`.  (On the pinned tree plus fixes there is
one nesting: `editSettings` holds `settingsMu` and reads the option store under `currentMu`.) -/
theorem lock_order_acyclic : lockOrderOk lockRank nestedEdges = true := by decide +kernel

open PV.Gen.LockFacts in
/-- No function leaves an explicit `Lock … Unlock` region early with the mutex still held (a
`return` there is fine only after an `Unlock` in the same branch).  Other uses of sync primitives
that have none of the recognised shapes are listed in `looseSync` and simply guard nothing. -/
theorem no_lock_leak : noLeak looseSync = true := by decide +kernel

open PV.Gen.LockFacts in
/-- No read-modify-write of a mutex-guarded package variable is split over two critical sections
(read the value under the lock or through a getter, write a value computed from it back under the
lock again or through a setter): `lock_discipline_serialisable` makes each SECTION atomic, so an
update that must not be lost has to be one section.  (Start-up code is exempt, see `startupFns`.) -/
theorem no_split_rmw : noSplitRmw splitRMW = true := by decide +kernel

open PV.Gen.LockFacts in
/-- Every `os.Rename` — which replaces its destination — runs under a mutex.  The name that
`excl_create_distinct_names` makes exclusive is the name passed to `O_CREATE|O_EXCL`; a file renamed
afterwards to a name that was never reserved can replace another goroutine's (or an earlier) file. -/
theorem rename_targets_serialised : renamesOk renames = true := by decide +kernel

open PV.Gen.LockFacts in
/-- Every assignment to a package-level variable made inside a function is covered by a mutex, is in
the body of a `sync.Once` (the hypothesis of `once_single_init`: lazy initialisation goes through
`Do`) or in `init`, or is one of the start-up writes. -/
theorem globals_written_under_barrier : globalsOk globalWrites = true := by decide +kernel

open PV.Gen.LockFacts in
/-- newTempFile opens with `O_CREATE|O_EXCL` and retries on EEXIST: the step relation of
`excl_create_distinct_names` (`excl = true`). -/
theorem tempfile_excl : tempExcl tempFile = true := by decide +kernel

open PV.Gen.LockFacts in
/-- Every goroutine pprof starts in these packages is joined — `wg.Wait()` after `defer wg.Done()`,
`<-done` after `defer close(done)`, or one channel receive per spawned goroutine — before anything
it writes (its own variables, its own slot of the slot slice) is used by the spawner or a sibling;
or it is the detached `go openBrowser`.  (A body run inline on the spawning goroutine is not a
goroutine and needs no join.) -/
theorem goroutines_joined : goSites.all goOk = true := by decide +kernel

open PV.Gen.LockFacts in
/-- The copy-on-write tool configuration `binrep` is written only while the object is fresh
(never after it was published through `Binutils.rep`). -/
theorem immutable_written_only_fresh : immutableOk immutableWrites = true := by decide +kernel

end PV.Props.C20
