import PprofVerif.Lemmas.Crash
import PprofVerif.Lemmas.ComposeCodec
import PprofVerif.Lemmas.ComposeParse
import PprofVerif.Model.Copier
import PprofVerif.Lemmas.TrimTreeMain
/-!
# C09 — No profile content, option value or typed command crashes pprof

Property theorems only (helper lemmas: `Lemmas/Crash.lean`; model: `Model/Crash.lean`).

What is proved here: the *decision logic that can panic* in `internal/driver` — every Go index
expression, slice expression and explicit `panic` of the modelled functions is a checked access in
the model, and the theorems say that no input reaches one.  What is NOT proved: absence of crashes
in the code behind these functions (report generation, graph building, symbolization, the web
handlers' templates …).  That part of the property is supported only by the generative campaign
of `harness/c09.go`; it enters the session theorems as the explicit hypothesis
`EnvOK.gen_noPanic`.  The property as a whole is therefore *partially* proved.

The model is of the tree with `fixes/C09-tagfilter-range-overflow.patch` and
`fixes/C09-short-buildid.patch` applied; `pinned_*` theorems show that the same statements FAIL
for the model of the pinned tree (witnesses replayed against the Go code by `corpus/C09/*.json`).
-/
namespace PV.Props.C09
open PV PV.Crash

/-! ## tag filter ranges (`-tagfocus`, `-tagignore`) -/

/-- `parseTagFilterRange` never panics: for every unit table (`scaleUnit`) and every option value —
20-digit numbers, signs, embedded digit groups, empty strings — the result is a range, "not a range",
or an error. -/
theorem parseTagFilterRange_no_panic (scaleUnit : Int → Str → Str → Str) (filter : Str) (site : String) :
    parseTagFilterRange scaleUnit filter ≠ .panic site :=
  parseTagFilterRangeG_noPanic (fun _ => NoPanic.err) site

/-- … and so does the `key=value` front of `compileTagFilter`. -/
theorem compileTagFilter_no_panic (scaleUnit : Int → Str → Str → Str) (value : Str) (site : String) :
    compileTagFilter scaleUnit value ≠ .panic site :=
  compileTagFilterG_noPanic (fun _ => parseTagFilterRangeG_noPanic fun _ => NoPanic.err) site

/-- The pinned code does panic: `-tagfocus=99999999999999999999` (finding #8), first range bound. -/
theorem pinned_parseTagFilterRange_panics (scaleUnit : Int → Str → Str → Str) :
    parseTagFilterRangePinned scaleUnit (List.replicate 20 57) =
      .panic "driver_focus.go parseTagFilterRange ParseInt(ranges[0][1])" := rfl

/-- … and `-tagfocus=1:99999999999999999999`, second range bound. -/
theorem pinned_parseTagFilterRange_panics_second_bound (scaleUnit : Int → Str → Str → Str) :
    parseTagFilterRangePinned scaleUnit (49 :: 58 :: List.replicate 20 57) =
      .panic "driver_focus.go parseTagFilterRange ParseInt(ranges[1][1])" := rfl

-- the no-panic theorem is not vacuous on such inputs: the repaired code returns an error
example : parseTagFilterRange (fun _ _ t => t) (List.replicate 20 57) = .err "failed to parse int" := rfl
example : parseTagFilterRange (fun _ _ t => t) [49, 48, 107, 98, 58] = .ok (some .ge) := rfl  -- "10kb:"

/-! ## local binary search (`locateBinaries`) -/

/-- `locateBinaries` never panics: for every search path list, every mapping list (any file name,
any build id — empty, one, two characters), every path/objtool behaviour and every
`-buildid`/exec-name override. -/
theorem locateBinaries_no_panic (e : PathEnv) (paths : List Str) (ms : List MappingM)
    (execName buildID : Str) (site : String) :
    locateBinaries e paths ms execName buildID ≠ .panic site :=
  locateBinaries_noPanic site

/-- The pinned code does panic on a one-character build id (finding #9): `m.BuildID[:2]`. -/
theorem pinned_locateBinaries_panics (e : PathEnv) (path file : Str) (rest : List Str) (ms : List MappingM) (x b : Str) :
    locateBinariesPinned e (path :: rest) (⟨file, [97]⟩ :: ms) x b =
      .panic "fetch.go locateBinaries m.BuildID[:2]" := rfl

example (e : PathEnv) : ∃ r, locateBinaries e [[47]] [⟨[], [97]⟩] [] [] = .ok r := by
  cases h : locateBinaries e [[47]] [⟨[], [97]⟩] [] [] with
  | ok r => exact ⟨r, rfl⟩
  | err m => simp [locateBinaries, locateBinariesG, locateAll, locateOne, candidateNames] at h; split at h <;> simp at h
  | panic s => exact absurd h (locateBinaries_no_panic e _ _ _ _ s)

/-! ## interactive command parsing -/

/-- `parseCommandLine` never panics on what `interactive` hands it — a non-empty token list without
empty tokens (the contract of `strings.Fields` plus the `len(tokens) == 0` check): whatever the
command table, the option table, digit suffixes (`top10`, `10`, `x9999999999`), `>` with or without
a file name, `-`, `--cum`, numbers out of the 32-bit range. -/
theorem parseCommandLine_no_panic (cmds : List (Str × Bool)) (tbl : List Field) (input : List Str) (cur : Cfg)
    (h0 : input ≠ []) (hne : ∀ t ∈ input, t ≠ []) (site : String) :
    parseCommandLineG cmds tbl input cur ≠ .panic site :=
  parseCommandLineG_noPanic h0 hne site

/-- Both hypotheses are needed: an empty token after a command is `t[0]` on an empty string … -/
theorem parseCommandLine_empty_token_panics :
    parseCommandLineG [([116,111,112], false)] [] [[116,111,112], []] (fun _ => .s []) =
      .panic "interactive.go parseCommandLine t[0]" := rfl
/-- … and an empty token list is `input[:1]` on an empty slice. -/
theorem parseCommandLine_empty_input_panics :
    parseCommandLineG [] [] [] (fun _ => .s []) = .panic "interactive.go parseCommandLine input[:1]" := rfl

example : ([[116,111,112,49,48], [62]] : List Str) ≠ [] ∧ ∀ t ∈ ([[116,111,112,49,48], [62]] : List Str), t ≠ [] := by
  decide  -- "top10 >"

/-! ## option assignment -/

/-- `(*config).set` is total on the configurable fields: for every field of the table, every current
config, every value and every `ParseFloat` behaviour it returns a config or an error. -/
theorem config_set_total (parseFloatOk : Str → Bool) (c : Cfg) (f : Field) (hf : f ∈ fields) (value : Str) :
    (∃ c', set parseFloatOk c f value = .ok c') ∨ (∃ m, set parseFloatOk c f value = .err m) := by
  rcases (set_noPanic (fields_supported f hf) : NoPanic (set parseFloatOk c f value)).safe.cases with
    ⟨c', h, -⟩ | ⟨m, h⟩
  · exact .inl ⟨c', h⟩
  · exact .inr ⟨m, h⟩

/-- `configure(name, value)` never panics, for every name (field, choice, unknown) and value. -/
theorem configure_no_panic (parseFloatOk : Str → Bool) (c : Cfg) (name value : Str) (site : String) :
    configure fields parseFloatOk c name value ≠ .panic site :=
  configure_noPanic fields_supported site

/-- The `panic` branch of `set` is real: a field of an unsupported type would reach it. -/
theorem set_unsupported_kind_panics (pf : Str → Bool) (c : Cfg) (n v : Str) :
    set pf c ⟨n, .other⟩ v = .panic "config.go set: unsupported config field type" := rfl

/-! ## sample value selection -/

/-- `sampleFormat` + `valueExtractor` never index outside a sample's values when the sample has one
value per sample type (`CheckValid`), for every `sample_index` string and `mean` setting. -/
theorem sampleValue_no_panic (p : Prof) (si : Str) (mean : Bool) (values : List Int)
    (hv : values.length = p.sampleTypes.length) (site : String) :
    sampleValue p si mean values ≠ .panic site :=
  sampleValue_noPanic hv site

example : ([1, 2] : List Int).length = (⟨[[97], [98]], []⟩ : Prof).sampleTypes.length := rfl

/-! ## a whole interactive session -/

/-- One line typed at the `(pprof)` prompt — any byte string — yields a new session state (or a
reported error), never a panic, provided the profile has at least one sample type (guaranteed by
`fetchProfiles`: "profiles have empty common sample type list" otherwise) and the external
functions meet `EnvOK` (tokens non-empty; report generation returns or errs — the campaign-tested
part).  The profile is unchanged by the step, so the hypothesis holds again for the next line. -/
theorem interactive_step_no_panic (e : Env) (he : EnvOK e) (s : Sess) (hst : s.prof.sampleTypes ≠ [])
    (line : Str) :
    (∀ site, step e s line ≠ .panic site) ∧
    (∀ s' ev, step e s line = .ok (s', ev) → s'.prof = s.prof) :=
  have h := step_keepsProf e he s hst line
  ⟨h.ne_panic, fun _ _ hok => h.of_ok hok⟩

/-- … hence every script of lines. -/
theorem interactive_run_no_panic (e : Env) (he : EnvOK e) (s : Sess) (hst : s.prof.sampleTypes ≠ [])
    (script : List Str) (site : String) : run e s script ≠ .panic site :=
  run_noPanic e he script s hst site

/-- The sample-type hypothesis is needed: `o` on a profile without sample types is `st[len(st)-1]`
on an empty slice. -/
theorem printCurrentOptions_needs_sample_type :
    printCurrentOptions ⟨fun _ => .s [], ⟨[], []⟩⟩ =
      .panic "interactive.go printCurrentOptions st[len(st)-1]" := rfl

/-- `EnvOK` is satisfiable: ASCII `Fields`/`TrimSpace`, a report generator that always errs. -/
example : EnvOK { fields := fieldsAscii, trimSpace := trimSpaceAscii, parseFloatOk := fun _ => false,
                  gen := fun _ _ => .err "x" } :=
  ⟨fieldsAscii_nonempty, fun _ _ => NoPanic.err, fields_supported⟩

/-- The auto-completer's token slicing never panics, for every tokenizer and line. -/
theorem completer_no_panic (fields : Str → List Str) (isCmd : Str → Bool) (matchVar fnComplete : Str → Str)
    (joinSp : List Str → Str) (line : Str) (site : String) :
    completer fields isCmd matchVar fnComplete joinSp line ≠ .panic site :=
  completer_noPanic site

/-! ## `-symbolize=` option string -/

/-- Whatever string is given to `-symbolize=` (and whatever `strings.ToLower` does to it), the
demangler mode that reaches `demanglerModeToOptions` is one of "", "full", "none", "templates": its
`panic("unknown demanglerMode")` is unreachable from the option string. -/
theorem symbolize_mode_no_panic (lower : Str → Str) (mode : Str) (site : String) :
    symbolizeMode lower mode ≠ .panic site :=
  symbolizeMode_noPanic site

/-- The `panic` is real for every other mode string. -/
theorem demanglerMode_unknown_panics (m : Str) (h0 : m ≠ []) (h1 : m ≠ S "templates") (h2 : m ≠ S "full")
    (h3 : m ≠ S "none") :
    demanglerModeToOptions m = .panic "symbolizer.go demanglerModeToOptions: unknown demanglerMode" := by
  simp [demanglerModeToOptions, h0, h1, h2, h3]

/-! ## composed with C01 (and C02): `profileCopier.newCopy` cannot reach its `panic(err)`

`Model/Copier.lean` models `makeProfileCopier` / `newCopy` (driver.go) as compositions of the codec
model.  C01's round trip shows that the bytes produced by `makeProfileCopier` always parse, so the
`panic(err)` of `newCopy` is unreachable — for every profile meeting C01's hypotheses, in
particular (C02) for every profile the parser itself returned. -/

/-- **`newCopy` never panics on what `makeProfileCopier` made.**  For every valid profile with
aligned units, key-sorted label maps, integers in their Go types and a re-encoding within the size
limits: `makeProfileCopier` returns bytes `c`, and `newCopy c` — every time it is called — returns
the normalised profile, never `panic(err)`. -/
theorem newCopy_no_panic (p : Profile) (hv : p.Valid) (ha : p.unitsAligned = true)
    (hs : p.mapsSorted = true) (hr : Codec.InRange p) (hz : ∀ x, Codec.preEncode p = .ok x → Codec.EncSizes x) :
    ∃ c, Copier.makeProfileCopier p = .ok c ∧ Copier.newCopy c = .ok (Codec.Profile.normalize p) ∧
      ∀ site, Copier.newCopy c ≠ .panic site := by
  obtain ⟨c, h1, h2⟩ := Codec.parse_serialize_normalize p hv ha hs hr hz
  have h3 : Copier.newCopy c = .ok (Codec.Profile.normalize p) := by
    unfold Copier.newCopy; rw [h2]
  exact ⟨c, h1, h3, h3 ▸ NoPanic.ok⟩

/-- … in the CLI's situation — the profile is what `ParseData` returned for an input file —
validity, alignment, sortedness and integer ranges are consequences (C02): only the size side
condition on the re-encoding remains. -/
theorem newCopy_no_panic_parsed (b₀ : Wire.Bytes) (p : Profile) (hparse : Parse.parseData b₀ = .ok p)
    (hz : ∀ x, Codec.preEncode p = .ok x → Codec.EncSizes x) :
    ∃ c, Copier.makeProfileCopier p = .ok c ∧ Copier.newCopy c = .ok (Codec.Profile.normalize p) ∧
      ∀ site, Copier.newCopy c ≠ .panic site := by
  obtain ⟨hv, ha, hs, hr⟩ := Parse.parseData_ok_contract b₀ p hparse
  exact newCopy_no_panic p hv ha hs hr hz

/-- The alignment hypothesis is needed: a numeric label with two values and one unit makes
`makeProfileCopier` itself panic (`units[i]` in `preEncode`). -/
theorem makeProfileCopier_misaligned_panics :
    Copier.makeProfileCopier
      { Parse.sampleParsed with
        samples := [⟨[], [5], [], [([97], [7, 8])], [([97], [[98]])]⟩] } =
      .panic "preEncode: units[i] index out of range" := rfl

/-- `newCopy`'s `panic(err)` is real for bytes that are not a serialisation: e.g. the empty input. -/
theorem newCopy_panics_on_unparsable :
    Copier.newCopy [] = .panic "driver.go newCopy: panic(err): empty input file" := by decide +kernel

-- non-vacuity: the sample input of C02 is accepted and its re-encoding meets the size condition
example : Parse.parseData Parse.sampleBytes = .ok Parse.sampleParsed ∧
    ∀ x, Codec.preEncode Parse.sampleParsed = .ok x → Codec.EncSizes x :=
  ⟨Parse.parseData_sampleBytes, Parse.sampleParsed_encSizes⟩

/-! ## composed with C05's TrimTree model: the consistency panics of `TrimTree`

Full statement planned in DESIGN (`graph_internal_panics_unreachable`): none of the explicit
panics of internal/graph — "TrimTree only works on trees", "Get parent assertion failed",
"asymmetric edges" — is reachable from a report.  PARTIAL: proved for the two `TrimTree` panics, on
C05's model of `Graph.TrimTree` (`Model/TrimTree.lean`: the loop over `g.Nodes` with both `panic`
sites, re-parenting, `RemoveRedundantEdges`; tied to graph.go by C05's correspondence check),
applied to every tree `newTree` builds — the only graphs report.go hands to `TrimTree`.  The
"asymmetric edges" panic of `AddToEdgeDiv` compares the two Go maps `n.Out[to]` and `to.In[n]`
while `graph.New` runs; the model of `graph.New` (`Model/Graph.lean`) keeps a single edge table
keyed by (src, dest), so an asymmetry cannot be expressed there — that panic stays with the
generative campaign. -/

/-- `TrimTree` on a call tree never panics (nor errs): for every sample list, every kept set,
every order in which the caller left `g.Nodes`, and every `EdgeMap.Sort` that returns a
permutation, C05's `trimNewTree` returns a state. -/
theorem graph_internal_panics_unreachable_partial {κ : Type} [DecidableEq κ]
    (sortIn : TrimTree.ETable (List κ) → TrimTree.ETable (List κ)) (hsort : ∀ l, (sortIn l).Perm l)
    (K : List κ → Bool) (ss : List (GSpec.GSample κ)) (nodes : List (List κ × Graph.NodeAcc))
    (hperm : nodes.Perm (Graph.newTree ss).shownNodes) :
    (∀ site, TrimTree.trimNewTree sortIn K (Graph.newTree ss) nodes ≠ .panic site) ∧
    ∃ st, TrimTree.trimNewTree sortIn K (Graph.newTree ss) nodes = .ok st := by
  obtain ⟨st, hs, _⟩ := TrimTree.trimNewTree_ok sortIn hsort K ss nodes hperm
  exact ⟨hs ▸ NoPanic.ok, st, hs⟩

/-- The first test is real: on a graph that is not a tree (node 3 reached from 1 and from 2) the
loop body panics. -/
theorem trimTree_panics_on_dag :
    TrimTree.stepNode (fun _ => true)
      (⟨[], [((1, 3), ⟨0, false⟩), ((2, 3), ⟨0, false⟩)], [((1, 3), ⟨0, false⟩), ((2, 3), ⟨0, false⟩)]⟩ : TrimTree.TState Nat)
      (3, ⟨0, 0⟩) = .panic "TrimTree only works on trees" := by rfl

-- non-vacuity: two samples sharing a prefix give a tree with a branching node; its listed nodes
-- in their own order are an admissible `nodes`
example : (Graph.newTree [({ frames := [1, 2], w := 3, d := 0 } : GSpec.GSample Nat), { frames := [1, 3], w := 4, d := 0 }]).edges.map (·.1) =
    [([1], [1, 2]), ([1], [1, 3])] := by decide

end PV.Props.C09
