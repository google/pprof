import PprofVerif.Lemmas.CodecSchemaFactsDec
import PprofVerif.Lemmas.CodecTotalPost
import PprofVerif.Lemmas.LegacyCPUTotal
import PprofVerif.Model.Parse
import PprofVerif.Lemmas.IdTables
import PprofVerif.Lemmas.ComposeParseMerge
import PprofVerif.Lemmas.ComposeCodec
/-!
# C02 — Parsing is total: an error or a valid profile for any bytes

Property theorems only.  Helpers: `Lemmas/CodecTotal.lean` (wire decoder), `Lemmas/ComposeMsgRange.lean`
(`unmarshal`), `Lemmas/CodecTotalAssoc.lean` and `Lemmas/CodecTotalPost.lean` (`postDecode`),
`Lemmas/IdTables.lean`, `Lemmas/LegacyCPUTotal.lean`, `Lemmas/ComposeParse.lean`,
`Lemmas/ComposeCodec.lean` and `Lemmas/ComposeParseMerge.lean` (compositions with C01 and C03),
`Lemmas/CodecSchemaFactsDec.lean` (regenerated decoder schema).
All statements quantify over ALL byte strings and are about the executable models
`Model/Wire.lean`, `Model/Codec.lean` (profile/proto.go, profile/encode.go),
`Model/LegacyCPU.lean` (binary part of profile/legacy_profile.go) and `Model/Parse.lean`
(dispatch of profile.ParseData), in which every Go panic site is a value (`Outcome.panic`).
The correspondence check ties the models to the Go code on every run.

Full statement of the property (DESIGN.md Appendix D): for all bytes `b`,
`ParseData b ∈ {err, ok p}` with `p` valid, and `ok p` implies that Write, Copy, Compact and every
text report of `p` do not crash.  Proved below: the protobuf path and the binary legacy CPU
path never panic and terminate (the model functions are total and their fuel provably
suffices); an accepted profile is valid, has aligned units and sorted label maps, and
serializes without panic.  Composed with C01 and C03 (sections at the end of this file): an
accepted profile can be Copied (given C01's size side condition on the re-encoding), Compacted
and Merged, and stays valid.  NOT proved here (harness only, see checks/C02.json): the text
legacy parsers, gzip, the report printers, and wall-clock promptness.
-/
namespace PV.Props.C02
open PV PV.Wire PV.Codec PV.LegacyCPU PV.Parse

/-- The fuel `data.length` given to the message decoding loop always suffices: with at least
that much fuel neither the "out of fuel" panic nor any other panic is reachable, provided the
decoder table itself does not panic (needs: `decodeField` consumes ≥ 1 byte). -/
theorem decodeLoop_fuel_enough {M : Type} (apply : M → Field → Outcome M)
    (hap : ∀ m f s, apply m f ≠ .panic s) (fuel : Nat) (m : M) (data : Bytes)
    (h : data.length ≤ fuel) : ∀ s, decodeLoop apply fuel m data ≠ .panic s :=
  (decodeLoop_safe apply (fun _ => True) (fun m f _ _ => .intro (hap m f) fun _ _ => trivial)
    fuel m data h trivial).ne_panic

/-- The fuel is only a termination device: any two sufficient amounts give the same result,
i.e. the model computes Go's unbounded `for len(data) > 0` loop (for every decoder table,
panicking or not). -/
theorem decodeLoop_fuel_independent {M : Type} (apply : M → Field → Outcome M) (fuel fuel' : Nat)
    (m : M) (data : Bytes) (h : data.length ≤ fuel) (h' : data.length ≤ fuel') :
    decodeLoop apply fuel m data = decodeLoop apply fuel' m data :=
  decodeLoop_fuel_irrelevant apply fuel fuel' m data h h'

/-- Same for the packed-scalar loop of `decodeUint64s`/`decodeInt64s`. -/
theorem decodePacked_fuel_enough (fuel : Nat) (data : Bytes) (h : data.length ≤ fuel) :
    (∀ s, decodePacked fuel data ≠ .panic s) ∧ decodePacked fuel data = decodePacked data.length data :=
  ⟨(decodePacked_safe fuel data h).ne_panic, decodePacked_fuel_irrelevant fuel data.length data h (Nat.le_refl _)⟩

/-- Each wire field read consumes at least one byte (the progress argument behind the fuel). -/
theorem decodeField_consumes {data rest : Bytes} {f : Field} (h : decodeField data = .ok (f, rest)) :
    rest.length < data.length := ((decodeField_safe data).of_ok h).2

/-- `unmarshal` (proto.go decodeMessage with the decoder tables of encode.go, nested messages,
packed fields, the string-table check) never panics, for any bytes. -/
theorem unmarshal_never_panics : ∀ (b : Bytes) (s : String), Codec.unmarshal b ≠ .panic s :=
  fun b => (unmarshal_safe b).ne_panic

/-- `postDecode` never panics on any decoded message: every string index goes through the
range check of `getString`; the id lookups, which `Codec.postDecode` states as `List.contains`,
are total by `postDecode_id_tables_total` below. -/
theorem postDecode_never_panics : ∀ (x : ProfileX) (s : String), Codec.postDecode x ≠ .panic s :=
  fun x => (postDecode_safe x).ne_panic

/-- The dense-or-sparse id tables `postDecode` builds for mappings, functions and locations
(`make([]*T, len+1)` plus a map), modelled with checked index expressions: building them and
resolving any reference never indexes out of range, and a reference resolves (non-nil pointer)
exactly when its id occurs in the table — which is how `Codec.postDecode` states it
(`List.contains`) — to an entity that carries this id. -/
theorem postDecode_id_tables_total (ids : List Nat) :
    ∃ t, IdTables.build ids = .ok t ∧ ∀ id, ∃ r, IdTables.lookup t id = .ok r ∧
      (r.isSome = true ↔ ids.contains id = true) ∧ (∀ j, r = some j → ids[j]? = some id) := by
  obtain ⟨t, ht, h⟩ := IdTables.build_lookup ids
  refine ⟨t, ht, fun id => ?_⟩
  obtain ⟨r, hr, h1, h2⟩ := h id
  exact ⟨r, hr, by rw [h1]; simp, h2⟩

-- ids at the dense/sparse boundary (len, len+1), duplicates and a huge id
example : (match IdTables.build [3, 4, 1, 3, 18446744073709551615] with
    | .ok t => (IdTables.lookup t 3, IdTables.lookup t 5, IdTables.lookup t 6, IdTables.lookup t 18446744073709551615, IdTables.lookup t 0)
        == (.ok (some 3), .ok none, .ok none, .ok (some 4), .ok none)
    | _ => false) = true := by decide +kernel

/-- `ParseUncompressed` never panics, for any bytes. -/
theorem parseUncompressed_never_panics : ∀ (b : Bytes) (s : String), Codec.parseUncompressed b ≠ .panic s :=
  fun b => (parseUncompressed_safe b).ne_panic

/-- Every profile returned by `ParseUncompressed` satisfies the documented NumUnit contract
(unit list absent, empty, or as long as the value list, for every numeric label key). -/
theorem parse_ok_units_aligned (b : Bytes) (p : Profile) (h : Codec.parseUncompressed b = .ok p) :
    p.unitsAligned = true := ((parseUncompressed_safe b).of_ok h).1

/-- Every profile returned by `ParseUncompressed` has label maps with pairwise distinct keys
(strictly sorted in the canonical form): they are genuine maps. -/
theorem parse_ok_maps_sorted (b : Bytes) (p : Profile) (h : Codec.parseUncompressed b = .ok p) :
    p.mapsSorted = true := ((parseUncompressed_safe b).of_ok h).2.1

/-- `serialize` (preEncode + encode, i.e. Write) cannot panic on a profile with aligned units:
the only panic site of `preEncode` is the index expression `units[i]`. -/
theorem serialize_no_panic_of_aligned (p : Profile) (h : p.unitsAligned = true) :
    ∀ s, Codec.serialize p ≠ .panic s := serialize_ne_panic p h

/-- A profile returned by the parser can always be written. -/
theorem parse_ok_serialize_no_panic (b : Bytes) (p : Profile) (h : Codec.parseUncompressed b = .ok p) :
    ∀ s, Codec.serialize p ≠ .panic s :=
  serialize_ne_panic p (parse_ok_units_aligned b p h)

/-- `ParseData` on the protobuf path: for any bytes the result is an error, or a profile that
passes the validity gate, has aligned units, has genuine label maps and can be serialized;
never a panic. -/
theorem parse_ok_valid_or_rejected (b : Bytes) :
    (∃ e, parseData b = .err e) ∨
    (∃ p, parseData b = .ok p ∧ p.Valid ∧ p.unitsAligned = true ∧ p.mapsSorted = true ∧
      ∀ s, Codec.serialize p ≠ .panic s) := by
  unfold parseData
  cases h : Codec.parseUncompressed b with
  | panic s => exact absurd h (parseUncompressed_never_panics b s)
  | err e => exact Or.inl ⟨e, rfl⟩
  | ok p =>
    by_cases hv : p.validB = true
    · right
      exact ⟨p, by simp [hv], hv, parse_ok_units_aligned b p h, parse_ok_maps_sorted b p h,
        parse_ok_serialize_no_panic b p h⟩
    · left
      exact ⟨"malformed profile", by simp [hv]⟩

/-- What the validity gate means, in the words of the property: every sample has exactly one
value per sample type, every location a sample references is non-zero and occurs in the
location table, whose ids (like the mapping and function ids) are non-zero and pairwise
distinct — "exists once with a non-zero id" — and every mapping/function a location
references is in its table. -/
theorem valid_contract (p : Profile) (h : p.Valid) :
    (∀ s ∈ p.samples, s.values.length = p.sampleType.length ∧
        ∀ id ∈ s.locationIDs, id ≠ 0 ∧ ∃ l ∈ p.locations, l.id = id) ∧
    ((p.mappings.map (·.id)).Nodup ∧ 0 ∉ p.mappings.map (·.id)) ∧
    ((p.functions.map (·.id)).Nodup ∧ 0 ∉ p.functions.map (·.id)) ∧
    ((p.locations.map (·.id)).Nodup ∧ 0 ∉ p.locations.map (·.id)) ∧
    (∀ l ∈ p.locations, (l.mappingID = 0 ∨ ∃ m ∈ p.mappings, m.id = l.mappingID) ∧
        ∀ ln ∈ l.lines, ln.functionID ≠ 0 ∧ ∃ f ∈ p.functions, f.id = ln.functionID) := by
  have h := ((Profile.valid_iff p).mp h).2
  simp only [idsNodup_iff, List.any_eq_true, beq_iff_eq] at h
  exact h

/-- The binary legacy CPU parser (word-size/endianness probing, header checks, the
`nstk > len(b)/4` bound, the end marker, the sample loop, signal-frame removal, duplicate-leaf
cleanup) never panics and its loop fuel `len(b)` always suffices, for any bytes. -/
theorem parseCPU_never_panics : ∀ (b : Bytes) (s : String), LegacyCPU.parseCPU b ≠ .panic s :=
  fun b => (parseCPU_safe b).ne_panic

/-- The sample loop alone, for every word kind, both `adjust` settings, any period and any
accumulated prefix: `len(b)` fuel (or more) never runs out and no access is out of range. -/
theorem parseCPUSamples_never_panics (w : Word) (adjust : Bool) (period : Int) (fuel : Nat)
    (b : Slice) (acc : List CPUSample) (h : b.len ≤ fuel) :
    ∀ s, parseCPUSamples w adjust period fuel b acc ≠ .panic s :=
  (parseCPUSamples_safe w adjust period fuel b acc h).ne_panic

/-- A recognised binary CPU profile has exactly one value per sample type (the two types
samples/count and cpu/nanoseconds) in every sample — before and after signal-frame removal and
duplicate-leaf cleanup — which is the `len(s.Value) == len(p.SampleType)` part of the validity
contract on the legacy CPU path. -/
theorem parseCPU_ok_two_values (b : Bytes) (r : CPUResult) (h : LegacyCPU.parseCPU b = .ok (some r)) :
    ∀ s ∈ r.samples, s.values.length = 2 := (parseCPU_safe b).of_ok h r rfl

/-- Go ranges over the map `addr1` in unspecified order when it looks for the signal-handler
frame to strip; at most one address can reach the threshold `len(p.Sample) - len(p.Sample)/32`,
so the order cannot influence the result (the model scans in first-occurrence order). -/
theorem frame_removal_choice_unique (samples : List CPUSample) (secs : List Nat)
    (h : secondAddrs samples = .ok secs) (a b : Nat) (ha : a ∈ secs)
    (hca : secs.count a ≥ samples.length - samples.length / 32)
    (hcb : secs.count b ≥ samples.length - samples.length / 32) : a = b :=
  frame_candidate_unique secs samples.length ((secondAddrs_safe samples).of_ok h) a b ha hca hcb

example : secondAddrs [⟨[1, 10], [5, 7, 9]⟩, ⟨[1, 10], [6, 7]⟩, ⟨[1, 10], [8]⟩] = .ok [7, 7] := by decide

/-- The modelled part of the `ParseData` dispatch (protobuf, validity gate, binary CPU probe)
never panics, for any bytes. -/
theorem dispatch_never_panics (b : Bytes) (s : String) : Parse.dispatch b ≠ .panic s := by
  unfold Parse.dispatch
  cases h : Codec.parseUncompressed b with
  | panic e => exact absurd h (parseUncompressed_never_panics b e)
  | ok p => simp only; split <;> simp
  | err e =>
    simp only
    split
    · simp
    · cases h2 : LegacyCPU.parseCPU b with
      | panic e2 => exact absurd h2 ((parseCPU_safe b).ne_panic e2)
      | err e2 => simp
      | ok r => cases r <;> simp

/-! ### non-vacuity -/

/-- a byte string the parser accepts: one sample type, one sample with a value and a numeric
label carrying a unit, string table ["", "a", "b"] — so the hypotheses `parseUncompressed b = ok p`
and `parseData b = ok p` above are satisfiable by a non-trivial value. -/
def exampleBytes : Bytes :=
  [0x0a, 0x04, 0x08, 0x01, 0x10, 0x02,
   0x12, 0x0a, 0x10, 0x05, 0x1a, 0x06, 0x08, 0x01, 0x18, 0x07, 0x20, 0x02,
   0x32, 0x00, 0x32, 0x01, 0x61, 0x32, 0x01, 0x62]

example : (match parseData exampleBytes with
    | .ok p => p.samples.length == 1 && p.samples.map (·.numUnit) == [[([0x61], [[0x62]])]] && p.validB
    | _ => false) = true := by decide +kernel

-- malformed points the property names are rejected, not crashed on: a length prefix past the
-- end, a string index out of the table, wire type 7
example : (Codec.parseUncompressed [0x0a, 0x7f, 0x08]).cls = "err" := by decide
example : (Codec.parseUncompressed [0x0a, 0x02, 0x08, 0x05, 0x32, 0x00]).cls = "err" := by decide
example : (Codec.parseUncompressed [0x0f]).cls = "err" := by decide

-- a recognised binary CPU profile (32-bit little endian, period 10, one sample, end marker)
example : (match LegacyCPU.parseCPU
    [0,0,0,0, 3,0,0,0, 0,0,0,0, 10,0,0,0, 0,0,0,0,  2,0,0,0, 1,0,0,0, 0,0x10,0,0,  0,0,0,0, 1,0,0,0, 0,0,0,0] with
    | .ok (some r) => r.samples.length == 1 && r.period == 10000
    | _ => false) = true := by decide +kernel

-- a huge `nstk` (the mutant "drop the nstk > len/4 check" targets this input) is unrecognised
example : (match LegacyCPU.parseCPU
    [0,0,0,0, 3,0,0,0, 0,0,0,0, 10,0,0,0, 0,0,0,0,  2,0,0,0, 0xff,0xff,0xff,0xff] with
    | .ok none => true
    | _ => false) = true := by decide +kernel

/-! ## composed with C01 (round trip) — a parser result can be Copied

(C01's `parse_serialize` / `copy_eq_normalize` are used through their lemma-level twins in
`Lemmas/ComposeCodec.lean`, so that this file does not import C01's Props file.)
`Valid`, `unitsAligned`, `mapsSorted` of C01's `copy_eq_normalize` come from
`parse_ok_valid_or_rejected`; its range hypothesis `InRange` is DERIVED for every parser output
(`parse_ok_in_range`: the decoder only produces uint64/int64 values).  What stays explicit is
C01's size side condition `EncSizes` on the re-encoded message (string table shorter than 2^63
entries, every length-delimited body shorter than 2^64 bytes; `Codec.EncSizes_of_counts`
discharges it from element counts below 2^56): it is a fact about the SIZE of the re-encoding,
which the model does not bound by the size of the input. -/

/-- `parseData b = ok p` unfolds to: `ParseUncompressed` returned `p` and `p` passed the gate. -/
theorem parseData_ok_iff (b : Bytes) (p : Profile) :
    parseData b = .ok p ↔ Codec.parseUncompressed b = .ok p ∧ p.Valid := Parse.parseData_ok_iff b p

/-- Every integer of a profile returned by `ParseUncompressed` fits its Go type (ids, addresses
uint64; values, lines, numeric label values, times int64): C01's `InRange`, for ALL bytes. -/
theorem parse_ok_in_range (b : Bytes) (p : Profile) (h : Codec.parseUncompressed b = .ok p) :
    Codec.InRange p := Codec.parseUncompressed_inRange b p h

/-- **A parser result can be Copied.**  For any bytes `b` that `ParseData` accepts, `Copy` of the
result does not panic: it returns the normalised profile (C01), which is again valid, aligned and
key-sorted — provided the re-encoding meets the size side condition `EncSizes`. -/
theorem parse_ok_copy_no_panic (b : Bytes) (p : Profile) (h : parseData b = .ok p)
    (hz : ∀ x, Codec.preEncode p = .ok x → Codec.EncSizes x) :
    Codec.copy p = .ok (Codec.Profile.normalize p) ∧ (∀ s, Codec.copy p ≠ .panic s) ∧
    (Codec.Profile.normalize p).Valid ∧ (Codec.Profile.normalize p).unitsAligned = true ∧
    (Codec.Profile.normalize p).mapsSorted = true := by
  obtain ⟨hv, ha, hs, hr⟩ := Parse.parseData_ok_contract b p h
  have hc := Codec.copy_normalize p hv ha hs hr hz
  obtain ⟨hv', ha', hs'⟩ := Codec.normalize_keeps_contract p hv ha hs
  exact ⟨hc, Outcome.ne_panic_of_eq_ok hc, hv', ha', hs'⟩

/-- … and written and read back: `ParseData (Write p) = ok (normalize p)`, so a second
parse/serialize generation is a fixpoint (reading (2) of C01, now for every accepted input). -/
theorem parse_ok_reparse (b : Bytes) (p : Profile) (h : parseData b = .ok p)
    (hz : ∀ x, Codec.preEncode p = .ok x → Codec.EncSizes x) :
    ∃ b', Codec.serialize p = .ok b' ∧ parseData b' = .ok (Codec.Profile.normalize p) := by
  obtain ⟨hv, ha, hs, hr⟩ := Parse.parseData_ok_contract b p h
  obtain ⟨b', h1, h2⟩ := Codec.parse_serialize_normalize p hv ha hs hr hz
  exact ⟨b', h1, (parseData_ok_iff b' _).mpr ⟨h2, (Codec.normalize_keeps_contract p hv ha hs).1⟩⟩

/-- what `ParseData` returns for `exampleBytes` -/
def exampleParsed : Profile :=
  { sampleType := [⟨[97], [98]⟩], defaultSampleType := [],
    samples := [⟨[], [5], [], [([97], [7])], [([97], [[98]])]⟩],
    mappings := [], locations := [], functions := [], comments := [], docURL := [], dropFrames := [],
    keepFrames := [], timeNanos := 0, durationNanos := 0, periodType := some ⟨[], []⟩, period := 0 }

-- non-vacuity: the example bytes are accepted, the re-encoding of the result meets the size
-- condition, so `Copy` is `ok`
example : parseData exampleBytes = .ok exampleParsed ∧
    (∀ x, Codec.preEncode exampleParsed = .ok x → Codec.EncSizes x) ∧
    Codec.copy exampleParsed = .ok (Codec.Profile.normalize exampleParsed) := by
  -- the same bytes and profile as `Parse.sampleBytes`, `Parse.sampleParsed`
  have h1 : parseData exampleBytes = .ok exampleParsed := Parse.parseData_sampleBytes
  have h2 : ∀ x, Codec.preEncode exampleParsed = .ok x → Codec.EncSizes x := Parse.sampleParsed_encSizes
  exact ⟨h1, h2, (parse_ok_copy_no_panic exampleBytes exampleParsed h1 h2).1⟩

/-! ## composed with C03 (merge) — a parser result can be Compacted / Merged

C03's theorems need `Valid` (the gate), `Typed` (values and numeric label values are int64 —
DERIVED for parser outputs, it is part of `InRange`) and, for merging several profiles,
compatibility with the first (which requires a `PeriodType`: every parser output has one,
`postDecode` supplies the empty value type).  Non-negative periods are needed only for the
period rule of the merged header, not for any statement below. -/

/-- Every parser result is well typed in the sense of C03 and carries a period type. -/
theorem parse_ok_typed (b : Bytes) (p : Profile) (h : Codec.parseUncompressed b = .ok p) :
    Merge.Typed p ∧ p.periodType.isSome = true :=
  ⟨Codec.parseUncompressed_typed b p h, Codec.parseUncompressed_periodType_isSome b p h⟩

/-- **A parser result can be Compacted and stays valid**: `Compact` returns a profile — no panic,
the re-merge recursion terminates — that is valid, well typed and has the same weight for every
stack (C03's `compact_conserves` — through its lemma-level twin `Merge.compact_spec` — with all
its hypotheses discharged). -/
theorem parse_ok_compact_valid (b : Bytes) (p : Profile) (h : parseData b = .ok p) :
    ∃ c, Merge.compact p = .ok c ∧ c.Valid ∧ Merge.Typed c ∧ ∀ k, Spec.weight c k = Spec.weight p k := by
  obtain ⟨hv, ht⟩ := Merge.parsed_valid_typed b p h
  exact Merge.compact_spec p hv ht

/-- … and its header is the documented one (`Compact` = `Merge` of one profile), PROVIDED the period
is not negative: this hypothesis stays explicit — the parser accepts any int64 period
(`negative_period_accepted`) and C03's period rule needs `0 ≤ period` (`period_rule_needs_nonneg`). -/
theorem parse_ok_compact_header (b : Bytes) (p : Profile) (h : parseData b = .ok p) (hper : 0 ≤ p.period) :
    ∃ c, Merge.compact p = .ok c ∧ Spec.headerOf c = Spec.combineHeadersSpec p [] := by
  obtain ⟨hv, ht⟩ := Merge.parsed_valid_typed b p h
  have hin := Merge.inputs_single hv ht
  obtain ⟨c, hc, _⟩ := Merge.merge_spec p [] hin
  exact ⟨c, hc, Merge.merge_header p [] hin (List.forall_mem_singleton.mpr hper) c hc⟩

/-- the parser does accept a negative period (field 12 = -1): non-negativity is not a consequence of
parsing. -/
theorem negative_period_accepted :
    (match parseData [0x32, 0x00, 0x60, 0xff, 0xff, 0xff, 0xff, 0xff, 0xff, 0xff, 0xff, 0xff, 0x01] with
     | .ok p => decide (p.period = -1)
     | _ => false) = true := by decide +kernel

/-- the name DESIGN gives the statement for arbitrary valid profiles: `Compact` of a valid,
well-typed profile neither panics nor leaves validity. -/
theorem valid_compact_no_panic_valid (p : Profile) (hv : p.Valid) (ht : Merge.Typed p) :
    (∀ s, Merge.compact p ≠ .panic s) ∧ ∃ c, Merge.compact p = .ok c ∧ c.Valid := by
  obtain ⟨c, hc, hcv, _⟩ := Merge.compact_spec p hv ht
  exact ⟨Outcome.ne_panic_of_eq_ok hc, c, hc, hcv⟩

/-- **`Merge` of parser results terminates** (never the model's fuel panic, never another panic):
for any accepted inputs that are compatible with the first (same sample types and period type)
`Merge` returns a valid profile whose weight function is the sum of the inputs'. -/
theorem merge_terminates (b : Bytes) (bs : List Bytes) (first : Profile) (rest : List Profile)
    (hf : parseData b = .ok first)
    (hr : List.Forall₂ (fun b p => parseData b = .ok p) bs rest)
    (hc : ∀ p ∈ rest, Spec.compatibleB first p = true) :
    (∀ site, Merge.merge (first :: rest) ≠ .panic site) ∧
    ∃ r, Merge.merge (first :: rest) = .ok r ∧ r.Valid ∧
      ∀ k, Spec.weight r k = Spec.mergedWeight (first :: rest) k := by
  have hall : ∀ p ∈ first :: rest, p.Valid ∧ Merge.Typed p :=
    Merge.forall₂_parsed_valid_typed (.cons hf hr)
  obtain ⟨r, hr, hrv, _, _, _, hw, _⟩ :=
    Merge.merge_spec first rest ⟨fun p hp => (hall p hp).1, fun p hp => (hall p hp).2, hc⟩
  exact ⟨Outcome.ne_panic_of_eq_ok hr, r, hr, hrv, hw⟩

-- non-vacuity: the example result is compatible with itself (period type present, same sample
-- types), so merging it with itself is an instance
example : parseData exampleBytes = .ok exampleParsed ∧ Spec.compatibleB exampleParsed exampleParsed = true := by
  exact ⟨Parse.parseData_sampleBytes, by decide +kernel⟩

/-! ## Regenerated wire-schema facts (shared with C01; tools/extract/codecschema.go) -/

open PV PV.Wire PV.Codec

section WireSchema
open PV.CodecSchema PV.Spec.CodecSchemaExpected

/-- The decoder tables, interpreted generically (`dec[b.field]`, out of range ⇒ skipped), are the
model's `apply` functions — for every wire field, including field numbers outside the tables. -/
theorem schema_decoders_are_model :
    (∀ (m : ProfileX) (f : Field), applyBy ProfileX.dict m f ProfileX.decTable = ProfileX.apply m f) ∧
    (∀ (m : ValueTypeX) (f : Field), applyBy ValueTypeX.dict m f ValueTypeX.decTable = ValueTypeX.apply m f) ∧
    (∀ (m : SampleX) (f : Field), applyBy SampleX.dict m f SampleX.decTable = SampleX.apply m f) ∧
    (∀ (m : LabelX) (f : Field), applyBy LabelX.dict m f LabelX.decTable = LabelX.apply m f) ∧
    (∀ (m : MappingX) (f : Field), applyBy MappingX.dict m f MappingX.decTable = MappingX.apply m f) ∧
    (∀ (m : LocationX) (f : Field), applyBy LocationX.dict m f LocationX.decTable = LocationX.apply m f) ∧
    (∀ (m : LineX) (f : Field), applyBy LineX.dict m f LineX.decTable = LineX.apply m f) ∧
    (∀ (m : FunctionX) (f : Field), applyBy FunctionX.dict m f FunctionX.decTable = FunctionX.apply m f) :=
  Facts.schema_decoders_are_model

/-- The decoder tables regenerated from profile/encode.go are the decoder tables of the model: same
message types in the same order, same closure (decode function, receiver type, field, nested
message type, attachment, extra checks) at every table index.  (The encoder side of the schema is
C01's obligation `codec_schema_matches`; parsing does not depend on it.) -/
theorem decoder_schema_matches :
    Gen.CodecSchema.all.map decoderPart = expectedSchema.map decoderPart := Facts.decoder_schema_matches

/-- Every regenerated decoder table lists its entries at their own index (the Go code indexes the
table by the field number; the model's tables carry the index explicitly). -/
theorem decoder_indexes_are_positions : Gen.CodecSchema.all.all indexesArePositions = true :=
  Facts.decoder_indexes_are_positions

/-- proto.go `decodeVarint` gives up at the byte index at which the model does. -/
theorem varint_limit_matches (i u : Nat) (b : UInt8) (rest : Bytes) :
    decodeVarintGo i u (b :: rest) =
      if i ≥ Gen.CodecSchema.proto.varintLimit then .err "bad varint" else
      let u' := (u + (b.toNat % 128) * 2 ^ (7 * i)) % two64
      if b.toNat < 128 then .ok (u', rest) else decodeVarintGo (i + 1) u' rest :=
  Facts.varint_limit_matches i u b rest

/-- proto.go `decodeField` splits the key, accepts exactly the wire types and reads exactly the
fixed widths the model does: for any input whose key varint decodes to `x`. -/
theorem wire_types_match (data rest : Bytes) (x : Nat) (h : decodeVarint data = .ok (x, rest)) :
    (x % (Gen.CodecSchema.proto.typeMask + 1) ∉ Gen.CodecSchema.proto.wireTypes →
      decodeField data = .err "unknown wire type") ∧
    (∀ t n, (t, n) ∈ Gen.CodecSchema.proto.fixedSizes → x % (Gen.CodecSchema.proto.typeMask + 1) = t →
      decodeField data =
        if rest.length < n then .err "not enough data"
        else .ok ({ num := x / 2 ^ Gen.CodecSchema.proto.fieldShift, typ := t, u64 := le (rest.take n), data := [] },
                  rest.drop n)) :=
  Facts.wire_types_match data rest x h

/-- the hypothesis of `wire_types_match` is satisfiable: a fixed64 field (key 9 = field 1, type 1) -/
example : decodeVarint [9, 1, 2, 3, 4, 5, 6, 7, 8] = .ok (9, [1, 2, 3, 4, 5, 6, 7, 8]) := by decide

/-- postDecode's dense id tables, WHEN the translator recognises the id-table code (inline slices or
one generic helper type with a dense slice and a map): at most one per entity table (Mapping, Function, Location), each of the length the model
(`IdTables.build`) uses, and no index expression on them outside `if id < uint64(len(table))`.
When the code has another shape (`denseTables = none`) this says nothing; the dynamic correspondence
and C02's `postDecode_id_tables_total` remain. -/
theorem dense_tables_match (ts : List Gen.CodecSchema.DenseTable)
    (h : Gen.CodecSchema.denseTables = some ts) :
    ∃ extra, ts.all (denseTableOK extra) = true ∧
      ∀ ids : List Nat, IdTables.build ids =
        IdTables.buildGo { dense := List.replicate (ids.length + extra) none, sparse := [] } 0 ids :=
  Facts.dense_tables_match ts h

/-- the hypothesis is satisfiable (and on the pinned tree it is satisfied: the tables are recognised) -/
example : denseTableOK 1 { elem := "Mapping", table := "Mapping", extra := 1, unguardedIndexes := 0 } = true := by decide

end WireSchema

end PV.Props.C02
