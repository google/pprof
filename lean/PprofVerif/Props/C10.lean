import PprofVerif.Lemmas.Session
import PprofVerif.Model.Codec
import PprofVerif.Lemmas.ComposeCodec
import PprofVerif.Lemmas.ComposeParse
/-!
# C10 — each interactive command or web request sees the pristine profile

Property theorems only (helper lemmas: `Lemmas/Session.lean`).  All statements are about the
executable model `Model/Session.lean` of `interactive`, `parseCommandLine`, `configure`, `makeReport`,
for EVERY history of lines / requests and for EVERY report generator `E.report`, including generators
that return a mutated profile (the model of "generateReport is allowed to modify p").

What the theorems assume of the code — that the report generator's observable output is a function of
(the profile handed to it, the configuration handed to it, the command) and that nothing else in the
process carries state from one command to the next — is exactly what `harness/c10.go` checks on the
real `pprof` binary and the real web handlers on every run.
-/
namespace PV.Props.C10
open PV PV.Session

variable {π ρ σ μ : Type}

/-- No line — assignment, command with arguments, shortcut, `quit`, malformed input — changes the
pre-serialised profile, the sample-type table or the default type of the session. -/
theorem step_preserves_copier (E : Env π ρ) (s : Session) (line : Str) :
    (step E s line).1.copier = s.copier ∧ (step E s line).1.stypes = s.stypes ∧
    (step E s line).1.dfltType = s.dfltType :=
  have h := step_after E s line
  ⟨h.copier, h.stypes, h.dfltType⟩

/-- …and so does every history. -/
theorem history_preserves_copier (E : Env π ρ) (s : Session) (h : List Str) :
    (run E s h).copier = s.copier ∧ (run E s h).stypes = s.stypes ∧ (run E s h).dfltType = s.dfltType :=
  have hf := run_after E h s
  ⟨hf.copier, hf.stypes, hf.dfltType⟩

/-- **History independence.** After ANY history `h` that left the session running, the events
produced by a report command line `c` are: the report generator applied to a fresh decode of the
ORIGINAL copier bytes, under the per-command configuration that `parseCommandLine` derives from the
option values in effect after `h` and from `c`'s own arguments — `report P₀ (cfgAfter h) (args c)`.
Nothing else of `h` (which commands ran, with which filters, how they mutated their copy) is visible. -/
theorem command_output_history_independent (E : Env π ρ) (s₀ : Session) (h : List Str) (c : Str)
    (alive : (run E s₀ h).done = false) (hc : isReportLine s₀.stypes c = true) :
    (step E (run E s₀ h) c).2 = commandOutput E s₀.copier (cfgAfter E s₀ h) c := by
  have hf := run_after E h s₀
  have hc' : isReportLine (run E s₀ h).stypes c = true := by rw [hf.stypes]; exact hc
  rw [step_report E (run E s₀ h) c alive hc', hf.copier]
  rfl

/-- **The oracle the harness evaluates on the real code.** The events of `c` after `h` equal the events
of `c` in a session that replays only the assignment lines of `h` (the fresh reference session). -/
theorem command_output_equals_assignment_replay (E : Env π ρ) (s₀ : Session) (h : List Str) (c : Str)
    (alive : (run E s₀ h).done = false) :
    (step E (run E s₀ h) c).2 = (step E (run E s₀ (h.filter (isAssignLine s₀.stypes))) c).2 := by
  rw [run_filter_assign E h s₀ alive]

/-- the option values after `h` are those after the assignment lines of `h` alone. -/
theorem cfgAfter_assignments_only (E : Env π ρ) (s₀ : Session) (h : List Str)
    (alive : (run E s₀ h).done = false) :
    cfgAfter E s₀ (h.filter (isAssignLine s₀.stypes)) = cfgAfter E s₀ h := by
  unfold cfgAfter; rw [run_filter_assign E h s₀ alive]

/-- **Command-line arguments do not persist.** A line that is not an assignment — in particular a
command with focus/ignore expressions, a node count, `-cum`, `> file` — leaves every option value
as it was. -/
theorem args_do_not_persist (E : Env π ρ) (s : Session) (line : Str)
    (hl : isAssignLine s.stypes line = false) : (step E s line).1.cfg = s.cfg := by
  rcases step_nonassign E s line hl with h | h <;> rw [h]

/-- …hence the next command's output is what it would have been without the command before it. -/
theorem args_do_not_leak_into_next_command (E : Env π ρ) (s₀ : Session) (h : List Str) (c₁ c₂ : Str)
    (hl : isAssignLine s₀.stypes c₁ = false) (alive : (run E s₀ (h ++ [c₁])).done = false) :
    (step E (run E s₀ (h ++ [c₁])) c₂).2 = (step E (run E s₀ h) c₂).2 := by
  have hst : (run E s₀ h).stypes = s₀.stypes := (run_after E h s₀).stypes
  rw [run_append] at alive ⊢
  have : run E (run E s₀ h) [c₁] = run E s₀ h :=
    run_nonassign E [c₁] (run E s₀ h) (by intro c hcm; simp at hcm; rw [hcm, hst]; exact hl) alive
  rw [this]

/-- **Assignments persist.** If the line `a` is an accepted assignment (not a shortcut; `assign`
returns the new option record `c'`), then `c'` is the option record in effect after `a` followed by
any number of non-assignment lines — until it is changed by another assignment. -/
theorem assignments_persist (E : Env π ρ) (s : Session) (a : Str) (cs : List Str) (c' : Config)
    (hd : s.done = false)
    (hns : lookupShortcut s.stypes (trimSpace a) = none)
    (ha : isAssignInput (trimSpace a) = true)
    (hok : assign E.floatNorm s (trimSpace (splitEq (trimSpace a)).1) (splitEq (trimSpace a)).2 = .ok c')
    (hcs : ∀ c ∈ cs, isAssignLine s.stypes c = false) :
    cfgAfter E s (a :: cs) = c' := by
  unfold cfgAfter run
  have h1 : step E s a = ({ s with cfg := c' }, []) := by
    unfold step
    rw [expand_noShortcut hns, stepInputs_single E hd, stepInput_assign E s _ ha, hok]
  rw [h1]
  exact run_nonassign_cfg E cs _ hcs

/-- the value an accepted assignment to a plain string option stores: the text after `=`, comment
and surrounding blanks removed; every other option keeps its value. -/
theorem assignment_sets_value (fl : Str → Option Str) (s : Session) (f : FieldD) (rhs : Str) (c' : Config)
    (hf : lookupField f.name = some f) (hk : f.kind = .str) (hch : f.choices = [])
    (hn : (f.name == lit "sample_index") = false) (hkeys : f.name ∈ s.cfg.keys)
    (hok : assign fl s f.name (some rhs) = .ok c') :
    c'.get f.name = some (cleanValue rhs) ∧ ∀ m, m ≠ f.name → c'.get m = s.cfg.get m := by
  unfold assign at hok
  simp only [Option.isNone_some, Bool.false_and, Bool.false_eq_true, ↓reduceIte, hn] at hok
  unfold configure at hok
  simp only [hf, BEq.rfl, ↓reduceIte] at hok
  unfold setField at hok
  simp only [hk, hch, List.isEmpty_nil, ↓reduceIte] at hok
  cases hok
  exact ⟨get_put_same hkeys, fun m hm => get_put_other hm⟩

/-- the option record always has exactly the keys of the option table. -/
theorem options_keys_invariant (E : Env π ρ) (h : List Str) (s : Session)
    (hk : s.cfg.keys = defaultConfig.keys) : (cfgAfter E s h).keys = defaultConfig.keys :=
  (run_after E h s).keys.trans hk

/-- **Web requests.** Whatever requests were served before (views with any filters, downloads,
saving and deleting configurations), the report part of the response to a view request is a function
of the ORIGINAL copier bytes, the process options and the request's own URL parameters only. -/
theorem web_request_independent (E : WebEnv π ρ σ μ) (w : Web σ) (earlier : List Req) (e : Endpoint)
    (ps : List (Str × Str)) :
    (handle E (serve E w earlier) (.view e ps)).2.body = viewOutput E w.copier w.cfg e ps := by
  rw [handle_view, (serve_frame E earlier w).1, (serve_frame E earlier w).2]

/-- `/download` returns the original serialised profile after any sequence of requests. -/
theorem web_download_independent (E : WebEnv π ρ σ μ) (w : Web σ) (earlier : List Req) :
    (handle E (serve E w earlier) .download).2 = (.blob w.copier : Resp ρ μ) := by
  unfold handle
  simp only [(serve_frame E earlier w).1]

/-- With the codec of C01 as decoder: if the copier holds the serialisation of `P₀` and the codec
round trip gives `normalize P₀` (C01's `parse_serialize`, tied to profile/encode.go by C01's
correspondence), every report command after every live history is the report generator run on
`normalize P₀`. -/
theorem command_sees_normalized_profile (report : Profile → Config → List Str → ρ × Profile)
    (fl : Str → Option Str) (P₀ : Profile) (b : Str) (stypes : List Str) (dflt : Str)
    (h : List Str) (c : Str) (cmd : List Str) (vcfg : Config)
    (hser : Codec.serialize P₀ = .ok b)
    (hrt : Codec.parseUncompressed b = .ok (Codec.Profile.normalize P₀))
    (alive : (run ⟨Codec.parseUncompressed, report, fl⟩ (init b stypes dflt) h).done = false)
    (hc : isReportLine stypes c = true)
    (hp : parseCommandLine (cfgAfter ⟨Codec.parseUncompressed, report, fl⟩ (init b stypes dflt) h)
            (fields (trimSpace c)) = .ok (cmd, vcfg)) :
    (step ⟨Codec.parseUncompressed, report, fl⟩ (run ⟨Codec.parseUncompressed, report, fl⟩ (init b stypes dflt) h) c).2
      = [.report (report (Codec.Profile.normalize P₀) vcfg cmd).1] := by
  have _ := hser  -- says where `b` comes from; the proof needs only the round trip `hrt`
  rw [command_output_history_independent _ _ h c alive hc]
  unfold commandOutput
  cases hf : fields (trimSpace c) with
  | nil =>
    unfold isReportLine at hc
    rw [hf] at hc
    simp at hc
  | cons t0 rest =>
    rw [hf] at hp
    simp only [hp]
    simp only [init, hrt]

/-! ### non-vacuity: the hypotheses are met by ordinary sessions -/

section Examples

-- the session `exEnv` (its report generator mutates its argument), `exInit`, `exHistory` and the
-- evaluation `exSession_checks` are at the end of Lemmas/Session.lean

-- the history is live, the probe is a report line, and a mutating report precedes it
example : (run exEnv exInit exHistory).done = false := exSession_checks.1
example : isReportLine exInit.stypes (lit "top10 -cum") = true := exSession_checks.2.1
example : (exHistory.filter (isAssignLine exInit.stypes)) = [lit "focus=main //: comment", lit "cum=1"] :=
  exSession_checks.2.2.1
example : (cfgAfter exEnv exInit exHistory).get (lit "focus") = some (lit "main") ∧
          (cfgAfter exEnv exInit exHistory).get (lit "sort") = some (lit "cum") ∧
          (cfgAfter exEnv exInit exHistory).get (lit "nodecount") = some (lit "-1") ∧
          (cfgAfter exEnv exInit exHistory).get (lit "output") = some [] := exSession_checks.2.2.2.1
-- hypotheses of assignments_persist / assignment_sets_value
example : lookupShortcut exInit.stypes (trimSpace (lit "focus=main")) = none ∧
          isAssignInput (trimSpace (lit "focus=main")) = true ∧
          (assign exEnv.floatNorm exInit (lit "focus") (some (lit "main"))).toBool = true :=
  exSession_checks.2.2.2.2.1
example : ∃ f, lookupField f.name = some f ∧ f.kind = .str ∧ f.choices = [] ∧
    (f.name == lit "sample_index") = false ∧ f.name ∈ exInit.cfg.keys :=
  have h := exSession_checks.2.2.2.2.2.1
  ⟨mk "focus" .str "f" "", h.1, rfl, rfl, h.2⟩
example : exInit.cfg.keys = defaultConfig.keys := put_keys ..
-- shortcut lines are assignment lines; a command line with arguments is not
example : isAssignLine exInit.stypes (lit " total_cpu ") = true ∧ isAssignLine exInit.stypes (lit ":") = true ∧
          isAssignLine exInit.stypes (lit "top 5 foo") = false := exSession_checks.2.2.2.2.2.2

end Examples

/-! ## composed with C01 (and C02): the decoder is the real codec model

`command_sees_normalized_profile` takes the codec round trip as hypothesis `hrt`.  Here it is
discharged by C01's `parse_serialize` (through its lemma-level twin
`Codec.parse_serialize_normalize`, Lemmas/ComposeCodec.lean): the statement is now about `Codec.serialize` /
`Codec.parseUncompressed` (tied to profile/encode.go by C01's correspondence) for every profile
meeting C01's hypotheses; for a profile that itself came out of the parser (C02) only the size
side condition `EncSizes` remains. -/

/-- **Every report command sees the normalised original, with the real codec.**  For every valid
profile `P₀` with aligned units, key-sorted label maps, integers in their Go types and a
re-encoding within the size limits: `makeProfileCopier` succeeds (bytes `b`), and in the session
started from `b`, after EVERY live history `h`, EVERY report command line `c` produces exactly the
report generator's output on `normalize P₀` — whatever earlier commands did to their copies. -/
theorem command_sees_normalized_profile_codec (report : Profile → Config → List Str → ρ × Profile)
    (fl : Str → Option Str) (P₀ : Profile) (stypes : List Str) (dflt : Str)
    (hv : P₀.Valid) (ha : P₀.unitsAligned = true) (hs : P₀.mapsSorted = true) (hr : Codec.InRange P₀)
    (hz : ∀ x, Codec.preEncode P₀ = .ok x → Codec.EncSizes x) :
    ∃ b, Codec.serialize P₀ = .ok b ∧
      ∀ (h : List Str) (c : Str) (cmd : List Str) (vcfg : Config),
        (run ⟨Codec.parseUncompressed, report, fl⟩ (init b stypes dflt) h).done = false →
        isReportLine stypes c = true →
        parseCommandLine (cfgAfter ⟨Codec.parseUncompressed, report, fl⟩ (init b stypes dflt) h)
            (fields (trimSpace c)) = .ok (cmd, vcfg) →
        (step ⟨Codec.parseUncompressed, report, fl⟩
            (run ⟨Codec.parseUncompressed, report, fl⟩ (init b stypes dflt) h) c).2
          = [.report (report (Codec.Profile.normalize P₀) vcfg cmd).1] := by
  obtain ⟨b, hser, hrt⟩ := Codec.parse_serialize_normalize P₀ hv ha hs hr hz
  exact ⟨b, hser, fun h c cmd vcfg alive hc hp =>
    command_sees_normalized_profile report fl P₀ b stypes dflt h c cmd vcfg hser hrt alive hc hp⟩

/-- … and when `P₀` is itself what `ParseData` returned for some input file `b₀` (the CLI's
situation), validity, alignment, sortedness and the integer ranges are all consequences (C02);
only the size side condition on the re-encoding remains. -/
theorem command_sees_normalized_parsed_profile (report : Profile → Config → List Str → ρ × Profile)
    (fl : Str → Option Str) (b₀ : Str) (P₀ : Profile) (stypes : List Str) (dflt : Str)
    (hparse : Parse.parseData b₀ = .ok P₀)
    (hz : ∀ x, Codec.preEncode P₀ = .ok x → Codec.EncSizes x) :
    ∃ b, Codec.serialize P₀ = .ok b ∧
      ∀ (h : List Str) (c : Str) (cmd : List Str) (vcfg : Config),
        (run ⟨Codec.parseUncompressed, report, fl⟩ (init b stypes dflt) h).done = false →
        isReportLine stypes c = true →
        parseCommandLine (cfgAfter ⟨Codec.parseUncompressed, report, fl⟩ (init b stypes dflt) h)
            (fields (trimSpace c)) = .ok (cmd, vcfg) →
        (step ⟨Codec.parseUncompressed, report, fl⟩
            (run ⟨Codec.parseUncompressed, report, fl⟩ (init b stypes dflt) h) c).2
          = [.report (report (Codec.Profile.normalize P₀) vcfg cmd).1] := by
  obtain ⟨hv, ha, hs, hr⟩ := Parse.parseData_ok_contract b₀ P₀ hparse
  exact command_sees_normalized_profile_codec report fl P₀ stypes dflt hv ha hs hr hz

-- non-vacuity: the sample input of C02 is accepted; its result meets every hypothesis of both forms
example : Parse.parseData Parse.sampleBytes = .ok Parse.sampleParsed ∧
    Parse.sampleParsed.Valid ∧ Parse.sampleParsed.unitsAligned = true ∧ Parse.sampleParsed.mapsSorted = true ∧
    ∀ x, Codec.preEncode Parse.sampleParsed = .ok x → Codec.EncSizes x :=
  ⟨Parse.parseData_sampleBytes, by decide, by decide, by decide, Parse.sampleParsed_encSizes⟩

end PV.Props.C10
