import PprofVerif.Lemmas.Fetch
import PprofVerif.Gen.FetchConsts
import PprofVerif.Lemmas.ComposeParseMerge
import PprofVerif.Lemmas.ComposeMergeSpec
/-!
# C16 — Multi-source fetch merges whatever succeeded, independent of timing

Property theorems only (helper lemmas: `Lemmas/Fetch.lean`).  All statements are about the
executable model `Model/Fetch.lean` of `concurrentGrab` / `chunkedGrab` / `grabSourcesAndBases`
(internal/driver/fetch.go) and hold for ALL numbers of sources, ALL outcome functions
(`outs : Nat → Res ε α`, which source yields which profile or which error), ALL completion
orders and — where chunking is involved — EVERY chunk size `c ≥ 1` (the facts about the chunk loop of
the code are regenerated into `Gen/FetchConsts.lean` on every run).

What is assumed of `combineProfiles` is the explicit hypothesis `MergeSpec` (C03's subject); the
last section ("composed with C03") proves `MergeSpec` for C03's model of `profile.Merge` and restates
the main theorems for it.
The model is tied to the real code by `harness/c16.go` (driver.PProf with a fault-injecting,
delaying Fetcher plug-in) on every run.
-/
namespace PV.Props.C16
open PV PV.Fetch

variable {ε α β : Type}

/-- Writes to distinct slots commute: two completion orders that are permutations of each other
(the same goroutines finish, in any order, starting from ANY slot state) leave the same slots,
hence `concurrentGrab` prints the same lines and returns the same result. -/
theorem slots_independent_of_schedule (merge : List α → Outcome α) (outs : Nat → Res ε α)
    (π σ : List Nat) (h : π.Perm σ) :
    (∀ s : Slots ε α, runSchedule outs π s = runSchedule outs σ s) ∧
    (∀ off len, concurrentGrab merge outs off len π = concurrentGrab merge outs off len σ) := by
  refine ⟨runSchedule_perm outs h, ?_⟩
  intro off len
  unfold concurrentGrab
  rw [runSchedule_perm (fun i => outs (off + i)) h]

/-- Stronger form used for the whole fetch: ANY two complete schedules (every goroutine finishes
before the barrier opens — they need not even be permutations of each other), for the source
group and for the base group, give the same printed error lines and the same result of
`grabSourcesAndBases`; no assumption on `merge`, any chunk size. -/
theorem result_independent_of_schedule (merge : List α → Outcome α) (c : Nat)
    (souts : Nat → Res ε α) (n : Nat) (bouts : Nat → Res ε α) (m : Nat)
    (π π' σ σ' : List Nat) (hπ : Complete π n) (hπ' : Complete π' n)
    (hσ : Complete σ m) (hσ' : Complete σ' m) :
    grabSourcesAndBases merge c souts n π bouts m σ = grabSourcesAndBases merge c souts n π' bouts m σ' := by
  unfold grabSourcesAndBases chunkedGrab
  rw [chunkLoop_sched_indep merge souts c n π π' hπ hπ', chunkLoop_sched_indep merge bouts c m σ σ' hσ hσ']

/-- After the barrier the scan collects exactly the sources that succeeded, in command-line
(index) order, and hands them — in that order — to `combineProfiles`; `count` is their number. -/
theorem collect_is_successes_in_index_order (merge : List α → Outcome α) (outs : Nat → Res ε α)
    (off len : Nat) (π : List Nat) (hc : Complete π len) :
    (concurrentGrab merge outs off len π).res = mergeCollected merge (successes outs off len) ∧
    (successes outs off len).map (·.1) = (List.range' off len).filter (fun i => (outs i).isOk) ∧
    (∀ i p, (i, p) ∈ successes outs off len → outs i = .ok p) := by
  rw [concurrentGrab_complete merge outs off len π hc]
  exact ⟨rfl, successes_fst outs off len, fun i p h => (mem_successes h).2.2⟩

/-- Exactly one error line per failed source, in index order, carrying that source's error —
whatever `merge` does and whatever the completion order. -/
theorem errors_one_per_failure (merge : List α → Outcome α) (outs : Nat → Res ε α)
    (off len : Nat) (π : List Nat) (hc : Complete π len) :
    (concurrentGrab merge outs off len π).printed = failures outs off len ∧
    (failures outs off len).map (·.1) = (List.range' off len).filter (fun i => (outs i).isFail) ∧
    (∀ i e, (i, e) ∈ failures outs off len → outs i = .fail e) := by
  rw [concurrentGrab_complete merge outs off len π hc]
  exact ⟨rfl, failures_fst outs off len, fun i e h => (mem_failures h).2.2⟩

/-- For EVERY chunk size `c ≥ 1`: fetching in chunks and folding the chunk results with
`merge [p, chunkP]` prints the same lines, collects the same indices in the same order, counts
the same, and yields — on the abstraction `abs` — the same profile as one flat `concurrentGrab`
over all sources, namely the left-to-right sum of the successful sources (`GroupSpec`).
Hypotheses: `MergeSpec` (C03: merge succeeds on compatible valid profiles, `abs (merge ps) = Σ abs`,
the sum is associative), every fetched profile is `Good`, the barrier holds. -/
theorem chunked_eq_flat {merge : List α → Outcome α} {Good : α → Prop} {abs : α → β}
    {add : β → β → β} (hm : MergeSpec merge Good abs add) (outs : Nat → Res ε α) (c n : Nat)
    (hc1 : 1 ≤ c) (π : List Nat) (hg : ∀ i p, i < n → outs i = .ok p → Good p) (hc : Complete π n) :
    ∃ g g', chunkedGrab merge outs c n π = ⟨failures outs 0 n, .ok g⟩ ∧
      concurrentGrab merge outs 0 n π = ⟨failures outs 0 n, .ok g'⟩ ∧
      g.p.map abs = g'.p.map abs ∧ g.count = g'.count ∧ g.idx = g'.idx ∧
      GroupSpec Good abs add outs n (failures outs 0 n) g := by
  obtain ⟨g, h1, h2⟩ := chunkedGrab_spec hm outs c n hc1 π hg hc
  obtain ⟨g', h3, h4⟩ := concurrentGrab_spec hm outs n π hg hc
  exact ⟨g, g', h1, h3, (h2.agree h4).1, (h2.agree h4).2.1, (h2.agree h4).2.2, h2⟩

/-- The whole fetch fails iff no source — or no base when bases were requested — could be
fetched; it never panics; the error lines of both groups are one per failure even when it
fails; and when it succeeds the source/base profiles are the in-order sums of the successes
(the base profile is absent iff no bases were requested). -/
theorem fails_iff_group_empty {merge : List α → Outcome α} {Good : α → Prop} {abs : α → β}
    {add : β → β → β} (hm : MergeSpec merge Good abs add) (c : Nat) (hc1 : 1 ≤ c)
    (souts : Nat → Res ε α) (n : Nat) (π : List Nat)
    (bouts : Nat → Res ε α) (m : Nat) (σ : List Nat)
    (hgs : ∀ i p, i < n → souts i = .ok p → Good p) (hgb : ∀ i p, i < m → bouts i = .ok p → Good p)
    (hπ : Complete π n) (hσ : Complete σ m) :
    let r := grabSourcesAndBases merge c souts n π bouts m σ
    r.srcPrinted = failures souts 0 n ∧ r.basePrinted = failures bouts 0 m ∧
    (∀ s, r.res ≠ .panic s) ∧
    ((∃ e, r.res = .err e) ↔
      ((∀ i, i < n → (souts i).isFail = true) ∨ (0 < m ∧ ∀ j, j < m → (bouts j).isFail = true))) ∧
    (∀ b, r.res = .ok b →
      b.srcIdx = (successes souts 0 n).map (·.1) ∧ b.baseIdx = (successes bouts 0 m).map (·.1) ∧
      b.src.map abs = absSum add ((successes souts 0 n).map (fun x => abs x.2)) ∧
      b.base.map abs = absSum add ((successes bouts 0 m).map (fun x => abs x.2)) ∧
      b.src ≠ none ∧ (b.base = none ↔ m = 0)) := by
  intro r
  obtain ⟨gs, hs1, hS⟩ := chunkedGrab_spec hm souts c n hc1 π hgs hπ
  obtain ⟨gb, hb1, hB⟩ := chunkedGrab_spec hm bouts c m hc1 σ hgb hσ
  have hr : r = ⟨failures souts 0 n, failures bouts 0 m,
      if gs.count = 0 then .err "failed to fetch any source profiles"
      else if gb.count = 0 ∧ 0 < m then .err "failed to fetch any base profiles"
      else .ok ⟨gs.p, gb.p, gs.idx, gb.idx⟩⟩ := by
    show grabSourcesAndBases merge c souts n π bouts m σ = _
    unfold grabSourcesAndBases
    rw [hs1, hb1]
  obtain ⟨hp, he, hok⟩ := guarded_result (gs.count = 0) (gb.count = 0 ∧ 0 < m)
    "failed to fetch any source profiles" "failed to fetch any base profiles"
    (⟨gs.p, gb.p, gs.idx, gb.idx⟩ : Both α)
  rw [hr]
  refine ⟨rfl, rfl, hp, he.trans ?_, fun b hb => ?_⟩
  · rw [hS.count_eq_zero_iff, hB.count_eq_zero_iff, and_comm]
  · obtain ⟨h1, h2, rfl⟩ := hok b hb
    refine ⟨hS.idx, hB.idx, hS.abs_eq, hB.abs_eq, mt hS.p_eq_none_iff.mp h1,
      hB.p_eq_none_iff.trans ⟨fun h0 => Nat.eq_zero_of_not_pos fun hpos => h2 ⟨h0, hpos⟩, fun hm0 => ?_⟩⟩
    subst hm0
    exact hB.count_eq_zero_iff.mpr fun i hi => absurd hi (Nat.not_lt_zero i)

/-! ### the facts regenerated from the current source (`Gen/FetchConsts.lean`)

The translator emits what it RECOGNISES (`none`/"unknown" otherwise — the dynamic checks of
`harness/c16.go` then carry that fact alone), so the obligations are conditional. -/

/-- When recognised: the chunk size of the code is positive, consecutive chunks start exactly one
chunk length apart (no source skipped, none fetched twice) and no chunk exceeds the chunk size —
the shape `Fetch.chunkLoop` has for `c = chunkSize`. Re-decided by the kernel on every run. -/
theorem extracted_chunking_wellformed :
    (∀ c, Gen.FetchConsts.chunkSize? = some c → 1 ≤ c) ∧
    (∀ a b, Gen.FetchConsts.chunkStep? = some a → Gen.FetchConsts.chunkSpan? = some b →
      a = b ∧ 1 ≤ a ∧ ∀ c, Gen.FetchConsts.chunkSize? = some c → b ≤ c) :=
  chunkFactsOk_spec _ _ _ (by decide)

/-- `chunked_eq_flat` at the chunk size of the code (when recognised). -/
theorem chunked_eq_flat_extracted {merge : List α → Outcome α} {Good : α → Prop} {abs : α → β}
    {add : β → β → β} (hm : MergeSpec merge Good abs add) (outs : Nat → Res ε α) (n : Nat)
    (π : List Nat) (hg : ∀ i p, i < n → outs i = .ok p → Good p) (hc : Complete π n)
    (c : Nat) (hcs : Gen.FetchConsts.chunkSize? = some c) :
    ∃ g, chunkedGrab merge outs c n π = ⟨failures outs 0 n, .ok g⟩ ∧
      GroupSpec Good abs add outs n (failures outs 0 n) g :=
  chunkedGrab_spec hm outs c n (extracted_chunking_wellformed.1 c hcs) π hg hc

/-! ### sources described by scheme / trust (URL sources through the real transport) -/

/-- Corollary for described sources (`https` needs a trusted certificate, `https+insecure` does
not, …): which sources are merged and which get an error line is a function of the source list
alone — source `i` is collected iff ITS OWN description is fetchable — and the whole result is the
same under any two complete completion orders of the two groups. -/
theorem described_sources_outcome_is_per_source (merge : List (List Nat) → Outcome (List Nat)) (c : Nat)
    (ds bs : List SrcDesc) (π π' σ σ' : List Nat)
    (hπ : Complete π ds.length) (hπ' : Complete π' ds.length)
    (hσ : Complete σ bs.length) (hσ' : Complete σ' bs.length) :
    grabSourcesAndBases merge c (outsOfDescs 0 ds) ds.length π (outsOfDescs 1000000 bs) bs.length σ
      = grabSourcesAndBases merge c (outsOfDescs 0 ds) ds.length π' (outsOfDescs 1000000 bs) bs.length σ' ∧
    (successes (outsOfDescs 0 ds) 0 ds.length).map (·.1)
      = (List.range' 0 ds.length).filter (fun i => (ds[i]?.map SrcDesc.fetchable).getD false) ∧
    (failures (outsOfDescs 0 ds) 0 ds.length).map (·.1)
      = (List.range' 0 ds.length).filter (fun i => !(ds[i]?.map SrcDesc.fetchable).getD false) := by
  refine ⟨result_independent_of_schedule merge c _ _ _ _ π π' σ σ' hπ hπ' hσ hσ', ?_, ?_⟩
  · rw [successes_fst]
    exact List.filter_congr fun i _ => outsOfDescs_isOk 0 ds i
  · rw [failures_fst]
    exact List.filter_congr fun i _ => outsOfDescs_isFail 0 ds i

-- an untrusted https source fails, the https+insecure source next to it succeeds, in either order
example :
    let ds := [⟨.https, false, true⟩, ⟨.httpsInsecure, false, true⟩, ⟨.https, true, true⟩, ⟨.http, false, false⟩]
    (chunkedGrab catMerge (outsOfDescs 0 ds) 128 4 [1, 0, 3, 2]).res = .ok ⟨some [1, 2], 2, [1, 2]⟩ ∧
    (chunkedGrab catMerge (outsOfDescs 0 ds) 128 4 [0, 2, 3, 1]).res = .ok ⟨some [1, 2], 2, [1, 2]⟩ := by
  decide +kernel

/-! ### units -/

/-- The merged value of a stack whose sources report it in different units (`unitSum`: finest
factor, sum converted to it) depends on the multiset of the successful sources' `(factor, value)`
pairs only — not on their command-line order, hence not on which failing sources stand between
them or on the completion order. -/
theorem unit_sum_order_independent (l l' : List (Nat × Nat)) (h : l.Perm l') : unitSum l = unitSum l' := by
  unfold unitSum
  rw [minFactor_perm h]
  cases minFactor l' with
  | none => rfl
  | some m => simp only [convertedSum_perm m h]

-- [ms 5, ns 7] and [ns 7, ms 5] both give 5·10⁶ + 7 ns
example : unitSum [(1000000, 5), (1, 7)] = (1, 5000007) ∧ unitSum [(1, 7), (1000000, 5)] = (1, 5000007) := by decide +kernel

/-! ### sample types -/

/-- A sample type survives the merge iff EVERY fetched source has it — so the set of surviving
types does not depend on the order of the sources (only the order in which they are listed does:
it is the first source's), nor on where failing sources stand between them. -/
theorem commonTypes_perm (l l' : List (List Nat)) (h : l.Perm l') (hne : l ≠ []) (t : Nat) :
    (t ∈ commonTypes l ↔ ∀ s, s ∈ l → t ∈ s) ∧ (t ∈ commonTypes l ↔ t ∈ commonTypes l') := by
  have hne' : l' ≠ [] := fun h0 => hne (List.Perm.eq_nil (h0 ▸ h))
  refine ⟨mem_commonTypes hne t, ?_⟩
  rw [mem_commonTypes hne, mem_commonTypes hne']
  exact ⟨fun h0 s hs => h0 s (h.mem_iff.2 hs), fun h0 s hs => h0 s (h.mem_iff.1 hs)⟩

-- [samples cpu], [cpu], [cpu samples]: only cpu survives, wherever the middle source stands
example : commonTypes [[1, 2], [2], [2, 1]] = [2] ∧ commonTypes [[1, 2], [2, 1], [2]] = [2] ∧
    commonTypes [[1], [2], [3]] = [] := by decide +kernel

/-! ### non-vacuity: the hypotheses are met by a non-trivial instance, and the barrier matters -/

-- `MergeSpec` is satisfiable by an order-SENSITIVE merge (concatenation: the free monoid)
example : MergeSpec catMerge (fun _ => True) (fun x => x) (· ++ ·) := catMerge_spec

-- 5 sources, #1 and #3 fail, chunk size 2, two different completion orders: same result,
-- successes in index order, one line per failure
example :
    let outs := outsOfBits 0 [true, false, true, false, true]
    (chunkedGrab catMerge outs 2 5 [4, 0, 3, 1, 2]).res = .ok ⟨some [0, 2, 4], 3, [0, 2, 4]⟩ ∧
    (chunkedGrab catMerge outs 2 5 [2, 1, 0, 4, 3]).res = .ok ⟨some [0, 2, 4], 3, [0, 2, 4]⟩ ∧
    (chunkedGrab catMerge outs 2 5 [4, 0, 3, 1, 2]).printed = [(1, ()), (3, ())] ∧
    Complete [4, 0, 3, 1, 2] 5 := by
  refine ⟨rfl, rfl, rfl, ?_⟩
  show ∀ i, i < 5 → i ∈ [4, 0, 3, 1, 2]
  decide +kernel

-- without the barrier (goroutine 1 has not finished) the scan reads an unwritten slot: panic
example : ∃ s, (concurrentGrab catMerge (outsOfBits 0 [true, true]) 0 2 [0]).res = .panic s :=
  ⟨_, rfl⟩

-- all sources fail ⇒ overall failure, yet one line per failed source
example :
    let r := grabSourcesAndBases catMerge 2 (outsOfBits 0 [false, false, false]) 3 [2, 0, 1]
      (outsOfBits 100 []) 0 []
    r.res = .err "failed to fetch any source profiles" ∧ r.srcPrinted.length = 3 :=
  ⟨rfl, rfl⟩

/-! ## composed with C03 (and C02): `merge` is the model of `profile.Merge`

`MergeSpec` is no longer an assumption: `Merge.merge_mergeSpec` (Lemmas/ComposeMergeSpec.lean)
proves it for C03's model of `profile.Merge` with `abs p = Spec.weight p` (the weight function
`StackKey → value vector`), `add = Merge.addW` (pointwise element-wise int64 sum) and
`Good = Merge.GoodFor st pt` (valid, int64-typed, sample types `st`, period type `pt` — the
profiles `Merge` accepts together).  What remains outside: `combineProfiles` also calls
`CompatibilizeSampleTypes` and `ScaleProfiles` before `profile.Merge` (C07's subject); the
statements below are about fetched profiles that already share their sample types. -/

/-- **`chunked_eq_flat` for the real merge model.**  For every chunk size `c ≥ 1`, every outcome
function whose successful profiles are valid, well typed and share sample types `st` and period
type `pt`, and every complete schedule: fetching in chunks and folding with `Merge [p, chunkP]`
prints the same lines, collects the same indices, counts the same, and returns a profile with the
SAME WEIGHT for every stack as one flat `concurrentGrab` + `Merge` over all sources — namely the
element-wise int64 sum of the weights of the successful sources, in command-line order. -/
theorem chunked_eq_flat_for_merge (st : List ValueType) (pt : ValueType) (outs : Nat → Res ε Profile)
    (c n : Nat) (hc1 : 1 ≤ c) (π : List Nat)
    (hg : ∀ i p, i < n → outs i = .ok p → Merge.GoodFor st pt p) (hc : Complete π n) :
    ∃ g g', chunkedGrab Merge.merge outs c n π = ⟨failures outs 0 n, .ok g⟩ ∧
      concurrentGrab Merge.merge outs 0 n π = ⟨failures outs 0 n, .ok g'⟩ ∧
      g.count = g'.count ∧ g.idx = g'.idx ∧ (g.p = none ↔ g'.p = none) ∧
      (∀ p p', g.p = some p → g'.p = some p' → ∀ k, Spec.weight p k = Spec.weight p' k) ∧
      GroupSpec (Merge.GoodFor st pt) (fun p => (Spec.weight p : Merge.WeightFn)) Merge.addW outs n
        (failures outs 0 n) g := by
  obtain ⟨g, g', h1, h2, h3, h4, h5, h6⟩ :=
    chunked_eq_flat (Merge.merge_mergeSpec st pt) outs c n hc1 π hg hc
  refine ⟨g, g', h1, h2, h4, h5, ?_, ?_, h6⟩
  · cases hgp : g.p <;> cases hgp' : g'.p <;> simp [hgp, hgp'] at h3 ⊢
  · intro p p' hp hp' k
    rw [hp, hp'] at h3
    simp only [Option.map_some, Option.some.injEq] at h3
    exact congrFun h3 k

/-- … and the merged source profile weighs, at every stack, the left-to-right element-wise int64
sum of the successful sources' weights (the explicit form of `GroupSpec.abs_eq`). -/
theorem chunked_weight_is_sum_for_merge (st : List ValueType) (pt : ValueType) (outs : Nat → Res ε Profile)
    (c n : Nat) (hc1 : 1 ≤ c) (π : List Nat)
    (hg : ∀ i p, i < n → outs i = .ok p → Merge.GoodFor st pt p) (hc : Complete π n)
    (g : Grab Profile) (hgr : chunkedGrab Merge.merge outs c n π = ⟨failures outs 0 n, .ok g⟩)
    (r : Profile) (hr : g.p = some r) (k : Spec.StackKey) :
    ∃ x xs, successes outs 0 n = x :: xs ∧
      Spec.weight r k = (xs.map (fun y => Spec.weight y.2 k)).foldl Spec.addV (Spec.weight x.2 k) := by
  obtain ⟨g0, h1, h6⟩ := chunkedGrab_spec (Merge.merge_mergeSpec st pt) outs c n hc1 π hg hc
  rw [hgr] at h1
  obtain rfl : g = g0 := by injection h1 with _ h1; injection h1
  obtain ⟨x, xs, hs, habs⟩ := h6.abs_of_some hr
  exact ⟨x, xs, hs, by rw [congrFun habs k, Merge.foldl_addW_apply, List.map_map]; rfl⟩

/-- every profile `ParseData` accepts (C02) with the agreed sample types and period type is `Good`:
the hypothesis `hg` of the theorems above holds for whatever the fetcher parsed. -/
theorem parsed_profile_good (b : Wire.Bytes) (p : Profile) (st : List ValueType) (pt : ValueType)
    (h : Parse.parseData b = .ok p) (hst : p.sampleType = st) (hpt : p.periodType = some pt) :
    Merge.GoodFor st pt p := by
  obtain ⟨hv, ht⟩ := Merge.parsed_valid_typed b p h
  exact ⟨hv, ht, hst, hpt⟩

-- non-vacuity: the sample input of C02 yields a `Good` profile
example : Merge.GoodFor [⟨[97], [98]⟩] ⟨[], []⟩ Parse.sampleParsed :=
  parsed_profile_good Parse.sampleBytes _ _ _ Parse.parseData_sampleBytes rfl rfl

end PV.Props.C16
