import PprofVerif.Lemmas.ElfBase
import PprofVerif.Lemmas.ElfNm
/-!
# C13 — Sample addresses map to the right link-time address in ELF binaries

Property theorems only (helper lemmas: `Lemmas/ElfBase.lean`, `Lemmas/ElfNm.lean`).  They are about
the executable model `Model/Elf.lean` (tied to `internal/elfexec`, `internal/binutils` on every run
by the correspondence harness `harness/c13.go`) and the loader specification `Spec/ElfLoader.lean`.

FULL STATEMENT of the property (for every loader page size and every bias):

    LoaderLayout page seg B v0 v1 m → seg ∈ f.progs → UserMapping m → InSegment seg B m x →
      objAddr m f x = .ok (x - B) ∨ ∃ e, objAddr m f x = .err e

It is FALSE of the model (and of the code, replayed by corpus/C13/*.json):
* `objAddr_wrong_with_64k_runtime_pages` — `page = 65536` (the code hard-wires 4096 in
  `ProgramHeadersForMapping`; finding C13/base/runtime-page-64k);
* `objAddr_wrong_when_dyn_bias_eq_segment_offset` — `ET_DYN`, `B = seg.off`, mapping not at the
  segment start: the first kernel heuristic of `kernelBase` fires (finding
  C13/base/dyn-bias-equals-segment-offset).
What is proved is the statement under the two explicit hypotheses `page = 4096` and
`¬ KernelLookalike` (`objAddr_correct_or_error`), for all inputs.
-/
namespace PV.Props.C13
open PV PV.Elf

/-! ## GetBase -/

/-- User-space branch of `GetBase` (`ET_EXEC` and `ET_DYN`): for a mapping that starts at
`B + v0` with file offset `Off + (v0 − Vaddr)` the base is the load bias `B`.  All arithmetic is
`uint64` arithmetic: the identity holds with wrap-around (no ordering between `v0`, `Vaddr`, `Off`,
`B` is assumed, `v0` is arbitrary).  The branch conditions are the code's: the mapping starts in
`(0, 2^63)` and no kernel relocation symbol was read; `¬ KernelLookalike` excludes the one
`ET_DYN` configuration that the first kernel heuristic captures. -/
theorem getBase_user_eq_bias (ty : Nat) (seg : ProgHeader) (B v0 limit : Nat)
    (hty : ty = etExec ∨ ty = etDyn)
    (hB : B < two64) (ho : seg.off < two64) (hv : seg.vaddr < two64)
    (hstart : 0 < add64 B v0 ∧ add64 B v0 < two63)
    (hk : ¬ KernelLookalike ty seg B v0) :
    getBase ty (some seg) none (add64 B v0) limit (add64 seg.off (sub64 v0 seg.vaddr)) = .ok B :=
  getBase_user hty hB ho hv hstart hk

-- hypotheses satisfiable, also with wrap-around (v0 < Vaddr, Off > B+v0) and Off ≢ Vaddr (mod 2^32)
example : (0 < add64 0x7f0000000000 0x1000 ∧ add64 0x7f0000000000 0x1000 < two63) ∧
    ¬ KernelLookalike etDyn ⟨1, 5, 0x5f0, 0x3000002015f0, 0x800, 0x800⟩ 0x7f0000000000 0x1000 := by decide

/-- What the other documented branches return (for all inputs): the whole-address-space fake mapping
needs no adjustment; `ET_REL` uses the mapping start and refuses a file offset; a header-less
`ET_DYN` uses `start − offset`; `GetBase` never panics. -/
theorem getBase_other_branches (ty : Nat) (seg : Option ProgHeader) (st : Option Nat) (start limit offset : Nat) :
    (start = 0 → offset = 0 → (limit = two64 - 1 ∨ limit = 0) → getBase ty seg st start limit offset = .ok 0) ∧
    (ty = etRel → start ≠ 0 → offset = 0 → getBase ty seg st start limit offset = .ok start) ∧
    (ty = etRel → offset ≠ 0 → ∃ e, getBase ty seg st start limit offset = .err e) ∧
    (ty = etDyn → seg = none → start ≠ 0 → getBase ty seg st start limit offset = .ok (sub64 start offset)) ∧
    (∀ s, getBase ty seg st start limit offset ≠ .panic s) := by
  refine ⟨?_, ?_, ?_, ?_, ?_⟩
  · intro h1 h2 h3; simp [getBase, h1, h2, h3]
  · intro h1 h2 h3; simp [getBase, h1, h2, h3, etRel, etExec]
  · intro h1 h2; exact ⟨"don't know how to handle mapping.Offset", by simp [getBase, h1, h2, etRel, etExec]⟩
  · intro h1 h2 h3; simp [getBase, h1, h2, h3, etRel, etExec, etDyn]
  · intro s; exact getBase_no_panic

/-! ## ProgramHeadersForMapping -/

/-- Under the loader model with 4 KiB runtime pages (the constant the code documents) the owning
segment is always among the candidates `ProgramHeadersForMapping` returns — whatever the other
program headers are, for every bias, split and alignment. -/
theorem trueSegment_in_candidates (phdrs : List ProgHeader) (seg : ProgHeader) (B v0 v1 : Nat) (m : Mapping)
    (hmem : seg ∈ phdrs) (hL : LoaderLayout 4096 seg B v0 v1 m) :
    seg ∈ programHeadersForMapping phdrs m.offset (sub64 m.limit m.start) :=
  List.mem_filter.2 ⟨hmem, phfmKeep_of_layout hL⟩

/-- … and every candidate is a `PT_LOAD` header with file content (zero-filesz segments, whose file
offsets are unreliable, are never selected) taken from the input in order. -/
theorem candidates_are_loadable (phdrs : List ProgHeader) (mo ms : Nat) :
    (programHeadersForMapping phdrs mo ms).Sublist phdrs ∧
    ∀ p ∈ programHeadersForMapping phdrs mo ms, p.ptype = ptLoad ∧ p.filesz ≠ 0 :=
  ⟨List.filter_sublist, fun _ hp => phfmKeep_imp (List.mem_filter.1 hp).2⟩

/-! ## HeaderForFileOffset -/

/-- `HeaderForFileOffset` returns a header exactly when one header (counted by position) contains the
file offset in `[Off, Off+Memsz)`, and then that header; in every other case — none or several —
it returns an error.  It never panics. -/
theorem headerForFileOffset_unique_or_error (hs : List ProgHeader) (fo : Nat) :
    (∃ h, headerForFileOffset hs fo = .ok h ∧ hs.filter (hffoMatch fo) = [h]) ∨
    (∃ e, headerForFileOffset hs fo = .err e ∧ (hs.filter (hffoMatch fo)).length ≠ 1) :=
  hffo_char hs fo

/-! ## computeBase / ObjAddr -/

/-- **Main theorem.**  An object `f` (ET_EXEC or ET_DYN, arbitrary program headers) is loaded at bias
`B`; `m` is a runtime mapping of the file image of its segment `seg` as the loader creates it with
4 KiB pages; `x` is an address of that segment inside the mapping.  Then `ObjAddr x` is `x − B`
(the link-time address) or an error — never another address.  Moreover an error is returned only
when the owning segment cannot be identified uniquely by the sample's file offset. -/
theorem objAddr_correct_or_error (f : File) (seg : ProgHeader) (B v0 v1 : Nat) (m : Mapping) (x : Nat)
    (hty : f.etype = etExec ∨ f.etype = etDyn) (hmem : seg ∈ f.progs)
    (hL : LoaderLayout 4096 seg B v0 v1 m)              -- runtimePage = 4096
    (hu : UserMapping m)
    (hk : ¬ KernelLookalike f.etype seg B v0)
    (hx : InSegment seg B m x) :
    objAddr m f x = .ok (x - B) ∨
    ∃ e, objAddr m f x = .err e ∧ ¬ OnlyOwner f (add64 (sub64 x m.start) m.offset) seg := by
  have ⟨hx1, hx2, hx3, _⟩ := hx
  have hsub : sub64 x B = x - B :=
    sub64_of_le (by omega) (by have := hu.2.2; unfold two63 two64 at *; omega)
  unfold objAddr computeBase
  rw [if_neg (by omega : ¬ (x < m.start ∨ x ≥ m.limit))]
  rcases findProgramHeader_layout hmem hL hu hx with h | ⟨e, h, hno⟩
  · left; rw [h]; simp [getBase_layout hty hL hu hk, hsub]
  · right; rw [h]; exact ⟨e, rfl, hno⟩

/-- Corollary: when exactly one loadable segment claims the sample's file offset the translation
succeeds with the right address. -/
theorem objAddr_correct_when_unambiguous (f : File) (seg : ProgHeader) (B v0 v1 : Nat) (m : Mapping) (x : Nat)
    (hty : f.etype = etExec ∨ f.etype = etDyn) (hmem : seg ∈ f.progs)
    (hL : LoaderLayout 4096 seg B v0 v1 m) (hu : UserMapping m)
    (hk : ¬ KernelLookalike f.etype seg B v0) (hx : InSegment seg B m x)
    (hun : OnlyOwner f (add64 (sub64 x m.start) m.offset) seg) :
    objAddr m f x = .ok (x - B) := by
  rcases objAddr_correct_or_error f seg B v0 v1 m x hty hmem hL hu hk hx with h | ⟨_, _, hno⟩
  · exact h
  · exact absurd hun hno

/-- gcc -pie hello world (readelf -lW), loaded at 0x555555554000. -/
def exPie : File := ⟨etDyn,
  [⟨1, 4, 0x0, 0x0, 0x618, 0x618⟩, ⟨1, 5, 0x1000, 0x1000, 0x189, 0x189⟩,
   ⟨1, 4, 0x2000, 0x2000, 0x10c, 0x10c⟩, ⟨1, 6, 0x2dd0, 0x3dd0, 0x24c, 0x1210⟩], []⟩
def exPieText : ProgHeader := ⟨1, 5, 0x1000, 0x1000, 0x189, 0x189⟩
def exPieMap : Mapping := ⟨0x555555555000, 0x555555556000, 0x1000, none⟩

-- the hypotheses of the main theorem hold for this binary, and both conclusions are inhabited
example : (exPie.etype = etExec ∨ exPie.etype = etDyn) ∧ exPieText ∈ exPie.progs ∧
    LoaderLayout 4096 exPieText 0x555555554000 0x1000 0x2000 exPieMap ∧ UserMapping exPieMap ∧
    ¬ KernelLookalike exPie.etype exPieText 0x555555554000 0x1000 ∧
    InSegment exPieText 0x555555554000 exPieMap 0x555555555139 ∧
    OnlyOwner exPie (add64 (sub64 0x555555555139 exPieMap.start) exPieMap.offset) exPieText ∧
    objAddr exPieMap exPie 0x555555555139 = .ok 0x1139 := by decide

/-- gold-style layout: text at file offset 0 with bss-like tail overlapping the next segment's
file range (Memsz > Filesz in a non-last segment): the RW mapping at file page 0 is ambiguous. -/
def exAmb : File := ⟨etDyn,
  [⟨1, 5, 0x0, 0x0, 0x7f8, 0xf00⟩, ⟨1, 6, 0xdc0, 0x1dc0, 0x268, 0x1240⟩], []⟩
example : LoaderLayout 4096 ⟨1, 6, 0xdc0, 0x1dc0, 0x268, 0x1240⟩ 0x7f1234560000 0x1000 0x2000
      ⟨0x7f1234561000, 0x7f1234562000, 0, none⟩ ∧
    InSegment ⟨1, 6, 0xdc0, 0x1dc0, 0x268, 0x1240⟩ 0x7f1234560000 ⟨0x7f1234561000, 0x7f1234562000, 0, none⟩ 0x7f1234561dd0 ∧
    (objAddr ⟨0x7f1234561000, 0x7f1234562000, 0, none⟩ exAmb 0x7f1234561dd0).cls = "err" := by decide

/-! ### the full statement fails without the two hypotheses (witnesses, replayed on the Go code) -/

/-- lld-style layout on a 64 KiB-page kernel (text follows read-only data in the same file pages):
the layout is loader-consistent for `page = 65536`, every other hypothesis holds, and `ObjAddr`
returns a wrong address (off by one 64 KiB page).  corpus/C13/known-runtime-page-64k.json -/
theorem objAddr_wrong_with_64k_runtime_pages :
    let f : File := ⟨etDyn, [⟨1, 4, 0, 0, 0x15f0, 0x15f0⟩, ⟨1, 5, 0x15f0, 0x115f0, 0x800, 0x800⟩], []⟩
    let seg : ProgHeader := ⟨1, 5, 0x15f0, 0x115f0, 0x800, 0x800⟩
    let B := 0xaaaaaaaa0000
    let m : Mapping := ⟨0xaaaaaaab0000, 0xaaaaaaac0000, 0, none⟩
    let x := 0xaaaaaaab1600
    seg ∈ f.progs ∧ LoaderLayout 65536 seg B 0x10000 0x20000 m ∧ UserMapping m ∧
    ¬ KernelLookalike f.etype seg B 0x10000 ∧ InSegment seg B m x ∧
    seg ∉ programHeadersForMapping f.progs m.offset (sub64 m.limit m.start) ∧
    objAddr m f x = .ok 0x1600 ∧ x - B = 0x11600 := by decide

/-- ET_DYN object with first vaddr 0x3550000 loaded at bias 0 (= file offset of its first segment,
e.g. a prelinked library); the mapping is the second page of the segment.  Every hypothesis of the
main theorem holds except `¬ KernelLookalike`, and `ObjAddr` is off by the mapping's file offset.
corpus/C13/known-dyn-bias-equals-segment-offset.json -/
theorem objAddr_wrong_when_dyn_bias_eq_segment_offset :
    let f : File := ⟨etDyn, [⟨1, 5, 0, 0x3550000, 0x2345, 0x2345⟩], []⟩
    let seg : ProgHeader := ⟨1, 5, 0, 0x3550000, 0x2345, 0x2345⟩
    let m : Mapping := ⟨0x3551000, 0x3552000, 0x1000, none⟩
    seg ∈ f.progs ∧ LoaderLayout 4096 seg 0 0x3551000 0x3552000 m ∧ UserMapping m ∧
    KernelLookalike f.etype seg 0 0x3551000 ∧ InSegment seg 0 m 0x3551234 ∧
    objAddr m f 0x3551234 = .ok 0x3550234 := by decide

/-- `Open`+`ObjAddr` never panic, whatever the headers, mapping and address. -/
theorem objAddr_never_panics (m : Mapping) (f : File) (x : Nat) (e : String) : objAddr m f x ≠ .panic e := by
  unfold objAddr
  split
  · simp
  · simp
  · next h => exact absurd h computeBase_no_panic

/-! ## nm symbol lookup -/

/-- On every table sorted by start address (duplicates, zero sizes and any mix of symbol types
allowed) the lookup never panics and never errs, and when it returns a symbol, that symbol has
the greatest start address not above the looked-up address. -/
theorem nmSearch_greatest_le (m : List Sym) (addr : Nat) (hs : SortedByAddr m) :
    addrInfo m addr = .ok none ∨
    ∃ i s, addrInfo m addr = .ok (some i) ∧ m[i]? = some s ∧ s.address ≤ addr ∧
      ∀ t ∈ m, t.address ≤ addr → t.address ≤ s.address := by
  rcases addrInfo_cases m addr hs with ⟨h, _⟩ | ⟨r, s, hr, hle, hgr, h⟩
  · exact Or.inl h
  · by_cases hc : s.isData = true ∧ addr ≥ add64 s.address s.size
    · rw [if_pos hc] at h; exact Or.inl h
    · rw [if_neg hc] at h; exact Or.inr ⟨r, s, h, hr, hle, hgr⟩

/-- A data symbol (nm types b B d D r R v V W) is returned only for addresses inside
`[start, start+size)`. -/
theorem nmSearch_data_within_size (m : List Sym) (addr : Nat) (hs : SortedByAddr m) (i : Nat) (s : Sym)
    (h : addrInfo m addr = .ok (some i)) (hi : m[i]? = some s) (hd : s.isData = true) :
    s.address ≤ addr ∧ addr < add64 s.address s.size := by
  rcases addrInfo_cases m addr hs with ⟨h', _⟩ | ⟨r, s', hr, hle, _, h'⟩
  · rw [h'] at h; cases h
  · by_cases hc : s'.isData = true ∧ addr ≥ add64 s'.address s'.size
    · rw [if_pos hc, h] at h'; cases h'
    · rw [if_neg hc, h] at h'
      cases h'
      rw [hr] at hi; cases hi
      exact ⟨hle, Nat.lt_of_not_le fun hge => hc ⟨hd, hge⟩⟩

/-- Completeness: "no symbol" is answered only for an empty table, below the first start, at or
beyond the end of the last symbol, or when the symbol with the greatest start ≤ addr is a data
symbol that ends at or before the address. -/
theorem nmSearch_none_only_when_outside (m : List Sym) (addr : Nat) (hs : SortedByAddr m)
    (h : addrInfo m addr = .ok none) :
    m = [] ∨ (∃ f, m.head? = some f ∧ addr < f.address) ∨
    (∃ l, m.getLast? = some l ∧ addr ≥ add64 l.address l.size) ∨
    (∃ s ∈ m, s.isData = true ∧ s.address ≤ addr ∧ addr ≥ add64 s.address s.size ∧
      ∀ t ∈ m, t.address ≤ addr → t.address ≤ s.address) := by
  rcases addrInfo_cases m addr hs with ⟨_, h0 | h1 | h2⟩ | ⟨r, s, hr, hle, hgr, h'⟩
  · exact .inl h0
  · exact .inr (.inl h1)
  · exact .inr (.inr (.inl h2))
  · by_cases hc : s.isData = true ∧ addr ≥ add64 s.address s.size
    · exact .inr (.inr (.inr ⟨s, List.mem_of_getElem? hr, hc.1, hle, hc.2, hgr⟩))
    · rw [if_neg hc, h] at h'; cases h'

/-- Inclusive-end rule: between two consecutive table entries every address of the half-open range
`[start, next start)` — its last byte `next start − 1` included — is owned by the group that starts
at `start`: the lookup succeeds and returns a symbol with exactly that start (function symbols;
the address lies below the end of the last symbol, the lookup's documented upper guard). -/
theorem nmSearch_owns_half_open_range (m : List Sym) (addr : Nat) (hs : SortedByAddr m)
    (j : Nat) (s nxt : Sym) (hj : m[j]? = some s) (hn : m[j + 1]? = some nxt)
    (h1 : s.address ≤ addr) (h2 : addr < nxt.address)
    (hlast : ∀ l, m.getLast? = some l → addr < add64 l.address l.size)
    (hfun : ∀ t ∈ m, t.address = s.address → t.isData = false) :
    ∃ i t, addrInfo m addr = .ok (some i) ∧ m[i]? = some t ∧ t.address = s.address := by
  have hsm : s ∈ m := List.mem_of_getElem? hj
  -- any table symbol with start ≤ addr that dominates all such starts sits at s's start
  have key : ∀ t ∈ m, t.address ≤ addr → (∀ u ∈ m, u.address ≤ addr → u.address ≤ t.address) →
      t.address = s.address := by
    intro t ht hta hgr
    have hge : s.address ≤ t.address := hgr s hsm h1
    obtain ⟨k, hk⟩ := List.getElem?_of_mem ht
    by_cases hkj : k ≤ j
    · have := sorted_idx hs hkj hk hj
      omega
    · have := sorted_idx hs (by omega) hn hk
      omega
  rcases addrInfo_cases m addr hs with ⟨_, h0 | ⟨f, hf, hlt⟩ | ⟨l, hl, hge⟩⟩ | ⟨i, t, hi, hle, hgr, hok⟩
  · subst h0; simp at hj
  · have := sorted_idx hs (Nat.zero_le _) (List.head?_eq_getElem? ▸ hf) hj
    omega
  · have := hlast l hl
    omega
  · have ht := List.mem_of_getElem? hi
    have he := key t ht hle hgr
    rw [if_neg fun hc => by rw [hfun t ht he] at hc; cases hc.1] at hok
    exact ⟨i, t, hok, hi, he⟩

-- the last byte before the next symbol, for a zero-size function followed by a gap
example : addrInfo [⟨0x1000, 0x20, false⟩, ⟨0x1040, 0, false⟩, ⟨0x2000, 8, false⟩] 0x1fff = .ok (some 1) := by decide

-- a sorted table with duplicate starts, a zero-size function and a data symbol; lookups inside,
-- between and beyond (indices into the table)
example :
    let m : List Sym := [⟨0x1000, 0x20, false⟩, ⟨0x1000, 0, false⟩, ⟨0x1040, 0, false⟩, ⟨0x2000, 8, true⟩, ⟨0x2010, 0x10, false⟩]
    SortedByAddr m ∧ addrInfo m 0x1030 = .ok (some 1) ∧ addrInfo m 0x1fff = .ok (some 2) ∧
    addrInfo m 0x2007 = .ok (some 3) ∧ addrInfo m 0x2008 = .ok none ∧ addrInfo m 0xfff = .ok none ∧
    addrInfo m 0x2020 = .ok none := by
  refine ⟨by unfold SortedByAddr; decide, ?_⟩; decide

end PV.Props.C13
