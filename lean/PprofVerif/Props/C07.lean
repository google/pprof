import PprofVerif.Lemmas.Combine
import PprofVerif.Lemmas.ComposeCodec
import PprofVerif.Lemmas.ComposeDiffBase
/-!
# C07 — combining and subtracting profiles is linear in every entry

Property theorems only; helper lemmas are in `Lemmas/Combine.lean`, the model in
`Model/Combine.lean`.  A profile is a finite multiset of `(stack key, value vector)` samples and
every figure of a report (flat / cum of an entry, the value of a `-traces` stack, a total) is
`figure sel φ p = Σ_{s ∈ p | φ s.key} sel s.values`; all theorems quantify over *every* profile,
stack predicate `φ` and sample index `i`.

`WF n p` (one value per sample type) is what `profile.Parse`/`CheckValid` guarantee for every
file the CLI reads.  `Scale(-1)` really goes through float64: `scaleNeg1` is that computation,
`neg` the exact one; the `_f64_partial` theorems are the statements about the code as it is,
under the hypothesis (`InF64`) that excludes known finding `C07/scale/|v|>2^53`, and the
`…_witness` theorems show the unrestricted statements fail on the float model.
`scaleN` carries the REPAIRED survival rule (fixes/C07-scalen-keep-nonzero.patch, which cannot be
committed because upstream TestNormalizeByDifferentProfile encodes the dropping); `scaleNPinned`
is the rule of the tree as it is (known finding
`C07/scaleN/drops-sample-nonzero-only-in-unscaled-columns`): `scaleN_keeps_nonzero_samples` is the
full statement, proved of the repaired rule; `scaleN_keeps_nonzero_samples_partial` proves it of
the code as it is when every column is really scaled (Scale(-1), uniform ratios, all units
converted), and `pinned_scaleN_drops_nonzero_witness` shows the full statement fails of the
pinned rule.  The harness compares the real code with BOTH models and reports the known signature
only when the output is exactly the pinned model's.
-/
namespace PV.Props.C07
open PV PV.Combine

/-- `Sample` in this file is C07's `(stack key, values)` sample (the id-based `PV.Sample` of the
profile model, imported for the composition with C01 at the end, is always written qualified). -/
abbrev Sample := PV.Combine.Sample

private def kA : StackKey := ⟨[1, 2], 0, false⟩
private def kB : StackKey := ⟨[3, 2], 7, false⟩

/-- **Linearity**: any figure of several profiles taken together is the sum of their figures —
for every `SampleValue` function and every stack predicate. -/
theorem report_linear (sel : Vals → Int) (φ : StackKey → Bool) (ps : List Prof) :
    figure sel φ ps.flatten = (ps.map (figure sel φ)).sum :=
  figure_flatten sel φ ps

/-- … and this survives the merge that `combineProfiles` performs (equal stacks summed,
all-zero samples removed): the report of several sources is the entry-wise sum of the reports. -/
theorem combine_report_eq_sum (n i : Nat) (φ : StackKey → Bool) (ps : List Prof)
    (h : ∀ p ∈ ps, WF n p) :
    figure (col i) φ (combine ps) = (ps.map (figure (col i) φ)).sum :=
  combine_figure i φ ps h

example : figure (col 1) (cumPred (fun l => [l]) 2) (combine [[(kA, [1, 5])], [(kB, [2, 7]), (kA, [0, -3])]]) = 9 := by
  decide +kernel

/-- **Base / diff-base**: with a base profile (labelled `pprof::base` or not) every figure whose
predicate looks at the frames equals source minus base. -/
theorem base_report_eq_difference (n i : Nat) (ψ : List Nat → Bool) (label : Bool) (src b : Prof)
    (hs : WF n src) (hb : WF n b) :
    figure (col i) (fun k => ψ k.frames) (combine [src, neg (if label then setBase b else b)]) =
      figure (col i) (fun k => ψ k.frames) src - figure (col i) (fun k => ψ k.frames) b := by
  have hb' : WF n (if label then setBase b else b) := by cases label <;> [exact hb; exact setBase_WF hb]
  rw [combine_pair_figure i _ hs (neg_WF hb'), neg_figure, Int.sub_eq_add_neg]
  cases label
  · rfl
  · rw [if_pos rfl, setBase_figure]

/-- the same about the code as it is (`Scale(-1)` through float64), for base values that float64
represents exactly.  Full statement (without `InF64 b`) is false: see the witness below. -/
theorem base_report_eq_difference_f64_partial (n i : Nat) (ψ : List Nat → Bool) (label : Bool)
    (src b : Prof) (hs : WF n src) (hb : WF n b) (hf : InF64 b) :
    figure (col i) (fun k => ψ k.frames) (combine [src, scaleNeg1 (if label then setBase b else b)]) =
      figure (col i) (fun k => ψ k.frames) src - figure (col i) (fun k => ψ k.frames) b := by
  have hf' : InF64 (if label then setBase b else b) := by cases label <;> [exact hf; exact setBase_InF64 hf]
  rw [scaleNeg1_eq_neg _ hf']
  exact base_report_eq_difference n i ψ label src b hs hb

theorem base_report_f64_witness :
    figure (col 0) (fun _ => true) (combine [[(kA, [2 ^ 53 + 1])], scaleNeg1 [(kA, [2 ^ 53 + 1])]]) ≠
      figure (col 0) (fun _ => true) [(kA, [2 ^ 53 + 1])] - figure (col 0) (fun _ => true) [(kA, [2 ^ 53 + 1])] := by
  decide +kernel

example : WF 2 [(kA, [4, -9]), (kB, [0, 3])] ∧ InF64 [(kA, [4, -9]), (kB, [2 ^ 53, 3])] := by
  constructor
  · intro s hs; simp at hs; rcases hs with rfl | rfl <;> rfl
  · intro s hs x hx
    simp at hs
    rcases hs with rfl | rfl <;> simp at hx <;> rcases hx with rfl | rfl <;> decide

/-- **A profile minus itself is empty**: every merged stack sums to the zero vector, so nothing
is left after the merge. -/
theorem self_difference_all_zero (n : Nat) (p : Prof) (h : WF n p) :
    (∀ s ∈ mergeRaw (dropZero (p ++ neg p)), isZero s.2 = true) ∧ combine [p, neg p] = [] :=
  ⟨self_difference_entries p h, (combine_pair p (neg p)).trans (merge_self_difference p h)⟩

/-- the same about the code as it is, on float64's exact range. -/
theorem self_difference_all_zero_f64_partial (n : Nat) (p : Prof) (h : WF n p) (hf : InF64 p) :
    combine [p, scaleNeg1 p] = [] := by
  rw [scaleNeg1_eq_neg p hf]
  exact (self_difference_all_zero n p h).2

/-- beyond ±2^53 the float path leaves residue (known finding `C07/scale/|v|>2^53`). -/
theorem self_difference_residue_witness :
    combine [[(kA, [2 ^ 53 + 1])], scaleNeg1 [(kA, [2 ^ 53 + 1])]] = [(kA, [1])] := by
  decide +kernel

example : combine [[(kA, [3, 0]), (kB, [0, 0]), (kA, [1, 1])], neg [(kA, [3, 0]), (kB, [0, 0]), (kA, [1, 1])]] = [] := by
  decide +kernel

/-- **Sample types are aligned on the common ones**: with distinct type names per profile, a type
is kept iff every profile has it, and the kept types appear in the first profile's order. -/
theorem compatibilize_common_types (p0 : TProf) (ps : List TProf)
    (hn : ∀ p ∈ p0 :: ps, p.types.Nodup) :
    (∀ t, t ∈ commonTypes (p0 :: ps) ↔ ∀ p ∈ p0 :: ps, t ∈ p.types) ∧
      (commonTypes (p0 :: ps)).Sublist p0.types :=
  ⟨commonTypes_mem p0 ps hn, commonTypes_sublist p0 ps⟩

/-- **… values are carried from the right column and nothing is dropped**: `CompatibilizeSampleTypes`
succeeds, every result profile has exactly the common types as columns (with the unit of the
source column of that name), the same samples in the same order with the same keys, and the
`j`-th value of each sample is the value it had in the column named by the `j`-th common type. -/
theorem compatibilize_spec (ps : List TProf) (hne : commonTypes ps ≠ [])
    (hin : ∀ p ∈ ps, ∀ t ∈ commonTypes ps, t ∈ p.types)
    (hw : ∀ p ∈ ps, WF p.cols.length p.samples) :
    ∃ rs : List TProf, compatibilize ps = .ok rs ∧ rs.length = ps.length ∧
      ∀ (m : Nat) (p : TProf), ps[m]? = some p → ∃ r : TProf, rs[m]? = some r ∧
        r.types = commonTypes ps ∧ r.samples.length = p.samples.length ∧
        ∀ (a : Nat) (s : Sample), p.samples[a]? = some s → ∃ s' : Sample, r.samples[a]? = some s' ∧ s'.1 = s.1 ∧
          s'.2.length = (commonTypes ps).length ∧
          ∀ (j t : Nat), (commonTypes ps)[j]? = some t →
            ∃ i : Nat, findCol t p.cols = some i ∧ s'.2[j]? = s.2[i]? ∧ r.cols[j]? = p.cols[i]? := by
  refine ⟨_, compatibilize_ok ps hne hin hw, by simp, ?_⟩
  intro m p hm
  have hp : p ∈ ps := List.mem_of_getElem? hm
  refine ⟨⟨(commonTypes ps).map (colOf p),
      p.samples.map (fun s => (s.1, (commonTypes ps).map (fun t => col (idxOf t p.cols) s.2)))⟩,
    by simp only [List.getElem?_map, hm, Option.map_some], ?_, by simp, ?_⟩
  · -- column names
    simp only [TProf.types, List.map_map]
    exact ListFacts.map_eq_self fun t ht => (getElem?_idxOf p t (hin p hp t ht)).2
  · intro a s ha
    have hs : s ∈ p.samples := List.mem_of_getElem? ha
    refine ⟨(s.1, (commonTypes ps).map (fun t => col (idxOf t p.cols) s.2)),
      by simp only [List.getElem?_map, ha, Option.map_some], rfl, by simp, ?_⟩
    intro j t hj
    have ht : t ∈ commonTypes ps := List.mem_of_getElem? hj
    obtain ⟨hfc, hi, _⟩ := findCol_idxOf t p.cols (hin p hp t ht)
    refine ⟨_, hfc, ?_, ?_⟩
    · simp only [List.getElem?_map, hj, Option.map_some]
      rw [getElem?_eq_some_col s.2 _ (by rw [hw p hp s hs]; exact hi)]
    · simp only [List.getElem?_map, hj, Option.map_some, (getElem?_idxOf p t (hin p hp t ht)).1]

private def tp1 : TProf := ⟨[⟨10, ⟨1, 1, 1024⟩⟩, ⟨11, ⟨2, 2, 1000000⟩⟩, ⟨12, ⟨3, 0, 0⟩⟩], [(kA, [7, 0, 1]), (kB, [0, 3, 1])]⟩
private def tp2 : TProf := ⟨[⟨11, ⟨4, 2, 1⟩⟩, ⟨10, ⟨5, 1, 1⟩⟩], [(kA, [1000, 10])]⟩
example : commonTypes [tp1, tp2] = [10, 11] ∧
    compatibilize [tp1, tp2] = .ok [⟨[⟨10, ⟨1, 1, 1024⟩⟩, ⟨11, ⟨2, 2, 1000000⟩⟩], [(kA, [7, 0]), (kB, [0, 3])]⟩,
      ⟨[⟨10, ⟨5, 1, 1⟩⟩, ⟨11, ⟨4, 2, 1⟩⟩], [(kA, [10, 1000])]⟩] := by
  constructor <;> rfl

/-- **ScaleN never loses a sample that still has a non-zero value** (and invents none): the
result consists exactly of the scaled samples that are not all-zero.  Defect #5 of the pinned
tree violates the first part; this is the repaired rule. -/
theorem scaleN_keeps_nonzero_samples (rs : List Ratio) (n : Nat) (p q : Prof)
    (h : scaleN rs n p = .ok q) (hw : WF n p) :
    (∀ s ∈ p, isZero (scaleVec rs s.2) = false → (s.1, scaleVec rs s.2) ∈ q) ∧
      (∀ t ∈ q, ∃ s ∈ p, t = (s.1, scaleVec rs s.2)) :=
  ⟨fun s hs hnz => scaleN_mem rs n p q h hw s hs hnz, fun t ht => scaleN_sound rs n p q h hw t ht⟩

/-- the code as it is: when no ratio equals 1 (every column is scaled) the pinned rule IS the
repaired rule, so nothing with a non-zero value is lost.  Full statement (no hypothesis on the
ratios) is `scaleN_keeps_nonzero_samples` with `scaleNPinned` for `scaleN`; it is false, see the
witness below. -/
theorem scaleN_keeps_nonzero_samples_partial (rs : List Ratio) (n : Nat) (p q : Prof)
    (h1 : ∀ r ∈ rs, r.isOne = false) (h : scaleNPinned rs n p = .ok q) (hw : WF n p) :
    (∀ s ∈ p, isZero (scaleVec rs s.2) = false → (s.1, scaleVec rs s.2) ∈ q) ∧
      (∀ t ∈ q, ∃ s ∈ p, t = (s.1, scaleVec rs s.2)) := by
  rw [scaleNPinned_eq_scaleN rs n p h1] at h
  exact scaleN_keeps_nonzero_samples rs n p q h hw

example : (∀ r ∈ [Ratio.ofInt (-1), Ratio.ofInt (-1)], r.isOne = false) ∧
    scaleNPinned [Ratio.ofInt (-1), Ratio.ofInt (-1)] 2 [(kA, [7, 0]), (kB, [0, 0])] = .ok [(kA, [-7, 0])] := by
  decide +kernel

/-- the pinned tree's rule drops `[7, 0]` scaled by `[1, 1024]` although 7 ≠ 0 survives scaling. -/
theorem pinned_scaleN_drops_nonzero_witness :
    scaleNPinned [Ratio.ofInt 1, Ratio.ofInt 1024] 2 [(kA, [7, 0])] = .ok [] ∧
      scaleN [Ratio.ofInt 1, Ratio.ofInt 1024] 2 [(kA, [7, 0])] = .ok [(kA, [7, 0])] := by
  decide +kernel

/-- **Scaling by integers is exact**: every figure of column `i` is multiplied by `ks[i]`
(this is the unit harmonisation kB→bytes, ms→ns: no rounding, no sample lost). -/
theorem scale_by_integer_exact (ks : List Int) (n : Nat) (p q : Prof)
    (h : scaleN (ks.map Ratio.ofInt) n p = .ok q) (hw : WF n p) (i : Nat) (hi : i < ks.length)
    (φ : StackKey → Bool) :
    figure (col i) φ q = figure (col i) φ p * ks[i] := by
  have hi' : i < (ks.map Ratio.ofInt).length := by simpa using hi
  rw [scaleN_figure _ n p q h hw i hi' φ, ← figure_mul_sel]
  apply figure_congr
  intro s _
  simp only [List.getElem_map]
  exact scaleVal_ofInt _ _

example : scaleN ([1, 1024].map Ratio.ofInt) 2 [(kA, [7, 0]), (kB, [0, 0]), (kB, [-2, 3])] =
    .ok [(kA, [7, 0]), (kB, [-2, 3072])] := by decide +kernel

/-- **Units are harmonised to the finest one**: among convertible units (one family)
`CommonValueType` returns a member with the smallest factor. -/
theorem commonUnit_finest (f : Nat) (hf : f ≠ 0) (t0 : ColT) (ts : List ColT) (c : ColT)
    (hfam : ∀ t ∈ t0 :: ts, t.unit.fam = f) (h : commonUnitGo t0 ts = .ok c) :
    c ∈ t0 :: ts ∧ ∀ t ∈ t0 :: ts, c.unit.factor ≤ t.unit.factor :=
  commonUnitGo_finest f hf t0 ts c hfam h

example : commonUnit [⟨10, ⟨1, 1, 1024⟩⟩, ⟨10, ⟨5, 1, 1⟩⟩, ⟨10, ⟨6, 1, 1048576⟩⟩] = .ok (some ⟨10, ⟨5, 1, 1⟩⟩) := by
  decide +kernel

/-- **-normalize**: when the source total of column `i` is not zero, the scaled source total
differs from the base total by at most half a unit per source sample (exact rational ratio,
round-half-away): `|Σ scaled − Σ base| ≤ #samples / 2`. -/
theorem normalize_total_bound (n : Nat) (p pb q : Prof) (h : normalize n p pb = .ok q)
    (hw : WF n p) (i : Nat) (hi : i < n) (hs : colSum i p ≠ 0) :
    2 * (colSum i q - colSum i pb).natAbs ≤ p.length :=
  normalize_bound n p pb q h hw i hi hs

example : normalize 1 [(kA, [1]), (kB, [1]), (kA, [1])] [(kA, [10])] = .ok [(kA, [3]), (kB, [3]), (kA, [3])] := by
  decide +kernel

/-- **-diff_base percentages are relative to the base total**: in the merged difference of a
source and a (merged) base labelled `pprof::base`, the total used for percentages is
`Σ |base value|` whenever that is positive (otherwise the sum over all samples). -/
theorem diffbase_total_spec (src b : Prof) (hsrc : ∀ s ∈ src, s.1.base = false)
    (hb : ∀ s ∈ b, s.1.base = false) (hnd : (b.map (·.1)).Nodup) (i : Nat) :
    diffBaseTotal (col i) (combine [src, neg (setBase b)]) =
      if absTotal (col i) b > 0 then absTotal (col i) b
      else absTotal (col i) (combine [src, neg (setBase b)]) := by
  rw [combine_pair, diffBaseTotal, diffBase_filter_merge src b hsrc hb hnd i]

example : diffBaseTotal (col 0) (combine [[(kA, [50]), (kB, [4])], neg (setBase [(kA, [20]), (kB, [-5])])]) = 25 := by
  decide +kernel

/-! ## composed with C01: a -diff_base result survives the protobuf round trip

`-diff_base` results can be written with `-proto` and read back (by pprof itself, or by the web
UI's `profileCopier`).  The bridge `ofProfile tag p` (`Model/CombineBridge.lean`) is the C07 view of
an id-based profile: frames = location ids, `base` = `Sample.DiffBaseSample()` (label
`pprof::base` has the value `true`), `tag` = any summary of the other attributes.  C01 says the
round trip returns `normalize p`; the label value `true` is non-empty, so it survives, and the
whole C07 view — hence every figure and the diff-base total — is unchanged. -/

/-- **A -diff_base result written with the C01 codec and re-read has the same weight function and
the same diff-base total.**  For every profile meeting C01's hypotheses and every tag function that
does not tell a sample from its normal form: `serialize` succeeds, `ParseUncompressed` of the bytes
returns a profile with the SAME C07 view (same stacks, same `pprof::base` marks, same values, in the
same order), so every report figure and `computeTotal`'s diff-base total agree. -/
theorem diffbase_proto_roundtrip (tag : PV.Sample → Nat) (htag : ∀ s, tag (Codec.Sample.normalize s) = tag s)
    (p : Profile) (hv : p.Valid) (ha : p.unitsAligned = true) (hs : p.mapsSorted = true)
    (hr : Codec.InRange p) (hz : ∀ x, Codec.preEncode p = .ok x → Codec.EncSizes x) :
    ∃ b q, Codec.serialize p = .ok b ∧ Codec.parseUncompressed b = .ok q ∧
      ofProfile tag q = ofProfile tag p ∧
      (∀ sel φ, figure sel φ (ofProfile tag q) = figure sel φ (ofProfile tag p)) ∧
      (∀ sel, diffBaseTotal sel (ofProfile tag q) = diffBaseTotal sel (ofProfile tag p)) := by
  obtain ⟨b, h1, h2⟩ := Codec.parse_serialize_normalize p hv ha hs hr hz
  have h3 := ofProfile_normalize tag htag p hs
  exact ⟨b, _, h1, h2, h3, fun sel φ => by rw [h3], fun sel => by rw [h3]⟩

/-- the same for ANY tag function, applied to the normal form of the sample (no hypothesis on the
tag: `normalize` is idempotent on real maps). -/
theorem diffbase_proto_roundtrip_normal_tag (tag : PV.Sample → Nat)
    (p : Profile) (hv : p.Valid) (ha : p.unitsAligned = true) (hs : p.mapsSorted = true)
    (hr : Codec.InRange p) (hz : ∀ x, Codec.preEncode p = .ok x → Codec.EncSizes x) :
    ∃ b q, Codec.serialize p = .ok b ∧ Codec.parseUncompressed b = .ok q ∧
      ofProfile (tag ∘ Codec.Sample.normalize) q = ofProfile (tag ∘ Codec.Sample.normalize) p := by
  obtain ⟨b, h1, h2⟩ := Codec.parse_serialize_normalize p hv ha hs hr hz
  exact ⟨b, _, h1, h2, ofProfile_normalize_normalTag tag p hs⟩

/-- **The base samples still carry `pprof::base=true` after the round trip**: a base profile `pb`
labelled by `SetLabel("pprof::base", ["true"])`, written and re-read, is — in the C07 view —
exactly `setBase` of `pb`: every sample is marked, stacks and values are `pb`'s.  (`tag` ignores
that label and does not tell a sample from its normal form.) -/
theorem base_label_survives_roundtrip (tag : PV.Sample → Nat)
    (htag : ∀ s, tag (Codec.Sample.normalize s) = tag s) (htag2 : ∀ s, tag (setBaseLabel s) = tag s)
    (pb : Profile) (hv : (setBaseP pb).Valid) (ha : (setBaseP pb).unitsAligned = true)
    (hs : (setBaseP pb).mapsSorted = true) (hr : Codec.InRange (setBaseP pb))
    (hz : ∀ x, Codec.preEncode (setBaseP pb) = .ok x → Codec.EncSizes x) :
    ∃ b q, Codec.serialize (setBaseP pb) = .ok b ∧ Codec.parseUncompressed b = .ok q ∧
      ofProfile tag q = setBase (ofProfile tag pb) ∧
      (∀ s ∈ ofProfile tag q, s.1.base = true) := by
  obtain ⟨b, q, h1, h2, h3, _⟩ := diffbase_proto_roundtrip tag htag (setBaseP pb) hv ha hs hr hz
  have h4 : ofProfile tag q = setBase (ofProfile tag pb) := by rw [h3, ofProfile_setBaseP tag htag2 pb]
  exact ⟨b, q, h1, h2, h4, fun s hs' => base_of_mem_setBase (h4 ▸ hs')⟩

/-- The hypothesis "label maps are real maps" is needed for the label to be read the same way
before and after: with a duplicated key (impossible for a Go map) the first entry `pprof::base=[""]`
hides the second `pprof::base=["true"]` before normalisation but not after. -/
theorem isBase_normalize_needs_distinct_keys :
    let s : PV.Sample := ⟨[1], [1], [(baseKey, [[]]), (baseKey, [trueStr])], [], []⟩
    Graph.isBase s = false ∧ Graph.isBase (Codec.Sample.normalize s) = true := by
  decide +kernel

-- non-vacuity: a labelled base profile meeting every hypothesis; the constant tag and the tag
-- "number of numeric label keys of the normal form" are admissible tag functions
private def exBase : Profile :=
  { sampleType := [⟨[99], [110]⟩], defaultSampleType := [], periodType := some ⟨[99], [110]⟩, period := 1,
    samples := [⟨[1], [20], [([97], [[120]])], [], []⟩, ⟨[1], [-5], [], [], []⟩], mappings := [],
    locations := [⟨1, 0, 16, [], false⟩], functions := [], comments := [], docURL := [], dropFrames := [],
    keepFrames := [], timeNanos := 5, durationNanos := 1 }
example : (setBaseP exBase).Valid ∧ (setBaseP exBase).unitsAligned = true ∧ (setBaseP exBase).mapsSorted = true ∧
    ofProfile (fun _ => 0) (setBaseP exBase) = [(⟨[1], 0, true⟩, [20]), (⟨[1], 0, true⟩, [-5])] := by
  decide +kernel
example : (∀ s, (fun _ : PV.Sample => 0) (Codec.Sample.normalize s) = (fun _ : PV.Sample => 0) s) ∧
    (∀ s, (fun _ : PV.Sample => 0) (setBaseLabel s) = (fun _ : PV.Sample => 0) s) := ⟨fun _ => rfl, fun _ => rfl⟩

end PV.Props.C07
