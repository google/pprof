import PprofVerif.Lemmas.StacksBuild
import PprofVerif.Lemmas.StacksSelect
import PprofVerif.Lemmas.StacksExample
/-!
# C17 — flame-graph stack data is a faithful, self-consistent index of samples

Property theorems only (helper lemmas: `Lemmas/Stacks*.lean`).
They are about `PV.Stacks.stacks p idx`, the executable model of
`report.New(p, {SampleValue: v[idx]}).Stacks()` (Model/Stacks.lean), which the correspondence check
ties to internal/report/stacks.go on every run, and they quantify over ALL profiles: each theorem
assumes only that the model run succeeded (`stacks p idx = .ok ss`), which `stacks_never_panic`
shows for every valid profile.  "The sample's frames" are `Spec.sampleFrames` (Spec/Stacks.lean):
the lines of the sample's locations, caller first, every line but the last of its location
flagged as inlined; a location without lines contributes no frame.
-/
namespace PV.Props.C17
open PV PV.Stacks

/-- On a valid profile (CheckValid + references inside the tables) and a sample index inside the
sample types, no index expression of `Stacks()` is out of range and no pointer is nil. -/
theorem stacks_never_panic (o : Opts) (p : Profile) (idx : Nat) (hv : p.Valid) (hi : idx < p.sampleType.length) :
    ∃ ss, stacks o p idx = .ok ss := by
  obtain ⟨rs, hr⟩ := valid_resolve p idx hv hi
  obtain ⟨st, _, _, hb⟩ := build_spec o (computeTotal ((rs.zip p.samples).map fun x => (x.1.1, diffBase x.2))) rs
  exact ⟨_, by simp only [stacks, hr, bind, Outcome.bind]; exact hb⟩

-- non-vacuity: `exProfile` (main → [f ⊃ inlined g] → [f ⊃ inlined g], a location without lines, an
-- empty stack) is valid, so every theorem below applies to it with `idx = 0`; its first stack is
-- recursive and the place lists show the outermost occurrence only.
example : exProfile.Valid ∧ 0 < exProfile.sampleType.length := by decide +kernel
example : (match stacks Opts.default exProfile 0 with
    | .ok ss => (ss.stacks.elems.map (·.sources.elems), ss.sources.elems.map (·.places.elems),
                 ss.sources.elems.map (·.self), ss.sources.elems.map (·.inlined))
    | _ => ([], [], [], [])) =
    ([[0, 1, 2, 3, 2, 3], [0], [0, 1]],
     [[(0, 0), (1, 0), (2, 0)], [(0, 1), (2, 1)], [(0, 2)], [(0, 3)]],
     [-2, 7, 0, 5], [false, false, false, true]) := by decide +kernel

/-- One stack per sample, in sample order, carrying that sample's selected value. -/
theorem stacks_one_per_sample (o : Opts) (p : Profile) (idx : Nat) (ss : StackSet) (h : stacks o p idx = .ok ss) :
    ss.stacks.elems.length = p.samples.length ∧
    ∀ i (hi : i < p.samples.length), ∃ st, ss.stacks.elems[i]? = some st ∧
      p.samples[i].values[idx]? = some st.value := by
  obtain ⟨rs, st, total, hres, _, rfl, _⟩ := stacks_ok h
  obtain ⟨hlen, hat⟩ := resolve_at hres
  refine ⟨(List.length_map _).trans hlen, fun i hi => ?_⟩
  obtain ⟨r, hr, hv, _⟩ := hat i hi
  exact ⟨mkStack st.srcs r, result_stack.trans (congrArg _ hr), hv⟩

/-- Every stack is the synthetic root (index 0) followed by the sources of the sample's frames from
caller to callee, for ONE map `src` from frame identities (function name, file name, line, column,
inlined) to source indices; `src` never yields the root, the source it yields shows the frame's
full name, trimmed file name and inlined flag, and two different identities never share a source. -/
theorem stack_sources_eq_frames (o : Opts) (p : Profile) (idx : Nat) (ss : StackSet) (h : stacks o p idx = .ok ss) :
    ∃ src : Key → Nat,
      (∀ i (hi : i < p.samples.length), ∃ st fs, ss.stacks.elems[i]? = some st ∧
          Spec.sampleFrames p p.samples[i] = some fs ∧
          st.sources.elems = 0 :: fs.map (fun f => src f.key)) ∧
      (∀ s ∈ p.samples, ∀ fs, Spec.sampleFrames p s = some fs → ∀ f ∈ fs,
          1 ≤ src f.key ∧ ∃ so, ss.sources.elems[src f.key]? = some so ∧
            so.fullName = f.key.fullName o ∧ so.fileName = f.key.fileName o ∧ so.inlined = f.inlined) ∧
      (∀ s ∈ p.samples, ∀ s' ∈ p.samples, ∀ fs gs, Spec.sampleFrames p s = some fs →
          Spec.sampleFrames p s' = some gs → ∀ f ∈ fs, ∀ g ∈ gs, src f.key = src g.key → f.key = g.key) ∧
      (∃ so, ss.sources.elems[0]? = some so ∧ so.fullName = Str.ofString "root" ∧ so.inlined = false) := by
  obtain ⟨rs, st, total, hres, inv, rfl, _⟩ := stacks_ok h
  refine ⟨fun k => (st.srcs.lookup k).getD 0, fun i hi => ?_, fun s hs fs hfs f hf => ?_,
    fun s hs s' hs' fs gs hfs hgs f hf g hg he => ?_, ?_⟩
  · obtain ⟨r, hr, _, hfr⟩ := (resolve_at hres).2 i hi
    exact ⟨mkStack st.srcs r, r.2, result_stack.trans (congrArg _ hr), hfr, rfl⟩
  · obtain ⟨j, hj⟩ := frames_known inv hres hs hfs hf
    simp only [hj, Option.getD_some]
    exact result_source_of_key inv hj
  · obtain ⟨j, hj⟩ := frames_known inv hres hs hfs hf
    obtain ⟨j', hj'⟩ := frames_known inv hres hs' hgs hg
    simp only [hj, hj', Option.getD_some] at he
    exact inv.wf.inj _ _ _ hj (he ▸ hj')
  · obtain ⟨s0, hs0, hn⟩ := inv.root
    exact ⟨_, (result_source inv).2 ⟨s0, hs0, rfl⟩, hn⟩

/-- Stack values sum to the signed total of the selected sample value. -/
theorem values_sum (o : Opts) (p : Profile) (idx : Nat) (ss : StackSet) (h : stacks o p idx = .ok ss) :
    (ss.stacks.elems.map (·.value)).sum = (p.samples.filterMap (fun s => s.values[idx]?)).sum := by
  obtain ⟨rs, st, total, hres, _, rfl, _⟩ := stacks_ok h
  rw [values_of_resolve hres]
  simp [result, Slice.lit, List.map_map, Function.comp_def, mkStack]

/-- Each source's self value is the sum of the values of the stacks it terminates. -/
theorem self_spec (o : Opts) (p : Profile) (idx : Nat) (ss : StackSet) (h : stacks o p idx = .ok ss) :
    ∀ (i : Nat) (s : Source), ss.sources.elems[i]? = some s →
      s.self = ((ss.stacks.elems.filter (fun st => st.sources.elems.getLast? == some i)).map (·.value)).sum := by
  obtain ⟨rs, st, total, _, inv, rfl, _⟩ := stacks_ok h
  intro i s hs
  obtain ⟨s0, hs0, rfl⟩ := (result_source inv).1 hs
  exact (inv.self i s0 hs0).1

/-- Each source's place index lists every stack containing it exactly once, at its outermost
occurrence: `(a, b)` is listed iff stack `a` has the source at position `b` and at no earlier
position; and the list is strictly increasing in the stack number (so no stack is listed twice). -/
theorem places_complete_unique_first (o : Opts) (p : Profile) (idx : Nat) (ss : StackSet) (h : stacks o p idx = .ok ss) :
    ∀ (i : Nat) (s : Source), ss.sources.elems[i]? = some s →
      (∀ a b, (a, b) ∈ s.places.elems ↔
        ∃ st, ss.stacks.elems[a]? = some st ∧ st.sources.elems[b]? = some i ∧
          ∀ b', b' < b → st.sources.elems[b']? ≠ some i) ∧
      List.Pairwise (fun x y : Nat × Nat => x.1 < y.1) s.places.elems := by
  obtain ⟨rs, st, total, _, inv, rfl, _⟩ := stacks_ok h
  intro i s hs
  obtain ⟨s0, hs0, rfl⟩ := (result_source inv).1 hs
  exact ⟨fun a b => mem_placesOf, placesFrom_pairwise i _ 0⟩

/-- Every index the client dereferences is in range: a stack is never empty and starts at the
root, its entries index `Sources`; a place `(a, b)` of source `i` indexes `Stacks` and that stack's
`Sources`, and the slot it names holds `i`. -/
theorem indices_in_range (o : Opts) (p : Profile) (idx : Nat) (ss : StackSet) (h : stacks o p idx = .ok ss) :
    (∀ st ∈ ss.stacks.elems, st.sources.elems.head? = some 0 ∧
        ∀ j ∈ st.sources.elems, j < ss.sources.elems.length) ∧
    (∀ (i : Nat) (s : Source), ss.sources.elems[i]? = some s → ∀ pl ∈ s.places.elems,
        ∃ st, ss.stacks.elems[pl.1]? = some st ∧ st.sources.elems[pl.2]? = some i) := by
  refine ⟨?_, ?_⟩
  · obtain ⟨rs, st, total, _, inv, rfl, _⟩ := stacks_ok h
    intro sk hsk
    obtain ⟨x, _, rfl⟩ := List.mem_map.1 hsk
    exact ⟨rfl, (length_addPlaces ..).symm ▸ inv.range _ hsk⟩
  · intro i s hs pl hpl
    obtain ⟨sk, h1, h2, _⟩ := ((places_complete_unique_first o p idx ss h i s hs).1 pl.1 pl.2).1 hpl
    exact ⟨sk, h1, h2⟩

/-- No array of the stack set is nil (JSON `null`): `Stacks`, `Sources`, every `Stack.Sources`,
every `StackSource.Places` — also for a profile without samples and for sources/stacks that
stay empty. -/
theorem arrays_nonnil (o : Opts) (p : Profile) (idx : Nat) (ss : StackSet) (h : stacks o p idx = .ok ss) :
    ss.stacks.nonnil = true ∧ ss.sources.nonnil = true ∧
    (∀ st ∈ ss.stacks.elems, st.sources.nonnil = true) ∧
    (∀ s ∈ ss.sources.elems, s.places.nonnil = true) := by
  obtain ⟨rs, st, total, _, _, rfl, _⟩ := stacks_ok h
  refine ⟨rfl, rfl, ?_, addPlaces_nonnil⟩
  intro sk hsk
  simp only [result, Slice.lit, List.mem_map] at hsk
  obtain ⟨x, _, rfl⟩ := hsk
  rfl

/-- Granularity never removes a frame: under any granularity that keeps inlined frames
(functions, filefunctions, files, lines; columns on or off) the frames of every sample in the
aggregated view `Spec.aggregate f p` are the frames of the sample in `p`, one for one and in the
same order, each reduced to the attributes the granularity shows (`Spec.aggFrame`) — so, by
`stack_sources_eq_frames` applied to `Spec.aggregate f p`, a stack of the flame-graph view has
one entry per line of the sample's locations; two equal consecutive frames (a function inlined
into itself, direct recursion) stay two entries. -/
theorem granularity_keeps_frames (f : Spec.AggFlags) (hn : f.none = false) (hi : f.inlines = true)
    (p : Profile) (s : Sample) :
    Spec.sampleFrames (Spec.aggregate f p) s = (Spec.sampleFrames p s).map (·.map (Spec.aggFrame f)) ∧
    ∀ fs, Spec.sampleFrames p s = some fs →
      ∃ gs, Spec.sampleFrames (Spec.aggregate f p) s = some gs ∧ gs.length = fs.length := by
  have h := sampleFrames_aggregate f hn hi p s
  refine ⟨h, ?_⟩
  intro fs hfs
  exact ⟨fs.map (Spec.aggFrame f), by rw [h, hfs]; rfl, by simp⟩

-- non-vacuity: filefunctions granularity on `exProfile` — the recursive inlined chain keeps its 5 frames
example : (Spec.sampleFrames (Spec.aggregate ⟨false, true, true, true, false, false⟩ exProfile)
    { locationIDs := [2, 2, 3, 1], values := [5], label := [], numLabel := [], numUnit := [] }).map
      (·.map (fun fr => (fr.name, fr.line, fr.inlined))) =
    some [([109], 0, false), ([102], 0, false), ([103], 0, true), ([102], 0, false), ([103], 0, true)] := by decide +kernel

/-- Selecting the sample value by name (`si=<name>`, `-sample_index=<name>`) picks a column whose
type name is byte-for-byte the given text (or the text without the legacy `inuse_` prefix), the
FIRST such column; no case folding or other normalisation.  (Texts that are numbers are indices,
the empty text is the default selection — excluded here.) -/
theorem select_by_name_exact (p : Profile) (sel : Str) (i : Nat) (h : selectIndex p sel = .ok i)
    (hne : sel ≠ []) (hnum : atoi sel = none) :
    ∃ t, p.sampleType[i]? = some t ∧ (t.typ = sel ∨ t.typ = trimInuse sel) ∧
      ∀ j, j < i → ∀ t', p.sampleType[j]? = some t' → t'.typ ≠ sel ∧ t'.typ ≠ trimInuse sel := by
  obtain ⟨t, h1, h2, h3⟩ := firstType_spec ((selectIndex_name_ok hne hnum).1 h)
  exact ⟨t, h1, by simpa using h2, fun j hj t' ht' => by simpa using h3 j hj t' ht'⟩

/-- A name no sample type carries exactly is rejected (an error, never a silent other column). -/
theorem select_unknown_name_rejected (p : Profile) (sel : Str) (hne : sel ≠ []) (hnum : atoi sel = none)
    (hno : ∀ t ∈ p.sampleType, t.typ ≠ sel ∧ t.typ ≠ trimInuse sel) :
    ∃ e, selectIndex p sel = .err e := by
  rw [selectIndex_by_name hne hnum, (firstType_eq_none_iff ..).2 fun t ht => by simp [hno t ht]]
  split <;> exact ⟨_, rfl⟩

-- non-vacuity: ["Events","events"]: the name "events" selects column 1, "Events" column 0, "EVENTS"
-- none, "1" is an index, "" the default (last), "inuse_events" is "events"
example :
    let ev : Str := [101, 118, 101, 110, 116, 115]
    let p : Profile := { exProfile with sampleType := [⟨[69, 118, 101, 110, 116, 115], []⟩, ⟨ev, []⟩] }
    selectIndex p ev = .ok 1 ∧ selectIndex p [69, 118, 101, 110, 116, 115] = .ok 0 ∧
    (selectIndex p [69, 86, 69, 78, 84, 83]).isOk = false ∧ selectIndex p [49] = .ok 1 ∧
    selectIndex p [] = .ok 1 ∧ selectIndex p (inusePrefix ++ ev) = .ok 1 ∧ atoi ev = none := by decide +kernel

/-
Unique names.  Full statement (what `UniqueName` is documented for — "disambiguates functions with
same names"):
  theorem unique_names_injective : ∀ i j s t, 1 ≤ i → i < j → sources[i]? = some s →
      sources[j]? = some t → s.uniqueName ≠ t.uniqueName
It is FALSE of the code as it is (known finding C17/unique/collision/inlined-and-plain-copy-of-a-homonym):
`unique_names_injective_fails_witness` below.  Proved: the part of it the naming scheme does deliver.
-/

/-- Among the sources that share a full name exactly the first one (lowest index) keeps it as its
unique name; every other one gets `FullName#<a function id>`, which differs from the full name. So
two sources with the same full name never both answer to that name. -/
theorem unique_names_injective_partial (o : Opts) (p : Profile) (idx : Nat) (ss : StackSet)
    (h : stacks o p idx = .ok ss) :
    ∀ (j : Nat) (t : Source), 1 ≤ j → ss.sources.elems[j]? = some t →
      (t.uniqueName = t.fullName ∨ ∃ id, t.uniqueName = t.fullName ++ hash ++ decNat id) ∧
      (t.uniqueName = t.fullName ↔
        ∀ (i : Nat) (s : Source), 1 ≤ i → i < j → ss.sources.elems[i]? = some s → s.fullName ≠ t.fullName) := by
  obtain ⟨_, _, _, _, _, _, uq⟩ := stacks_ok h
  intro j t hj ht
  obtain ⟨h1, h2⟩ := uq j (nm t) hj (by rw [List.getElem?_map, ht]; rfl)
  by_cases hm : t.fullName ∈ before (ss.sources.elems.map nm) j
  · obtain ⟨id, hid⟩ := h1 hm
    obtain ⟨i, s, hi, hij, hs, he⟩ := mem_before_iff.1 hm
    exact ⟨.inr ⟨id, hid⟩, fun hp => absurd (hid.symm.trans hp) (append_hash_ne _ id),
      fun hall => absurd he (hall i s hi hij hs)⟩
  · exact ⟨.inl (h2 hm), fun _ i s hi hij hs he => hm (mem_before_iff.2 ⟨i, s, hi, hij, hs, he⟩),
      fun _ => h2 hm⟩

/-- Witness that full injectivity fails on the model of the code as it is: `f` of file a, then a
location where `f` of file b is inlined into itself — the plain and the inlined copy of the second
`f` both get the unique name `f#2`. -/
theorem unique_names_injective_fails_witness :
    (match stacks Opts.default uqProfile 0 with
      | .ok ss => ss.sources.elems.map (fun s => (s.uniqueName, s.inlined))
      | _ => []) =
    [([], false), ([102], false), ([102, 35, 50], false), ([102, 35, 50], true)] := by decide +kernel

/-- `FileName` is the function's file name with a prefix removed — whatever `-trim_path` and
`-source_path` are, it names a tail of a path of the profile (never text from the options or the
environment). -/
theorem file_name_is_suffix (o : Opts) (k : Key) : ∃ n, k.fileName o = k.file.drop n :=
  trimPath_drop o k.file

-- non-vacuity: trim_path "/r/p" removes that prefix ("/r/p/u/x.go" ↦ "u/x.go") and only as a prefix
-- ("/o/p/u/x.go" stays); source_path "/r/p" alone cuts after the component "/p/" anywhere
example :
    trimPath ⟨[47, 114, 47, 112], []⟩ [47, 114, 47, 112, 47, 117, 47, 120, 46, 103, 111] = [117, 47, 120, 46, 103, 111] ∧
    trimPath ⟨[47, 114, 47, 112], []⟩ [47, 111, 47, 112, 47, 117, 47, 120, 46, 103, 111] =
      [47, 111, 47, 112, 47, 117, 47, 120, 46, 103, 111] ∧
    trimPath ⟨[], [47, 114, 47, 112]⟩ [47, 111, 47, 112, 47, 117, 47, 120, 46, 103, 111] = [117, 47, 120, 46, 103, 111] := by
  decide +kernel

end PV.Props.C17
