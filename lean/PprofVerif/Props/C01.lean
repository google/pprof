import PprofVerif.Lemmas.MessagesNested
import PprofVerif.Lemmas.EncodeWF
import PprofVerif.Lemmas.NormalizeIdem
import PprofVerif.Lemmas.ComposeCodec
import PprofVerif.Lemmas.CodecSchemaFacts
/-!
# C01 — Profile serialization round-trips without loss

Property theorems only (helper lemmas live in `Lemmas/`).  The full statement of the property is
proved here for ALL profiles (`parse_serialize`):

    Valid p → unitsAligned p → mapsSorted p → InRange p → EncSizes →
        parseUncompressed (serialize p) = ok (normalize p)

It factors through the wire-level ("X") message: `wire_roundtrip` (`unmarshal ∘ encode`: every
field of every message type, packed and unpacked repeated scalars, nested messages,
optional-field elision, the string-table rule) and `postDecode_preEncode`
(`postDecode ∘ preEncode = normalize`: string interning, label regrouping, unit padding, id
resolution).  `copy_eq_normalize`, `roundtrip_fixpoint`, `wire_reencode_identical` and
`normalize_idem` give reading (2) of the property (what the parser returns survives
write-then-parse unchanged and re-serializes identically).  All theorems are about the executable
model in `Model/Wire.lean` / `Model/Codec.lean`, which the correspondence check ties to
profile/proto.go and profile/encode.go in both directions on every run.
-/
namespace PV.Props.C01
open PV PV.Wire PV.Codec

/-- Every uint64 survives `encodeVarint`/`decodeVarint`, whatever bytes follow it. -/
theorem varint_roundtrip (x : Nat) (hx : x < two64) (rest : Bytes) :
    decodeVarint (encodeVarint x ++ rest) = .ok (x, rest) :=
  decodeVarint_encodeVarint x hx rest

/-- Every int64 (negative and extreme values included) survives the uint64 cast used on the wire. -/
theorem int64_cast_roundtrip (i : Int) (h : InI64 i) : toI64 (toU64 i) = i := toI64_toU64 i h

/-- A scalar field written by `encodeUint64`/`encodeInt64` is read back as that field. -/
theorem scalar_field_roundtrip (tag x : Nat) (ht : tag * 8 < two64) (hx : x < two64) (rest : Bytes) :
    decodeField (encodeUint64 tag x ++ rest) = .ok ({ num := tag, typ := 0, u64 := x, data := [] }, rest) :=
  decodeField_encodeUint64 tag x ht hx rest

/-- A nested message / string / packed list written with a length prefix is read back as its body. -/
theorem delimited_field_roundtrip (tag : Nat) (body : Bytes) (ht : tag * 8 + 2 < two64)
    (hl : body.length < two64) (rest : Bytes) :
    decodeField (encodeMessage tag body ++ rest) = .ok ({ num := tag, typ := 2, u64 := 0, data := body }, rest) :=
  decodeField_encodeMessage tag body ht hl rest

/-- Repeated scalars in packed form (more than two elements) decode to the same list. -/
theorem packed_roundtrip (xs : List Nat) (hx : ∀ x ∈ xs, x < two64) :
    decodePacked (xs.flatMap encodeVarint).length (xs.flatMap encodeVarint) = .ok xs :=
  decodePacked_flatMap xs _ hx (Nat.le_refl _)

/-- The decoding loop never runs out of the fuel the model gives it (the model's only
artificial failure branch is unreachable), for any bytes and any decoder table. -/
theorem decode_loop_fuel_independent {M : Type} (apply : M → Field → Outcome M) (m : M) (data : Bytes)
    (fuel : Nat) (h : data.length ≤ fuel) :
    decodeLoop apply fuel m data = decodeLoop apply data.length m data :=
  decodeLoop_eq_decodeAll apply m data fuel h

/-- Sample message: locations, values (packed or not), labels. -/
theorem sample_wire_roundtrip (s : SampleX) (h : s.WF) : decodeAll SampleX.apply {} s.encode = .ok s :=
  SampleX.roundtrip s h

/-- Location message with any number of inline lines. -/
theorem location_wire_roundtrip (l : LocationX) (h : l.WF) : decodeAll LocationX.apply {} l.encode = .ok l :=
  LocationX.roundtrip l h

/-- Mapping message (ids, ranges, string indices, the four has-symbol flags). -/
theorem mapping_wire_roundtrip (m : MappingX) (h : m.WF) : decodeAll MappingX.apply {} m.encode = .ok m :=
  MappingX.roundtrip m h

/-- Function message. -/
theorem function_wire_roundtrip (f : FunctionX) (h : f.WF) : decodeAll FunctionX.apply {} f.encode = .ok f :=
  FunctionX.roundtrip f h

/-- **Wire half of C01.** For every wire-level profile message whose integers fit their Go
types (`WF`) and whose length-delimited bodies are shorter than 2^64 bytes (`Sized`):
`unmarshal (encode x) = x`, the only change being that an all-zero `PeriodType` is elided
(the decoder then leaves the pointer nil; `postDecode` restores the empty value type). -/
theorem wire_roundtrip (x : ProfileX) (h : x.WF) (hs : x.Sized) :
    unmarshal x.encode = .ok { x with periodType := normPT x.periodType } :=
  unmarshal_encode x h hs

/-- … and the wire image re-encodes to the very same bytes (re-serialization fixpoint at the
wire level). -/
theorem wire_reencode_identical (x : ProfileX) :
    ({ x with periodType := normPT x.periodType } : ProfileX).encode = x.encode := by
  cases x with
  | mk st s m l f tab df kf tn dn pt p c dst doc =>
    cases pt with
    | none => rfl
    | some v =>
      by_cases hv : v.typeX ≠ 0 ∨ v.unitX ≠ 0
      · rw [show normPT (some v) = some v from if_pos hv]
      · rw [show normPT (some v) = none from if_neg hv]
        simp only [ProfileX.encode, if_neg hv]

-- non-vacuity: the hypotheses are met by extreme values and by a non-trivial message
example : InI64 (-9223372036854775808) ∧ (18446744073709551615 : Nat) < two64 := by decide
example : (⟨18446744073709551615, 0, 1, 4096, -9223372036854775808, 7, true, false, true, false⟩ : MappingX).WF := by
  unfold MappingX.WF; decide
example : (⟨[1, 300, 3], [-1, 0, 7], [⟨1, 2, 0, 0⟩]⟩ : SampleX).WF :=
  ⟨by decide, by decide, fun l hl => by cases List.mem_singleton.mp hl; unfold LabelX.WF; decide,
    Nat.lt_of_le_of_lt (packed_length_le _ (by decide)) (by decide),
    Nat.lt_of_le_of_lt (packed_length_le _ toU64_lt_of_mem) (by decide), fun l _ => l.encode_length_lt⟩


/-! ## The `postDecode ∘ preEncode` half and the composed round trip -/
/-
`Profile.normalize` is the only change a round trip may make: string labels with empty values
disappear (index 0 is "no string" on the wire), numeric labels with value 0 and no unit disappear,
unit lists are padded to the length of their value list, keys left without values disappear, a nil
`PeriodType` becomes the empty value type.

Hypotheses of `parse_serialize`, all of them necessary for the model:
* `Valid` (CheckValid + reference closure): otherwise ids resolve to nil/0;
* `unitsAligned`: otherwise `preEncode` panics on `units[i]` (see C02);
* `mapsSorted` (label maps are real maps, listed in key order): the model represents Go maps
  as key-sorted association lists; this is a well-formedness condition of the representation;
* `InRange` (ids are uint64, values int64) and `EncSizes` (string table shorter than 2^63
  entries, variable-length bodies shorter than 2^64 bytes; `EncSizes_of_counts` discharges it
  from element counts below 2^56): needed by the wire half only.
`normalize_idem` needs distinct NumLabel keys (implied by `mapsSorted`); without them it fails on
the model (`normalize_idem_fails_on_duplicate_keys`) — an artefact of association lists, Go maps
cannot have duplicate keys.
-/


/-! ### non-vacuity witness used by the examples -/

/-- a sample with two string labels (one key has an empty value, one key has only an empty
value), a numeric label with mixed units (incl. value 0 with a unit, value 0 without unit,
trailing empty unit), a numeric label without units, a NumUnit key absent from NumLabel, a
location with two lines, a location without mapping, a nil PeriodType, an empty comment -/
def exProfile : Profile :=
  { sampleType := [⟨[99], [110]⟩], defaultSampleType := [99],
    samples := [⟨[1, 2], [7],
      [([97], [[120], [], [121]]), ([98], [[]])],
      [([107], [0, 5, 0, 3]), ([108], [0, 4])],
      [([107], [[], [117], [], []]), ([122], [[113]])]⟩],
    mappings := [⟨1, 4096, 8192, 0, [102], [], true, false, true, false⟩],
    locations := [⟨1, 1, 4100, [⟨1, 10, 2⟩, ⟨2, 20, 0⟩], false⟩, ⟨2, 0, 0, [], true⟩],
    functions := [⟨1, [109], [109], [102], 9⟩, ⟨2, [103], [], [102], -1⟩],
    comments := [[99], []], docURL := [], dropFrames := [100], keepFrames := [],
    timeNanos := 5, durationNanos := -1, periodType := none, period := 0 }

/-- what `preEncode` makes of it (14 interned strings, 10 flattened labels) -/
def exEncoded : ProfileX :=
  { sampleType := [⟨1, 2⟩],
    sample := [⟨[1, 2], [7], [⟨3, 4, 0, 0⟩, ⟨3, 0, 0, 0⟩, ⟨3, 5, 0, 0⟩, ⟨6, 0, 0, 0⟩, ⟨7, 0, 0, 0⟩, ⟨7, 0, 5, 8⟩,
      ⟨7, 0, 0, 0⟩, ⟨7, 0, 3, 0⟩, ⟨9, 0, 0, 0⟩, ⟨9, 0, 4, 0⟩]⟩],
    mapping := [⟨1, 4096, 8192, 0, 10, 0, true, false, true, false⟩],
    location := [⟨1, 1, 4100, [⟨1, 10, 2⟩, ⟨2, 20, 0⟩], false⟩, ⟨2, 0, 0, [], true⟩],
    function := [⟨1, 11, 11, 10, 9⟩, ⟨2, 12, 0, 10, -1⟩],
    stringTable := [[], [99], [110], [97], [120], [121], [98], [107], [117], [108], [102], [109], [103], [100]],
    dropFramesX := 13, keepFramesX := 0, timeNanos := 5, durationNanos := -1, periodType := none, period := 0,
    commentX := [1, 0], defaultSampleTypeX := 1, docURLX := 0 }

example : preEncode exProfile = .ok exEncoded := by decide +kernel

example : exProfile.Valid ∧ exProfile.unitsAligned = true ∧ exProfile.mapsSorted = true := by decide +kernel

/-- the example really is changed by the round trip (so `normalize` is not the identity on it) -/
example : Profile.normalize exProfile ≠ exProfile ∧
    (Profile.normalize exProfile).samples.map (·.numUnit) = [[([107], [[117], []])]] := by decide +kernel

/-! ### 1. string interning -/

/-- **Interning bundle.**  On a table without duplicates whose entry 0 is the empty string,
`addString` returns a table that extends the old one (prefix), still has no duplicates and
entry 0 empty, and a non-negative index at which the new table holds `s`; the index is 0
exactly for the empty string; and every index valid before is valid, for the same string,
in every later extension (hence in the final table of `preEncode`). -/
theorem interning_bundle (t : StrTab) (s : Str) (h : TabInv t) :
    TabInv (addString t s).1 ∧ t <+: (addString t s).1 ∧
    0 ≤ (addString t s).2 ∧ (addString t s).1[(addString t s).2.toNat]? = some s ∧
    ((addString t s).2 = 0 ↔ s = []) ∧
    (∀ (i : Int) (s' : Str) (t' : StrTab), Res t i s' → (addString t s).1 <+: t' → getString t' i = .ok s') := by
  obtain ⟨h1, h2, h3⟩ := addString_spec t s h
  exact ⟨h1, h2, h3.1, h3.2, addString_zero_iff t s h,
    fun i s' t' hr ht => getString_of_Res ((hr.mono h2).mono ht)⟩

example : TabInv [[], [99]] ∧ addString [[], [99]] [100] = ([[], [99], [100]], 2) ∧
    addString [[], [99]] [99] = ([[], [99]], 1) := ⟨⟨by decide, rfl⟩, by decide, by decide⟩

/-! ### 2. label regrouping -/

/-- **Padding invariant of the NumUnit regrouping loop.**  While `postDecode` processes the
numeric labels of one key `k` (not yet present in the maps `NL`, `NU`), after the kept pairs
`done` the value list of `k` is `done.map fst` and its unit list is `done.map snd` *with the
trailing empty units removed* (Go pads lazily, when the next non-empty unit arrives); pairs
with value 0 and empty unit are skipped.  `optKV k c` is the map entry of `k`, absent while `c`
is empty.  At the end of the sample the trimmed list is padded back (`padding_closes`). -/
theorem padding_invariant (k : Str) (Lb : List (Str × List Str)) (NL : List (Str × List Int))
    (NU : List (Str × List Str)) (hk1 : k ∉ keys NL) (hk2 : k ∉ keys NU) (ps done : List (Int × Str)) :
    (ps.map (fun p => SemLabel.num k p.1 p.2)).foldl semStep
        ⟨Lb, NL ++ optKV k (done.map (·.1)), NU ++ optKV k (dropTrailingEmpty (done.map (·.2)))⟩ =
      ⟨Lb, NL ++ optKV k ((done ++ ps.filter keepPair).map (·.1)),
        NU ++ optKV k (dropTrailingEmpty ((done ++ ps.filter keepPair).map (·.2)))⟩ :=
  foldl_num_key k Lb NL NU hk1 hk2 ps done

/-- … and padding the trimmed units to the number of values restores every unit. -/
theorem padding_closes (us : List Str) : padStringArray (dropTrailingEmpty us) us.length = us :=
  pad_dropTrailingEmpty us

example : dropTrailingEmpty [[], [117], [], []] = [[], [117]] ∧
    padStringArray [[], [117]] 4 = [[], [117], [], []] := by decide +kernel

/-- **Label regrouping.**  If the wire labels of `x` denote (in a table satisfying the
interning invariant) the labels of `s` in the order `preEncode` flattens them, and the label
maps of `s` are key-sorted, `postSample` rebuilds exactly `Sample.normalize s`: empty string
values and keys left without values are dropped, zero values with empty unit are dropped, unit
lists are padded to the value lists, `numUnit` is present only for keys with a non-empty unit,
all in key order. -/
theorem label_regrouping {tab : StrTab} (hinv : TabInv tab) {s : Sample} {x : SampleX}
    (hloc : x.locationIDX = s.locationIDs) (hval : x.value = s.values)
    (hd : All2 (fun sl l => Denotes tab l sl) (semLabels s) x.labelX) (hs : s.mapsSorted = true) :
    postSample tab x = .ok (Sample.normalize s) :=
  postSample_of_SampRel hinv ⟨hloc, hval, hd⟩ hs

/-! ### 3. `postDecode ∘ preEncode = normalize` -/

/-- **Second half of C01.**  For every valid profile with aligned units and key-sorted label
maps, `preEncode` succeeds and `postDecode` of its output is the normalised profile.  (No range
hypotheses: the model's integers are unbounded; ranges matter on the wire only.) -/
theorem postDecode_preEncode (p : Profile) (hv : p.Valid) (ha : p.unitsAligned = true)
    (hs : p.mapsSorted = true) :
    ∃ x, preEncode p = .ok x ∧ postDecode x = .ok (Profile.normalize p) := by
  obtain ⟨x, hx, hrel⟩ := preEncode_spec p ha
  exact ⟨x, hx, postDecode_of_EncRel hrel hv hs⟩

example : ∃ x, preEncode exProfile = .ok x ∧ postDecode x = .ok (Profile.normalize exProfile) :=
  postDecode_preEncode exProfile (by decide +kernel) (by decide +kernel) (by decide +kernel)

/-- `serialize` neither panics nor fails on a profile whose units are aligned (the documented
NumUnit contract): `units[i]` is the only panic site of `preEncode`. -/
theorem serialize_never_panics_of_unitsAligned (p : Profile) (ha : p.unitsAligned = true) :
    (∃ b, serialize p = .ok b) ∧ ∀ s, serialize p ≠ .panic s := by
  obtain ⟨x, hx, _⟩ := preEncode_spec p ha
  have : serialize p = .ok x.encode := by unfold serialize; rw [hx]; rfl
  exact ⟨⟨_, this⟩, fun s hs => by rw [this] at hs; cases hs⟩

example : exProfile.unitsAligned = true := by decide

/-! ### 4. `normalize` -/

/-- Normalising twice is normalising once (for profiles whose label maps are real maps). -/
theorem normalize_idem (p : Profile) (hs : p.mapsSorted = true) :
    Profile.normalize (Profile.normalize p) = Profile.normalize p := by
  apply Profile.normalize_idem_of_nodup
  intro s hs'
  have : s.mapsSorted = true := List.all_eq_true.mp hs s hs'
  unfold Sample.mapsSorted at this
  simp only [Bool.and_eq_true] at this
  exact nodup_keys_of_pairwise (pairwise_of_keysSorted _ this.1.2)

example : exProfile.mapsSorted = true := by decide

/-- Full statement `∀ p, normalize (normalize p) = normalize p` is FALSE for the model: with a
duplicated NumLabel key (impossible for a Go map) `lookup` pairs the second entry with the units
of the first one. -/
theorem normalize_idem_fails_on_duplicate_keys :
    ∃ s : Sample, s.mapsSorted = false ∧ Sample.normalize (Sample.normalize s) ≠ Sample.normalize s :=
  ⟨dupKeySample, by decide, normalize_not_idem_dupKey⟩

/-- The result of a round trip is a fixpoint: it is again valid, aligned and key-sorted, and a
second `preEncode`/`postDecode` returns it unchanged. -/
theorem roundtrip_fixpoint (p : Profile) (hv : p.Valid) (ha : p.unitsAligned = true) (hs : p.mapsSorted = true) :
    (Profile.normalize p).Valid ∧ (Profile.normalize p).unitsAligned = true ∧
    (Profile.normalize p).mapsSorted = true ∧
    ∃ y, preEncode (Profile.normalize p) = .ok y ∧ postDecode y = .ok (Profile.normalize p) := by
  obtain ⟨hv', ha', hs'⟩ := normalize_keeps_contract p hv ha hs
  obtain ⟨y, hy, hpost⟩ := postDecode_preEncode _ hv' ha' hs'
  rw [normalize_idem p hs] at hpost
  exact ⟨hv', ha', hs', y, hy, hpost⟩

example : (Profile.normalize exProfile).Valid ∧ Profile.normalize exProfile ≠ exProfile := by decide +kernel

/-! ### 5. the whole round trip -/

/-- **C01, full statement.**  For every valid profile with aligned units and key-sorted label
maps whose integers fit their Go types, `serialize` succeeds and `ParseUncompressed` of its
bytes is the normalised profile — provided the size side conditions `EncSizes` hold for the
encoded message (`EncSizes_of_counts`: any profile with fewer than 2^56 elements per list). -/
theorem parse_serialize (p : Profile) (hv : p.Valid) (ha : p.unitsAligned = true) (hs : p.mapsSorted = true)
    (hr : InRange p) (hz : ∀ x, preEncode p = .ok x → EncSizes x) :
    ∃ b, serialize p = .ok b ∧ parseUncompressed b = .ok (Profile.normalize p) :=
  parse_serialize_normalize p hv ha hs hr hz

/-- `Copy` never panics under the same hypotheses and returns the normalised profile. -/
theorem copy_eq_normalize (p : Profile) (hv : p.Valid) (ha : p.unitsAligned = true) (hs : p.mapsSorted = true)
    (hr : InRange p) (hz : ∀ x, preEncode p = .ok x → EncSizes x) :
    copy p = .ok (Profile.normalize p) :=
  copy_normalize p hv ha hs hr hz

example : (∃ b, serialize exProfile = .ok b ∧ parseUncompressed b = .ok (Profile.normalize exProfile)) ∧
    copy exProfile = .ok (Profile.normalize exProfile) := by
  have hr : InRange exProfile := ⟨by decide +kernel, by decide +kernel, by decide +kernel, by decide +kernel,
    by decide +kernel, by decide +kernel, by decide +kernel⟩
  have hz : ∀ x, preEncode exProfile = .ok x → EncSizes x := by
    intro x hx
    have h : preEncode exProfile = .ok exEncoded := by decide +kernel
    rw [h] at hx
    cases hx
    exact EncSizes_of_counts (by decide +kernel) (by decide +kernel) (by decide +kernel) (by decide +kernel)
      (by decide +kernel)
  have hv : exProfile.Valid ∧ exProfile.unitsAligned = true ∧ exProfile.mapsSorted = true := by decide +kernel
  exact ⟨parse_serialize exProfile hv.1 hv.2.1 hv.2.2 hr hz, copy_eq_normalize exProfile hv.1 hv.2.1 hv.2.2 hr hz⟩

/-!
## The wire schema of profile/encode.go and profile/proto.go, regenerated on every run

`tools/extract/codecschema.go` re-reads the Go source on every run and writes
`Gen/CodecSchema.lean`.  The obligations below compare it with the schema the MODEL implements:

* `schema_encoders_are_model`, `schema_decoders_are_model`: the schemas of `Model/CodecSchema.lean`,
  run through the generic interpreter, ARE the `encode` functions and decoder tables of
  `Model/Codec.lean` (all values, all wire fields, all field numbers);
* `codec_schema_matches`: the schema regenerated from the Go source is that schema (statement
  order, tags, encoder functions, fields, the PeriodType guard, decoder table order and shapes);
* `packed_threshold_matches`, `varint_limit_matches`, `wire_types_match`, `unknown_wire_type_is_error`:
  the constants of proto.go are the constants of `Model/Wire.lean`;
* `intern_order_model`, `intern_order_matches`: preEncode interns strings in the model's order;
* `dense_tables_match`: postDecode's id tables — when in a recognised shape — are `len+1` long and
  only indexed under their guard.

A change of the Go wire schema therefore breaks one of these on the next run even when random
sampling does not hit it.
-/
section WireSchema
open PV.CodecSchema PV.Spec.CodecSchemaExpected

/-- The encoder schemas, interpreted generically, are the model's `encode` functions. -/
theorem schema_encoders_are_model :
    (∀ p : ProfileX, encodeBy ProfileX.dict p ProfileX.encSchema = some p.encode) ∧
    (∀ p : ValueTypeX, encodeBy ValueTypeX.dict p ValueTypeX.encSchema = some p.encode) ∧
    (∀ p : SampleX, encodeBy SampleX.dict p SampleX.encSchema = some p.encode) ∧
    (∀ p : LabelX, encodeBy LabelX.dict p LabelX.encSchema = some p.encode) ∧
    (∀ p : MappingX, encodeBy MappingX.dict p MappingX.encSchema = some p.encode) ∧
    (∀ p : LocationX, encodeBy LocationX.dict p LocationX.encSchema = some p.encode) ∧
    (∀ p : LineX, encodeBy LineX.dict p LineX.encSchema = some p.encode) ∧
    (∀ p : FunctionX, encodeBy FunctionX.dict p FunctionX.encSchema = some p.encode) :=
  Facts.schema_encoders_are_model

/-- The decoder tables, interpreted generically (`dec[b.field]`, out of range ⇒ skipped), are the
model's `apply` functions — for every wire field, including field numbers outside the tables. -/
theorem schema_decoders_are_model :
    (∀ (m : ProfileX) (f : Field), applyBy ProfileX.dict m f ProfileX.decTable = ProfileX.apply m f) ∧
    (∀ (m : ValueTypeX) (f : Field), applyBy ValueTypeX.dict m f ValueTypeX.decTable = ValueTypeX.apply m f) ∧
    (∀ (m : SampleX) (f : Field), applyBy SampleX.dict m f SampleX.decTable = SampleX.apply m f) ∧
    (∀ (m : LabelX) (f : Field), applyBy LabelX.dict m f LabelX.decTable = LabelX.apply m f) ∧
    (∀ (m : MappingX) (f : Field), applyBy MappingX.dict m f MappingX.decTable = MappingX.apply m f) ∧
    (∀ (m : LocationX) (f : Field), applyBy LocationX.dict m f LocationX.decTable = LocationX.apply m f) ∧
    (∀ (m : LineX) (f : Field), applyBy LineX.dict m f LineX.decTable = LineX.apply m f) ∧
    (∀ (m : FunctionX) (f : Field), applyBy FunctionX.dict m f FunctionX.decTable = FunctionX.apply m f) :=
  Facts.schema_decoders_are_model

/-- The schema regenerated from profile/encode.go is the schema of the model: same message types
in the same order, same statements (tag, encoder, field, guarded-on fields) in every `encode` method, same
decoder closure (shape, receiver type, field, nested message type) at every table index. -/
theorem codec_schema_matches : Gen.CodecSchema.all = expectedSchema := Facts.codec_schema_matches

/-- Every regenerated decoder table lists its entries at their own index (the Go code indexes the
table by the field number; the model's tables carry the index explicitly). -/
theorem decoder_indexes_are_positions : Gen.CodecSchema.all.all indexesArePositions = true :=
  Facts.decoder_indexes_are_positions

/-- proto.go `encodeUint64s`/`encodeInt64s` switch to the packed form at the threshold the model
uses, for every tag and every list.  (A different threshold still round-trips — the decoder accepts
both forms — so sampling cannot see it; this obligation does.) -/
theorem packed_threshold_matches (tag : Nat) :
    (∀ xs : List Nat, encodeUint64s tag xs =
      if xs.length > Gen.CodecSchema.proto.packedThresholdUint64s
      then encodeMessage tag (xs.flatMap encodeVarint) else xs.flatMap (encodeUint64 tag)) ∧
    (∀ xs : List Int, encodeInt64s tag xs =
      if xs.length > Gen.CodecSchema.proto.packedThresholdInt64s
      then encodeMessage tag ((xs.map toU64).flatMap encodeVarint) else xs.flatMap (encodeInt64 tag)) :=
  Facts.packed_threshold_matches tag

/-- proto.go `decodeVarint` gives up at the byte index at which the model does. -/
theorem varint_limit_matches (i u : Nat) (b : UInt8) (rest : Bytes) :
    decodeVarintGo i u (b :: rest) =
      if i ≥ Gen.CodecSchema.proto.varintLimit then .err "bad varint" else
      let u' := (u + (b.toNat % 128) * 2 ^ (7 * i)) % two64
      if b.toNat < 128 then .ok (u', rest) else decodeVarintGo (i + 1) u' rest :=
  Facts.varint_limit_matches i u b rest

/-- proto.go `decodeField` splits the key, accepts exactly the wire types and reads exactly the
fixed widths the model does: for any input whose key varint decodes to `x`. -/
theorem wire_types_match (data rest : Bytes) (x : Nat) (h : decodeVarint data = .ok (x, rest)) :
    (x % (Gen.CodecSchema.proto.typeMask + 1) ∉ Gen.CodecSchema.proto.wireTypes →
      decodeField data = .err "unknown wire type") ∧
    (∀ t n, (t, n) ∈ Gen.CodecSchema.proto.fixedSizes → x % (Gen.CodecSchema.proto.typeMask + 1) = t →
      decodeField data =
        if rest.length < n then .err "not enough data"
        else .ok ({ num := x / 2 ^ Gen.CodecSchema.proto.fieldShift, typ := t, u64 := le (rest.take n), data := [] },
                  rest.drop n)) :=
  Facts.wire_types_match data rest x h

/-- the hypothesis of `wire_types_match` is satisfiable: a fixed64 field (key 9 = field 1, type 1) -/
example : decodeVarint [9, 1, 2, 3, 4, 5, 6, 7, 8] = .ok (9, [1, 2, 3, 4, 5, 6, 7, 8]) := by decide +kernel

/-- `switch b.typ` of proto.go decodeField ends in a `default:` branch that returns an error (the
model's `| _ => .err "unknown wire type"`). -/
theorem unknown_wire_type_is_error : Gen.CodecSchema.proto.defaultRejects = true :=
  Facts.unknown_wire_type_is_error

/-- The model interns the empty string first and then the strings of the probe profile in the order
of `internSites`. -/
theorem intern_order_model : internTable probe = some ([] :: internSites.map (·.marker)) :=
  Facts.intern_order_model

/-- preEncode of profile/encode.go interns the empty string first (itself or in the function that
creates the table) and then calls `addString` in that order (same field paths under the same
loops and conditions; local names and loop syntax do not matter). -/
theorem intern_order_matches :
    Gen.CodecSchema.emptyStringInternedFirst = true ∧ Gen.CodecSchema.internOrder = expectedInternOrder :=
  Facts.intern_order_matches

/-- postDecode's dense id tables, WHEN the translator recognises the id-table code (inline slices or
one generic helper type with a dense slice and a map): at most one per entity table (Mapping, Function, Location), each of the length the model
(`IdTables.build`) uses, and no index expression on them outside `if id < uint64(len(table))`.
When the code has another shape (`denseTables = none`) this says nothing; the dynamic correspondence
and C02's `postDecode_id_tables_total` remain. -/
theorem dense_tables_match (ts : List Gen.CodecSchema.DenseTable)
    (h : Gen.CodecSchema.denseTables = some ts) :
    ∃ extra, ts.all (denseTableOK extra) = true ∧
      ∀ ids : List Nat, IdTables.build ids =
        IdTables.buildGo { dense := List.replicate (ids.length + extra) none, sparse := [] } 0 ids :=
  Facts.dense_tables_match ts h

/-- the hypothesis is satisfiable (and on the pinned tree it is satisfied: the tables are recognised) -/
example : denseTableOK 1 { elem := "Mapping", table := "Mapping", extra := 1, unguardedIndexes := 0 } = true := by decide

end WireSchema

end PV.Props.C01
