import PprofVerif.Lemmas.GraphNodes
/-!
Edge figures of `newGraph`.  What the frames of one sample do to the table entry of an edge (x,y) is an event
(`edgeEv`): nothing, or "add the sample once, with this residual flag", read off `pairsK`, the adjacent pairs of
the kept-filtered stack with their flags (`foldFrames_edge`).  Without its flags `pairsK` is adjacency in the
filtered stack (`pairsK_map_pair`), whence weight, presence and residual mark of every edge for every kept set.
-/
namespace PV.Graph
open PV.GSpec
variable {κ : Type} [DecidableEq κ]

theorem link_some {v : WD} {a : Inner κ} {n p : κ} (h : a.parent = some p) :
    link v a n = if (n, p) ∉ a.seenE ∧ n ≠ p then
      { a with seenE := (n, p) :: a.seenE, g := a.g.addEdge p n v a.residual } else a := by
  unfold link
  simp [h]
theorem link_none {v : WD} {a : Inner κ} {n : κ} (h : a.parent = none) : link v a n = a := by
  unfold link; rw [h]

theorem stepFrame_adds (K : κ → Bool) (v : WD) (a : Inner κ) (f p : κ) (hk : K f = true)
    (hp : a.parent = some p) (h1 : (f, p) ∉ a.seenE) (h2 : f ≠ p) :
    (stepFrame K v a f).seenE = (f, p) :: a.seenE ∧
    (stepFrame K v a f).g.edges = (a.g.addEdge p f v a.residual).edges := by
  rw [stepFrame_eq, if_pos hk, link_some ((visit_parent ..).trans hp),
    if_pos ⟨by rw [visit_seenE]; exact h1, h2⟩]
  refine ⟨congrArg _ (visit_seenE ..), ?_⟩
  show ((visit v a f).g.addEdge p f v (visit v a f).residual).edges = _
  unfold GState.addEdge
  rw [visit_edges, visit_residual]

theorem stepFrame_noadd (K : κ → Bool) (v : WD) (a : Inner κ) (f : κ) (hk : K f = true)
    (h : a.parent = none ∨ ∃ p, a.parent = some p ∧ ((f, p) ∈ a.seenE ∨ f = p)) :
    (stepFrame K v a f).seenE = a.seenE ∧ (stepFrame K v a f).g.edges = a.g.edges := by
  have hl : link v (visit v a f) f = visit v a f := by
    rcases h with hn | ⟨p, hp, hc⟩
    · exact link_none ((visit_parent ..).trans hn)
    · rw [link_some ((visit_parent ..).trans hp), if_neg]
      rw [visit_seenE]
      exact fun ⟨h1, h2⟩ => hc.elim h1 h2
  rw [stepFrame_eq, if_pos hk, hl]
  exact ⟨visit_seenE .., visit_edges ..⟩

/-- what the frame loop does to the table entry of edge (x,y): `some r` = the sample is added to it
once, with residual flag `r`; `none` = untouched. -/
def edgeEv (K : κ → Bool) (seenE : List (κ × κ)) (par : Option κ) (res : Bool) (fs : List κ) (x y : κ) :
    Option Bool :=
  if x ≠ y ∧ (y, x) ∉ seenE then firstFlag x y (pairsK K par res fs) else none

def applyEvent (e : EdgeAcc) (v : WD) : Option Bool → EdgeAcc
  | none => e
  | some r => ⟨e.weight + v, e.residual || r⟩

theorem foldFrames_edge (K : κ → Bool) (v : WD) (x y : κ) (fs : List κ) : ∀ (a : Inner κ),
    (fs.foldl (stepFrame K v) a).g.edgeAt x y =
        applyEvent (a.g.edgeAt x y) v (edgeEv K a.seenE a.parent a.residual fs x y) ∧
    (fs.foldl (stepFrame K v) a).g.hasEdge x y =
        (a.g.hasEdge x y || (edgeEv K a.seenE a.parent a.residual fs x y).isSome) := by
  induction fs with
  | nil => intro a; simp [edgeEv, pairsK, firstFlag, applyEvent]
  | cons f fs ih =>
    intro a
    rw [List.foldl_cons]
    obtain ⟨ih1, ih2⟩ := ih (stepFrame K v a f)
    rw [ih1, ih2, stepFrame_parent, stepFrame_residual]
    by_cases hk : K f = true
    · cases hp : a.parent with
      | none =>
        obtain ⟨e1, e2⟩ := stepFrame_noadd K v a f hk (Or.inl hp)
        rw [e1, edgeAt_of_edges e2, hasEdge_of_edges e2]
        simp [edgeEv, pairsK, hk]
      | some p =>
        by_cases hadd : (f, p) ∉ a.seenE ∧ f ≠ p
        · obtain ⟨e1, e2⟩ := stepFrame_adds K v a f p hk hp hadd.1 hadd.2
          rw [e1, edgeAt_of_edges e2, hasEdge_of_edges e2, addEdge_edgeAt, addEdge_hasEdge]
          by_cases hxy : p = x ∧ f = y
          · obtain ⟨rfl, rfl⟩ := hxy
            have hne : p ≠ f := fun h => hadd.2 h.symm
            simp [edgeEv, pairsK, hk, firstFlag, hadd.1, hne, applyEvent]
          · have h3 : (y = f → ¬ x = p) ↔ True := iff_true_intro (fun h1 h2 => hxy ⟨h2.symm, h1.symm⟩)
            simp [edgeEv, pairsK, hk, firstFlag, hxy, h3]
        · have hc : (f, p) ∈ a.seenE ∨ f = p := Decidable.or_iff_not_not_and_not.mpr hadd
          obtain ⟨e1, e2⟩ := stepFrame_noadd K v a f hk (Or.inr ⟨p, hp, hc⟩)
          rw [e1, edgeAt_of_edges e2, hasEdge_of_edges e2]
          by_cases hxy : p = x ∧ f = y
          · obtain ⟨rfl, rfl⟩ := hxy
            rcases hc with hc | hc <;> simp [edgeEv, hc, applyEvent]
          · simp [edgeEv, pairsK, hk, firstFlag, hxy]
    · have hkf : K f = false := by simpa using hk
      rw [stepFrame_eq, if_neg hk]
      simp [edgeEv, pairsK, hkf]

/-- the event of a whole sample: a skipped sample (value and divisor 0) touches nothing -/
def sampleEv (K : κ → Bool) (s : GSample κ) (x y : κ) : Option Bool :=
  if counted s = true then edgeEv K [] none false s.frames x y else none

omit [DecidableEq κ] in
theorem counted_eq (s : GSample κ) : counted s = !(s.d == 0 && s.w == 0) := by
  unfold counted; cases h1 : s.w == 0 <;> cases h2 : s.d == 0 <;> rfl

theorem sampleStep_edge (K : κ → Bool) (g : GState κ) (s : GSample κ) (x y : κ) :
    (sampleStep K g s).edgeAt x y = applyEvent (g.edgeAt x y) s.wd (sampleEv K s x y) ∧
    (sampleStep K g s).hasEdge x y = (g.hasEdge x y || (sampleEv K s x y).isSome) := by
  rw [sampleStep_eq]
  unfold sampleEv
  rw [counted_eq]
  cases (s.d == 0 && s.w == 0)
  · rw [if_neg Bool.false_ne_true, edgeAt_of_edges (finish_edges ..), hasEdge_of_edges (finish_edges ..)]
    exact foldFrames_edge K s.wd x y s.frames ⟨g, [], [], none, false⟩
  · exact ⟨rfl, (Bool.or_false _).symm⟩

theorem applyEvent_weight (e : EdgeAcc) (v : WD) (ev : Option Bool) :
    (applyEvent e v ev).weight = e.weight + ind (ev.isSome = true) v := by
  cases ev with
  | none => exact (WD.add_zero _).symm
  | some r => rfl
theorem applyEvent_residual (e : EdgeAcc) (v : WD) (ev : Option Bool) :
    (applyEvent e v ev).residual = (e.residual || (ev == some true)) := by
  cases ev with
  | none => exact (Bool.or_false _).symm
  | some r => cases r <;> rfl

/-- a sample that is not counted has value and divisor 0, so it may be summed or not -/
theorem sampleEv_isSome_wd (K : κ → Bool) (s : GSample κ) (x y : κ) :
    ind ((sampleEv K s x y).isSome = true) s.wd = ind ((edgeEv K [] none false s.frames x y).isSome = true) s.wd := by
  unfold sampleEv
  rw [counted_eq]
  cases hs : (s.d == 0 && s.w == 0)
  · rfl
  · rw [wd_zero_of_skip s hs, ind_zero, ind_zero]

/-- adjacent pairs of `par? ++ kf` -/
def adjP : Option κ → List κ → List (κ × κ)
  | none, kf => kf.zip kf.tail
  | some p, kf => (p :: kf).zip kf

omit [DecidableEq κ] in
theorem pairsK_map_pair (K : κ → Bool) (fs : List κ) : ∀ (par : Option κ) (res : Bool),
    (pairsK K par res fs).map (fun t => (t.1, t.2.1)) = adjP par (fs.filter K) := by
  induction fs with
  | nil => intro par res; cases par <;> rfl
  | cons f fs ih =>
    intro par res
    by_cases hk : K f = true
    · rw [List.filter_cons_of_pos hk]
      cases par with
      | none => rw [pairsK, if_pos hk, ih]; rfl
      | some p => rw [pairsK, if_pos hk, List.map_cons, ih]; rfl
    · rw [List.filter_cons_of_neg hk]
      cases par <;> rw [pairsK, if_neg hk, ih]

theorem firstFlag_isSome (x y : κ) (l : List (κ × κ × Bool)) :
    (firstFlag x y l).isSome = true ↔ (x, y) ∈ l.map (fun t => (t.1, t.2.1)) := by
  induction l with
  | nil => exact ⟨fun h => (nomatch h), fun h => (nomatch h)⟩
  | cons hd tl ih =>
    obtain ⟨a, b, r⟩ := hd
    rw [firstFlag, List.map_cons, List.mem_cons]
    split
    · rename_i h; exact ⟨fun _ => Or.inl (by rw [h.1, h.2]), fun _ => rfl⟩
    · rename_i h
      exact ih.trans ⟨Or.inr, fun h' => h'.resolve_left fun e => h ⟨(Prod.mk.inj e).1.symm, (Prod.mk.inj e).2.symm⟩⟩

theorem edgeEv_isSome (K : κ → Bool) (fs : List κ) (x y : κ) :
    (edgeEv K [] none false fs x y).isSome = (decide (x ≠ y) && adjacent x y (fs.filter K)) := by
  unfold edgeEv adjacent
  by_cases hxy : x = y
  · rw [if_neg (fun h => h.1 hxy), decide_eq_false (fun h => h hxy)]; rfl
  · rw [if_pos ⟨hxy, List.not_mem_nil⟩, decide_eq_true hxy, Bool.true_and, Bool.eq_iff_iff, firstFlag_isSome,
      pairsK_map_pair, decide_eq_true_iff]
    rfl

@[simp] theorem empty_weight (x y : κ) : (GState.empty : GState κ).weight x y = 0 := rfl
@[simp] theorem empty_residual (x y : κ) : (GState.empty : GState κ).residual x y = false := rfl
@[simp] theorem empty_hasEdge (x y : κ) : (GState.empty : GState κ).hasEdge x y = false := rfl

theorem counted_restrict (K : κ → Bool) (s : GSample κ) : counted (restrict K s) = counted s := rfl

theorem foldl_any {σ α : Type} (step : σ → α → σ) (obs : σ → Bool) (c : α → Bool)
    (h : ∀ g s, obs (step g s) = (obs g || c s)) (ss : List α) :
    ∀ g, obs (ss.foldl step g) = (obs g || ss.any c) := by
  induction ss with
  | nil => intro g; exact (Bool.or_false _).symm
  | cons s ss ih => intro g; rw [List.foldl_cons, ih, h, List.any_cons, Bool.or_assoc]

theorem newGraph_weight (K : κ → Bool) (ss : List (GSample κ)) (a b : κ) :
    (newGraph K ss).weight a b = edgeSpecK K ss a b := by
  refine (foldl_sumOver _ (GState.weight · a b) (fun s => (edgeEv K [] none false s.frames a b).isSome = true)
    (fun g s => ?_) ss _).trans ?_
  · rw [weight_eq_edgeAt, (sampleStep_edge K g s a b).1, applyEvent_weight, sampleEv_isSome_wd]; rfl
  · unfold edgeSpecK edgeSpec
    rw [empty_weight, WD.zero_add, sumOver_map_restrict]
    exact congrArg _ (funext fun s => by rw [Bool.decide_eq_true, edgeEv_isSome]; rfl)

theorem newGraph_hasEdge (K : κ → Bool) (ss : List (GSample κ)) (a b : κ) :
    (newGraph K ss).hasEdge a b = edgeExistsK K ss a b := by
  refine (foldl_any _ (·.hasEdge a b) _ (fun g s => (sampleStep_edge K g s a b).2) ss _).trans ?_
  unfold edgeExistsK edgeExists
  rw [empty_hasEdge, Bool.false_or, List.any_map]
  congr 1
  funext s
  unfold sampleEv
  simp only [Function.comp, counted_restrict]
  by_cases hc : counted s = true
  · simp only [hc, if_true, Bool.true_and, edgeEv_isSome]; rfl
  · simp [hc]

theorem newGraph_residual (K : κ → Bool) (ss : List (GSample κ)) (a b : κ) :
    (newGraph K ss).residual a b = edgeResidualSpecK K ss a b := by
  refine (foldl_any _ (GState.residual · a b) (fun s => sampleEv K s a b == some true) (fun g s => ?_) ss _).trans ?_
  · rw [residual_eq_edgeAt, (sampleStep_edge K g s a b).1, applyEvent_residual]; rfl
  unfold edgeResidualSpecK
  rw [empty_residual, Bool.false_or]
  congr 1
  funext s
  unfold sampleEv edgeEv
  by_cases hc : counted s = true
  · by_cases hab : a = b
    · simp [hc, hab]
    · simp [hc, hab]
  · simp [hc]
end PV.Graph
