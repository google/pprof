import PprofVerif.Model.Conc
import PprofVerif.Lemmas.ConcList
/-!
The invariant `Inv` of any number of concurrent `newTempFile` loops (`internal/driver/tempfile.go`; machine `FS` of
`Model/Conc.lean`), split into what it says of one creator (`Ok`, monotone in the directory) and of two
(`Distinct`); `Inv.set` is the part common to the three kinds of step.
-/
namespace PV.Conc.FS

/-- invariant of `k` concurrent newTempFile calls started on directory `d0` -/
structure Inv (limit : Nat) (tag : Nat → Nat) (d0 : Dir) (s : State) : Prop where
  /-- files that existed before are untouched -/
  keep : ∀ n c, d0 n = some c → s.dir n = some c
  /-- a returned name did not exist before and holds what its creator wrote -/
  got : ∀ (i n : Nat), s.cs[i]? = some (.got n) → d0 n = none ∧ s.dir n = some (tag i)
  /-- indices below the one being tried are taken -/
  trying : ∀ (i n : Nat), s.cs[i]? = some (.trying n) → 1 ≤ n ∧ ∀ k, 1 ≤ k → k < n → (s.dir k).isSome = true
  /-- a creator gives up only when every index below the limit is taken -/
  gaveUp : ∀ (i : Nat), s.cs[i]? = some .gaveUp → ∀ k, 1 ≤ k → k < limit → (s.dir k).isSome = true
  /-- two creators never return the same name -/
  distinct : ∀ (i j n : Nat), i ≠ j → s.cs[i]? = some (.got n) → s.cs[j]? = some (.got n) → False

variable {limit : Nat} {tag : Nat → Nat} {d0 : Dir} {s s1 s' : State} {i : Nat} {sched : List Nat}

/-- what `Inv` says about creator `i` alone -/
def Ok (limit : Nat) (tag : Nat → Nat) (d0 dir : Dir) (i : Nat) : Creator → Prop
  | .got n => d0 n = none ∧ dir n = some (tag i)
  | .trying n => 1 ≤ n ∧ ∀ k, 1 ≤ k → k < n → (dir k).isSome = true
  | .gaveUp => ∀ k, 1 ≤ k → k < limit → (dir k).isSome = true

def Distinct : List Creator → Prop := PairRel fun a b => ∀ n, a = .got n → b = .got n → False

theorem inv_iff :
    Inv limit tag d0 s ↔ (∀ n c, d0 n = some c → s.dir n = some c) ∧
      (∀ (i : Nat) (c : Creator), s.cs[i]? = some c → Ok limit tag d0 s.dir i c) ∧ Distinct s.cs :=
  ⟨fun h => ⟨h.keep,
      fun i c hi => match c, hi with
        | .trying _, hi => h.trying i _ hi
        | .got _, hi => h.got i _ hi
        | .gaveUp, hi => h.gaveUp i hi,
      fun i j _ _ hij hi hj n ha hb => h.distinct i j n hij (ha ▸ hi) (hb ▸ hj)⟩,
    fun ⟨hk, ho, hd⟩ => ⟨hk, fun i _ hi => ho i _ hi, fun i _ hi => ho i _ hi, fun i hi => ho i _ hi,
      fun _ _ n hij hi hj => hd hij hi hj n rfl rfl⟩⟩

theorem Ok.mono {dir dir' : Dir} (hd : ∀ k x, dir k = some x → dir' k = some x) {c : Creator}
    (h : Ok limit tag d0 dir i c) : Ok limit tag d0 dir' i c := by
  have hs : ∀ k, (dir k).isSome = true → (dir' k).isSome = true := fun k hk => by
    obtain ⟨x, hx⟩ := Option.isSome_iff_exists.mp hk
    rw [hd k x hx]; rfl
  cases c with
  | got n => exact ⟨h.1, hd n _ h.2⟩
  | trying n => exact ⟨h.1, fun k h1 h2 => hs k (h.2 k h1 h2)⟩
  | gaveUp => exact fun k h1 h2 => hs k (h k h1 h2)

theorem inv_start (limit : Nat) (tag : Nat → Nat) (d0 : Dir) (k : Nat) : Inv limit tag d0 (start d0 k) := by
  have hc : ∀ (i : Nat) (c : Creator), (start d0 k).cs[i]? = some c → c = .trying 1 := fun i c h => by
    simp only [start, List.getElem?_replicate] at h
    split at h <;> cases h; rfl
  refine inv_iff.mpr ⟨fun n c h => h, fun i c hi => ?_, fun i j a b _ hi _ n ha => ?_⟩
  · rw [hc i c hi]; exact ⟨Nat.le_refl 1, fun k h1 h2 => by omega⟩
  · rw [hc i a hi] at ha; cases ha

theorem Inv.set (hinv : Inv limit tag d0 s) {dir' : Dir} {c' : Creator}
    (hgrow : ∀ k x, s.dir k = some x → dir' k = some x) (hok : Ok limit tag d0 dir' i c')
    (hfree : ∀ n, c' = .got n → s.dir n = none) : Inv limit tag d0 ⟨dir', s.cs.set i c'⟩ := by
  obtain ⟨hk, ho, hd⟩ := inv_iff.mp hinv
  refine inv_iff.mpr ⟨fun n x hn => hgrow n x (hk n x hn),
    forall_getElem?_set (fun j c hj => (ho j c hj).mono hgrow) hok, pairRel_set hd fun j b _ hj => ?_⟩
  -- a name somebody else returned is not free
  have : ∀ n, c' = .got n → b = .got n → False := fun n e eb => by
    have := ho j b hj
    rw [eb] at this
    cases (hfree n e).symm.trans this.2
  exact ⟨this, fun n eb e => this n e eb⟩

theorem inv_step (hinv : Inv limit tag d0 s) (h : step true limit tag s i = some s1) :
    Inv limit tag d0 s1 := by
  unfold step at h
  split at h
  · next n hi =>
    have hn := hinv.trying i n hi
    split at h
    · -- index limit reached
      cases h
      exact hinv.set (fun _ _ h => h) (fun k h1 h2 => hn.2 k h1 (by omega)) nofun
    · split at h
      · -- EEXIST: try the next index
        next hex =>
        cases h
        refine hinv.set (fun _ _ h => h) ⟨by omega, fun k h1 h2 => ?_⟩ nofun
        by_cases hkn : k = n
        · subst hkn; simpa using hex
        · exact hn.2 k h1 (by omega)
      · -- the name is free: create it
        next hex =>
        cases h
        have hfree : s.dir n = none := by simpa using hex
        have hd0 : d0 n = none := by
          cases hd : d0 n with
          | none => rfl
          | some c => rw [hinv.keep n c hd] at hfree; cases hfree
        refine hinv.set (fun k x hx => ?_) ⟨hd0, by simp [Dir.set]⟩ fun m e => by cases e; exact hfree
        have : k ≠ n := fun e => by rw [e, hfree] at hx; cases hx
        simp only [Dir.set, if_neg this, hx]
  · cases h

theorem inv_exec (hinv : Inv limit tag d0 s) (h : exec true limit tag s sched = some s') :
    Inv limit tag d0 s' := by
  induction sched generalizing s with
  | nil => cases h; exact hinv
  | cons i is ih =>
    unfold exec at h
    split at h
    · cases h
    · next s1 hs => exact ih (inv_step hinv hs) h

end PV.Conc.FS
