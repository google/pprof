import PprofVerif.Model.TagFilter
/-! C06: the range scanner of the model of `parseTagFilterRange` (`internal/driver/driver_focus.go`) on well-formed
range texts (a, a:, :a, a:b). -/
namespace PV.TagFilter
open PV

def stops (q : UInt8 → Bool) : Str → Bool
  | [] => true
  | b :: _ => !q b

theorem takeWhile_append_stop (q : UInt8 → Bool) (a x : Str) (ha : a.all q = true) (hx : stops q x = true) :
    (a ++ x).takeWhile q = a ∧ (a ++ x).dropWhile q = x := by
  induction a with
  | nil =>
    cases x with
    | nil => exact ⟨rfl, rfl⟩
    | cons b r =>
      simp only [stops, Bool.not_eq_eq_eq_not, Bool.not_true] at hx
      simp [hx]
  | cons b r ih =>
    simp only [List.all_cons, Bool.and_eq_true] at ha
    obtain ⟨i1, i2⟩ := ih ha.2
    simp [ha.1, i1, i2]

theorem alpha_not_digit (b : UInt8) (h : isAlpha b = true) : isDigit b = false := by
  unfold isAlpha at h; unfold isDigit
  simp only [Bool.or_eq_true, Bool.and_eq_true, decide_eq_true_eq] at h
  simp only [Bool.and_eq_false_iff, decide_eq_false_iff_not, UInt8.not_le]
  rcases h with h | h
  · right; exact UInt8.lt_of_lt_of_le (by decide) h.1
  · right; exact UInt8.lt_of_lt_of_le (by decide) h.1

theorem digit_not_sign (b : UInt8) (h : isDigit b = true) : isSign b = false := by
  unfold isDigit at h; unfold isSign
  simp only [Bool.and_eq_true, decide_eq_true_eq] at h
  simp only [Bool.or_eq_false_iff, beq_eq_false_iff_ne, ne_eq]
  constructor
  · intro hb; subst hb; exact absurd h.1 (by decide)
  · intro hb; subst hb; exact absurd h.1 (by decide)

/-- a number token of a range expression: optional sign, digits, optional letters. -/
structure NumTok where
  sg : Str
  ds : Str
  al : Str

def NumTok.WF (t : NumTok) : Prop :=
  (t.sg = [] ∨ t.sg = [43] ∨ t.sg = [45]) ∧ t.ds ≠ [] ∧ t.ds.all isDigit = true ∧ t.al.all isAlpha = true

def NumTok.num (t : NumTok) : Str := t.sg ++ t.ds
def NumTok.text (t : NumTok) : Str := t.sg ++ t.ds ++ t.al
def NumTok.rmatch (t : NumTok) : RMatch := ⟨t.text, t.num, t.al⟩

theorem stops_digit_alpha_rest (al rest : Str) (hal : al.all isAlpha = true)
    (hr : stops isDigit rest = true) : stops isDigit (al ++ rest) = true := by
  cases al with
  | nil => simpa using hr
  | cons b r =>
    simp only [List.all_cons, Bool.and_eq_true] at hal
    simp [stops, alpha_not_digit b hal.1]

theorem matchHere_tok (t : NumTok) (h : t.WF) (rest : Str)
    (hr1 : stops isAlpha rest = true) (hr2 : stops isDigit rest = true) :
    matchHere (t.text ++ rest) = some (t.rmatch, rest) := by
  obtain ⟨hsg, hne, hds, hal⟩ := h
  have hd := takeWhile_append_stop isDigit t.ds (t.al ++ rest) hds (stops_digit_alpha_rest t.al rest hal hr2)
  have ha := takeWhile_append_stop isAlpha t.al rest hal hr1
  have hdne : t.ds.isEmpty = false := by simpa using hne
  have htxt : t.text ++ rest = t.sg ++ (t.ds ++ (t.al ++ rest)) := by simp [NumTok.text]
  rw [htxt]
  rcases hsg with hs | hs
  · -- no sign: the text starts with a digit, which is not a sign
    obtain ⟨d, dr, hds'⟩ := List.exists_cons_of_ne_nil hne
    have hdd : isDigit d = true := by rw [hds'] at hds; exact (Bool.and_eq_true _ _ ▸ hds).1
    have e : d :: (dr ++ (t.al ++ rest)) = t.ds ++ (t.al ++ rest) := by simp [hds']
    rw [hs, List.nil_append, ← e]
    unfold matchHere
    simp only [digit_not_sign d hdd, Bool.false_eq_true, ↓reduceIte]
    rw [e, hd.1, hd.2, ha.1, ha.2]
    simp [hdne, NumTok.rmatch, NumTok.text, NumTok.num, hs]
  · obtain ⟨b, hb, hs⟩ : ∃ b, isSign b = true ∧ t.sg = [b] := by
      rcases hs with hs | hs <;> exact ⟨_, by decide, hs⟩
    rw [hs, List.singleton_append]
    unfold matchHere
    simp only [hb, ↓reduceIte]
    rw [hd.1, hd.2, ha.1, ha.2]
    simp [hdne, NumTok.rmatch, NumTok.text, NumTok.num, hs]

theorem matchHere_colon (rest : Str) : matchHere (58 :: rest) = none := by
  unfold matchHere
  have h1 : isSign 58 = false := by decide
  have h2 : isDigit 58 = false := by decide
  simp [h1, h2]

theorem scanRanges_nil (fuel n : Nat) : scanRanges fuel n [] = [] := by
  cases fuel <;> cases n <;> simp [scanRanges]

theorem scanRanges_succ (fuel n : Nat) (s : Str) :
    scanRanges (fuel + 1) (n + 1) s =
      match matchHere s with
      | some (m, rest) => m :: scanRanges fuel n rest
      | none => scanRanges fuel (n + 1) s.tail := by
  cases s with
  | nil => simp [scanRanges, matchHere, scanRanges_nil]
  | cons _ _ => rfl

theorem stops_nil (q : UInt8 → Bool) : stops q [] = true := rfl
theorem stops_colon_alpha (r : Str) : stops isAlpha (58 :: r) = true := by simp [stops]; decide
theorem stops_colon_digit (r : Str) : stops isDigit (58 :: r) = true := by simp [stops]; decide

theorem scanRanges_tok (t : NumTok) (h : t.WF) (rest : Str) (fuel n : Nat)
    (hr1 : stops isAlpha rest = true) (hr2 : stops isDigit rest = true) :
    scanRanges (fuel + 1) (n + 1) (t.text ++ rest) = t.rmatch :: scanRanges fuel n rest := by
  rw [scanRanges_succ, matchHere_tok t h rest hr1 hr2]

theorem scanRanges_tok_end (t : NumTok) (h : t.WF) (fuel n : Nat) :
    scanRanges (fuel + 1) (n + 1) t.text = [t.rmatch] := by
  simpa [scanRanges_nil] using scanRanges_tok t h [] fuel n rfl rfl

theorem scanRanges_colon (fuel n : Nat) (rest : Str) :
    scanRanges (fuel + 1) (n + 1) (58 :: rest) = scanRanges fuel (n + 1) rest := by
  rw [scanRanges_succ, matchHere_colon]
  rfl

theorem findRanges_eq (t : NumTok) (h : t.WF) : findRanges t.text = [t.rmatch] :=
  scanRanges_tok_end t h _ 1

theorem findRanges_ge (t : NumTok) (h : t.WF) : findRanges (t.text ++ colon) = [t.rmatch] := by
  unfold findRanges colon
  have hl : (t.text ++ [58]).length + 1 = (t.text.length + 1) + 1 := by simp
  rw [hl, scanRanges_tok t h [58] (t.text.length + 1) 1 (stops_colon_alpha []) (stops_colon_digit [])]
  rw [scanRanges_colon, scanRanges_nil]

theorem findRanges_le (t : NumTok) (h : t.WF) : findRanges (colon ++ t.text) = [t.rmatch] := by
  unfold findRanges colon
  simp only [List.singleton_append, List.length_cons]
  rw [scanRanges_colon]
  exact scanRanges_tok_end t h _ 1

theorem text_ne_nil (t : NumTok) (h : t.WF) : t.text ≠ [] := by
  obtain ⟨_, hne, _, _⟩ := h
  intro hx
  simp only [NumTok.text, List.append_eq_nil_iff] at hx
  exact hne hx.1.2

theorem findRanges_between (a b : NumTok) (ha : a.WF) (hb : b.WF) :
    findRanges (a.text ++ colon ++ b.text) = [a.rmatch, b.rmatch] := by
  unfold findRanges colon
  -- three steps of fuel are needed: token, colon, token
  obtain ⟨k, hk⟩ : ∃ k, (a.text ++ [58] ++ b.text).length + 1 = k + 3 := by
    have h1 := List.length_pos_iff.mpr (text_ne_nil a ha)
    have h2 := List.length_pos_iff.mpr (text_ne_nil b hb)
    exact ⟨a.text.length + b.text.length - 1, by
      simp only [List.length_append, List.length_cons, List.length_nil]; omega⟩
  have e1 := scanRanges_tok a ha (58 :: b.text) (k + 2) 1 (stops_colon_alpha _) (stops_colon_digit _)
  rw [hk, List.append_assoc, List.singleton_append, e1, scanRanges_colon, scanRanges_tok_end b hb k 0]

theorem text_head_ne_colon (t : NumTok) (h : t.WF) : ∃ b r, t.text = b :: r ∧ b ≠ 58 := by
  obtain ⟨hsg, hne, hds, _⟩ := h
  cases hd : t.ds with
  | nil => exact absurd hd hne
  | cons d dr =>
    have hdd : isDigit d = true := by rw [hd] at hds; simp only [List.all_cons, Bool.and_eq_true] at hds; exact hds.1
    rcases hsg with hs | hs | hs
    · refine ⟨d, dr ++ t.al, by simp [NumTok.text, hs, hd], ?_⟩
      intro hx; subst hx; exact absurd hdd (by decide)
    · exact ⟨43, t.ds ++ t.al, by simp [NumTok.text, hs], by decide⟩
    · exact ⟨45, t.ds ++ t.al, by simp [NumTok.text, hs], by decide⟩

theorem append_colon_ne (l : Str) : (l ++ colon == l) = false := by
  apply beq_eq_false_iff_ne.mpr
  intro h
  have := congrArg List.length h
  simp [colon] at this

theorem colon_append_ne (l : Str) : (colon ++ l == l) = false := by
  apply beq_eq_false_iff_ne.mpr
  intro h
  have := congrArg List.length h
  simp [colon] at this

theorem colon_append_ne_append_colon (t : NumTok) (h : t.WF) : (colon ++ t.text == t.text ++ colon) = false := by
  obtain ⟨b, r, htx, hb⟩ := text_head_ne_colon t h
  apply beq_eq_false_iff_ne.mpr
  intro he
  rw [htx] at he
  simp only [colon, List.cons_append, List.cons.injEq] at he
  exact hb he.1.symm

/-- `a` is "equal to a", `a:` "at least a", `:a` "at most a", the bound scaled by `measurement.Scale` into its own
unit. -/
theorem parseTagFilterRange_single (a : NumTok) (ha : a.WF) (va : Int) (hva : parseInt64 a.num = some va)
    (sa : Q) (ua : Str) (hsa : scale va a.al a.al = some (sa, ua)) :
    parseTagFilterRange a.text = .ok (some ⟨.eq, sa, sa, ua⟩) ∧
    parseTagFilterRange (a.text ++ colon) = .ok (some ⟨.ge, sa, sa, ua⟩) ∧
    parseTagFilterRange (colon ++ a.text) = .ok (some ⟨.le, sa, sa, ua⟩) := by
  refine ⟨?_, ?_, ?_⟩
  · simp [parseTagFilterRange, findRanges_eq a ha, NumTok.rmatch, hva, hsa]
  · simp [parseTagFilterRange, findRanges_ge a ha, NumTok.rmatch, hva, hsa, append_colon_ne]
  · simp [parseTagFilterRange, findRanges_le a ha, NumTok.rmatch, hva, hsa, colon_append_ne,
      colon_append_ne_append_colon a ha]

/-- `a:b` is "between a and b", both bounds scaled into the first bound's unit, provided the second scales to it. -/
theorem parseTagFilterRange_between (a b : NumTok) (ha : a.WF) (hb : b.WF) (va vb : Int)
    (hva : parseInt64 a.num = some va) (hvb : parseInt64 b.num = some vb)
    (sa : Q) (ua : Str) (hsa : scale va a.al a.al = some (sa, ua))
    (sb : Q) (ub : Str) (hsb : scale vb b.al ua = some (sb, ub)) :
    parseTagFilterRange (a.text ++ colon ++ b.text) =
      (if ua != ub then .ok none else .ok (some ⟨.between, sa, sb, ua⟩)) := by
  simp only [parseTagFilterRange, findRanges_between a b ha hb, NumTok.rmatch, hva, hvb, hsa, hsb]
  simp

/-- What the closure `parseTagFilterRange` returns tests: the value is scaled into the filter's unit and compared in
exact arithmetic. -/
theorem rangeFilter_test_between (lo hi : Q) (unit : Str) (v : Int) (u : Str) (sv : Q)
    (h : scale v u unit = some (sv, unit)) :
    (⟨.between, lo, hi, unit⟩ : RangeFilter).test v u = (Q.le lo sv && Q.le sv hi) := by
  simp [RangeFilter.test, h]

end PV.TagFilter
