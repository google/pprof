import PprofVerif.Lemmas.MergeOutput
import PprofVerif.Lemmas.MergeWeight
import PprofVerif.Lemmas.MergeHeaders
/-!
One pass of the merge (`mergeOnce`): for valid, well-typed, compatible inputs it returns a valid
profile that weighs every stack as the non-zero samples of all sources together do, and in which
every stack occurs once (DESIGN A.2: conservation, validity and "each key once" read off the
invariants).
-/
namespace PV.Merge
open PV.Spec
open PV.Wire (InI64 two63)

/-- Go's types: sample values and numeric label values are `int64`. -/
def Typed (p : Profile) : Prop :=
  ∀ s ∈ p.samples, (∀ v ∈ s.values, InI64 v) ∧ ∀ kv ∈ s.numLabel, ∀ v ∈ kv.2, InI64 v

def mkOut (hdr : Profile) (t : Tables) (stab : List (Str × Sample)) : Profile :=
  { hdr with
    samples := stab.map (·.2),
    mappings := renum setMappingId 1 t.mtab,
    locations := renum setLocationId 1 (t.ltab.map (·.2)),
    functions := renum setFunctionId 1 t.ftab }

theorem mkOut_hasTables (hdr : Profile) (t : Tables) (stab : List (Str × Sample)) :
    HasTables (mkOut hdr t stab) t := ⟨rfl, rfl, rfl⟩

theorem mergeOnce_eq (first : Profile) (rest : List Profile) (hdr : Profile) (srcs : List Src)
    (stab : List (Str × Sample)) (h1 : combineHeaders first rest = .ok hdr)
    (h2 : optMap resolveSrc (first :: rest) = some srcs)
    (h3 : accumulate [] ((allSamples srcs).map (keyedSample (buildTables srcs))) = .ok stab) :
    mergeOnce (first :: rest) = .ok (mkOut hdr (buildTables srcs) stab) := by
  simp only [mergeOnce, h1, h2, h3]
  rfl

structure SrcOK (n : Nat) (p : Profile) (src : Src) : Prop where
  res : resolve p = some src.samples
  ok : SamplesOK n src.samples
  nums : ∀ s ∈ src.samples, ∀ kv ∈ s.numLabel, ∀ v ∈ kv.2, InI64 v
  fns : ∀ s ∈ src.samples, ∀ l ∈ s.locs, l.linesHaveFn
  width : p.sampleType.length = n

theorem srcOK_of_valid {p : Profile} (hv : p.Valid) (ht : Typed p) :
    ∃ src, resolveSrc p = some src ∧ SrcOK p.sampleType.length p src := by
  obtain ⟨rs, hrs, hfa, hfn⟩ := resolve_valid hv
  refine ⟨⟨rs, p.mappings.head?⟩, by simp only [resolveSrc, hrs], hrs, ?_, ?_, hfn, rfl⟩
  · intro r hr
    obtain ⟨s, hs, hres⟩ := forall₂_mem_right hfa hr
    obtain ⟨hval, _⟩ := resolveSample_fields hres
    rw [hval]
    exact ⟨hv.values_length hs, (ht s hs).1⟩
  · intro r hr
    obtain ⟨s, hs, hres⟩ := forall₂_mem_right hfa hr
    obtain ⟨_, _, hnl, _⟩ := resolveSample_fields hres
    rw [hnl]
    exact (ht s hs).2

theorem srcs_of_valid (n : Nat) (ps : List Profile) (hv : ∀ p ∈ ps, p.Valid) (ht : ∀ p ∈ ps, Typed p)
    (hn : ∀ p ∈ ps, p.sampleType.length = n) :
    ∃ srcs, optMap resolveSrc ps = some srcs ∧ List.Forall₂ (SrcOK n) ps srcs :=
  optMap_exists resolveSrc (SrcOK n) ps fun p hp => hn p hp ▸ srcOK_of_valid (hv p hp) (ht p hp)

theorem mkOut_valid (srcs : List Src) (hdr : Profile) (tab : List (Str × Sample))
    (hT : hdr.sampleType.length ≠ 0 ∨ tab = [])
    (hent : ∀ e ∈ tab, e.2.values.length = hdr.sampleType.length ∧
      ∃ s ∈ allSamples srcs, e.2.locationIDs = s.locs.map (buildTables srcs).lid)
    (hfn : ∀ l ∈ allLocs srcs, l.linesHaveFn) : (mkOut hdr (buildTables srcs) tab).Valid := by
  let t := buildTables srcs
  have hover := buildTables_over srcs
  refine (valid_iff _).mpr ⟨⟨?_, ?_, ?_⟩, ?_, ?_, ?_⟩
  · intro s hs
    obtain ⟨e, he, rfl⟩ := List.mem_map.mp hs
    obtain ⟨hlen, s0, hs0, hids⟩ := hent e he
    refine ⟨hlen, fun id hid => ?_⟩
    rw [hids] at hid
    obtain ⟨l, hl, rfl⟩ := List.mem_map.mp hid
    have h1 := idOf_pos Prod.fst t.ltab (locKeyOf t.ftab t.mtab l)
    have h2 := idOf_le Prod.fst t.ltab _ (hover.lkey_mem (mem_allLocs_of_sample hs0 hl))
    exact ⟨Nat.ne_of_gt h1,
      renum_any_id setLocationId (·.id) (fun _ _ => rfl) h1 (by rw [List.length_map]; exact h2)⟩
  · intro lo hlo
    obtain ⟨l', hl', i, rfl⟩ := mem_renum setLocationId hlo
    obtain ⟨e, he, rfl⟩ := List.mem_map.mp hl'
    obtain ⟨l0, hl0, rfl⟩ := List.mem_map.mp (mem_internBy Prod.fst _ e he)
    have hin := hover.locIn hl0
    constructor
    · show (remapLoc t.ftab t.mtab l0).mappingID = 0 ∨ _
      unfold remapLoc
      cases hm : l0.mapping with
      | none => left; rfl
      | some m =>
        right
        exact renum_any_id setMappingId (·.id) (fun _ _ => rfl) (idOf_pos _ _ _) (idOf_le _ _ _ (hin.1 m hm))
    · intro ln hln
      have hlines : (setLocationId (remapLoc t.ftab t.mtab l0) i).lines = l0.lines.map (remapLine t.ftab) := by
        unfold setLocationId remapLoc; cases l0.mapping <;> rfl
      obtain ⟨rl, hrl, rfl⟩ := List.mem_map.mp (show ln ∈ l0.lines.map (remapLine t.ftab) by rw [← hlines]; exact hln)
      obtain ⟨f, hf⟩ := Option.isSome_iff_exists.mp (hfn l0 hl0 rl hrl)
      rw [remapLine_eq, hf]
      have h1 := idOf_pos functionKey t.ftab (functionKey f)
      exact ⟨Nat.ne_of_gt h1, renum_any_id setFunctionId (·.id) (fun _ _ => rfl) h1
        (idOf_le _ _ _ (hin.2 rl hrl f hf))⟩
  · exact hT.imp id fun h => by rw [h]; rfl
  · exact renum_idsNodup setMappingId (·.id) (fun _ _ => rfl) _
  · exact renum_idsNodup setFunctionId (·.id) (fun _ _ => rfl) _
  · exact renum_idsNodup setLocationId (·.id) (fun _ _ => rfl) _

/-- what the sample memo `tab` of a pass keeps of the traversed samples `S`: one entry per key in
order of first appearance, each with the key and the shape of a traversed sample. -/
structure MemoOf (t : Tables) (S : List RSample) (tab : List (Str × Sample)) : Prop where
  keys : tab.map (·.1) = dedupKeys (S.map fun s => (keyedSample t s).1)
  shape : ∀ e ∈ tab, ∃ s ∈ S, e.1 = (keyedSample t s).1 ∧ SameShape e.2 (keyedSample t s).2
  nums : ∀ s ∈ S, ∀ kv ∈ s.numLabel, ∀ v ∈ kv.2, InI64 v

structure OnceSpec (n : Nat) (srcs : List Src) (hdr r : Profile) : Prop where
  out : ∃ tab, MemoOf (buildTables srcs) (allSamples srcs) tab ∧ r = mkOut hdr (buildTables srcs) tab
  hdr : headerOf r = headerOf hdr
  valid : r.Valid
  typed : Typed r
  rr : ∃ rr, resolve r = some rr ∧ SamplesOK n rr ∧ (rr.map stackKey).Nodup ∧
        List.Forall₂ (fun (e : Sample) rs => rs.values = e.values) r.samples rr ∧
        (∀ rs ∈ rr, ∃ s ∈ allSamples srcs, stackKey s = stackKey rs) ∧
        ∀ k, weightR n rr k = weightR n (allSamples srcs) k

theorem mergeOnce_spec (n : Nat) (first : Profile) (rest : List Profile) (hdr : Profile) (srcs : List Src)
    (hh : combineHeaders first rest = .ok hdr) (hst : hdr.sampleType.length = n)
    (hsrcs : optMap resolveSrc (first :: rest) = some srcs)
    (hok : List.Forall₂ (SrcOK n) (first :: rest) srcs) :
    ∃ r, mergeOnce (first :: rest) = .ok r ∧ OnceSpec n srcs hdr r := by
  let t := buildTables srcs
  let S := allSamples srcs
  let items := S.map (keyedSample t)
  have hS : ∀ s ∈ S, VecOK n s.values ∧ (∀ kv ∈ s.numLabel, ∀ v ∈ kv.2, InI64 v) ∧
      (∀ l ∈ s.locs, l.linesHaveFn) ∧ isZeroSample s.values = false := by
    intro s hs
    obtain ⟨src, hsrc, hmem, hz⟩ := mem_allSamples.mp hs
    obtain ⟨p, _, hp⟩ := forall₂_mem_right hok hsrc
    exact ⟨hp.ok s hmem, hp.nums s hmem, hp.fns s hmem, hz⟩
  have hfnAll : ∀ l' ∈ allLocs srcs, l'.linesHaveFn := by
    intro l hl
    obtain ⟨s, hs, hls⟩ := List.mem_flatMap.mp hl
    exact (hS s hs).2.2.1 l hls
  have hitems : ∀ x ∈ items, VecOK n x.2.values := List.forall_mem_map.mpr fun s hs => (hS s hs).1
  obtain ⟨tab, htab, hinv⟩ := accumulate_spec items hitems
  have hvec := hinv.vecOK fun y hy => (hitems y hy).1
  refine ⟨mkOut hdr t tab, mergeOnce_eq first rest hdr srcs tab hh hsrcs htab, ?_⟩
  -- key ⇔ stack key on the traversed samples
  have hkey : ∀ s1 ∈ S, ∀ s2 ∈ S, ((keyedSample t s1).1 = (keyedSample t s2).1 ↔ stackKey s1 = stackKey s2) :=
    fun s1 h1 s2 h2 => (buildTables_over srcs).sampleKey_eq_iff (fun l hl => mem_allLocs_of_sample h1 hl)
      (hS s1 h1).2.1 (hS s2 h2).2.1
  -- every entry stands for a traversed sample and resolves to its stack
  have hm : MemoOf t S tab := by
    refine ⟨by rw [accumulate_keys _ _ htab, List.map_map]; rfl, fun e he => ?_, fun s hs => (hS s hs).2.1⟩
    obtain ⟨x, hx, hxk, hshape⟩ := hinv.shape e he
    obtain ⟨s, hs, rfl⟩ := List.mem_map.mp hx
    exact ⟨s, hs, hxk.symm, hshape⟩
  obtain ⟨rr, hrr, hfa⟩ := optMap_map_exists (resolveSample (mkOut hdr t tab)) (fun e : Str × Sample => e.2)
    (fun e rs => (∃ s ∈ S, (keyedSample t s).1 = e.1 ∧ stackKey rs = stackKey s) ∧
      rs.values = e.2.values) tab (by
      intro e he
      obtain ⟨s, hs, hxk, hshape⟩ := hm.shape e he
      obtain ⟨rs, h1, h2, h3⟩ := (buildTables_over srcs).resolveSample_out (mkOut_hasTables hdr t tab)
        (fun l hl => mem_allLocs_of_sample hs hl) hshape
      exact ⟨rs, h1, ⟨s, hs, hxk.symm, h2⟩, h3⟩)
  have hrrOK : SamplesOK n rr := by
    intro rs hrs
    obtain ⟨e, he, _, hv⟩ := forall₂_mem_right hfa hrs
    exact hv ▸ hvec e he
  -- each stack once
  have hnodup : (rr.map stackKey).Nodup := by
    refine forall₂_nodup (fun e : Str × Sample => e.1) stackKey hfa hinv.nodup ?_
    intro e _ e' _ rs rs' hr hr' hg
    obtain ⟨⟨s, hs, hk, hsk⟩, _⟩ := hr
    obtain ⟨⟨s', hs', hk', hsk'⟩, _⟩ := hr'
    rw [← hk, ← hk']
    exact (hkey s hs s' hs').mpr (by rw [← hsk, ← hsk', hg])
  -- values of an entry = weight of its stack over the traversed samples
  have hval : ∀ rs ∈ rr, rs.values = weightR n S (stackKey rs) := by
    intro rs hrs
    obtain ⟨e, he, ⟨s, hs, hk, hsk⟩, hv⟩ := forall₂_mem_right hfa hrs
    rw [hv, hinv.vals e he, hsk]
    refine congrArg (sumV n) ?_
    show ((S.map (keyedSample t)).filter _).map _ = (S.filter _).map _
    rw [List.filter_map, List.map_map]
    refine congrArg (List.map _) (List.filter_congr fun s' hs' => ?_)
    rw [Function.comp, decide_eq_decide, ← hk]
    exact hkey s' hs' s hs
  have hcomplete : ∀ s ∈ S, ∃ rs ∈ rr, stackKey rs = stackKey s := by
    intro s hs
    have hk : (keyedSample t s).1 ∈ tab.map (·.1) := (hinv.keys _).mpr (List.mem_map_of_mem (List.mem_map_of_mem hs))
    obtain ⟨e, he, hek⟩ := List.mem_map.mp hk
    obtain ⟨rs, hrs, ⟨s', hs', hk', hsk'⟩, _⟩ := forall₂_mem_left hfa he
    exact ⟨rs, hrs, hsk'.trans ((hkey s' hs' s hs).mp (by rw [hk', hek]))⟩
  have hweight : ∀ k, weightR n rr k = weightR n S k := by
    intro k
    by_cases hex : ∃ rs ∈ rr, stackKey rs = k
    · obtain ⟨rs, hrs, rfl⟩ := hex
      rw [weightR_of_nodup hrrOK hnodup hrs, hval rs hrs]
    · rw [weightR_of_not_mem (fun rs hrs h => hex ⟨rs, hrs, h⟩), weightR_of_not_mem]
      intro s hs h
      obtain ⟨rs, hrs, hk⟩ := hcomplete s hs
      exact hex ⟨rs, hrs, hk.trans h⟩
  refine ⟨⟨tab, hm, rfl⟩, rfl, ?_, ?_, ⟨rr, hrr, hrrOK, hnodup, ?_, ?_, hweight⟩⟩
  · refine mkOut_valid srcs hdr tab ?_ ?_ hfnAll
    · -- without sample types every traversed sample would be all-zero, so nothing was traversed
      refine (Nat.eq_zero_or_pos n).symm.imp (fun h => by omega) fun h0 => ?_
      have hnil : items = [] := by
        refine List.map_eq_nil_iff.mpr (List.eq_nil_iff_forall_not_mem.mpr fun s hs => ?_)
        obtain ⟨hv, _, _, hz⟩ := hS s hs
        rw [List.eq_nil_of_length_eq_zero (hv.1.trans h0)] at hz
        cases hz
      cases tab with
      | nil => rfl
      | cons e es => exact absurd ((hinv.keys e.1).mp List.mem_cons_self) (by rw [hnil]; exact List.not_mem_nil)
    · intro e he
      obtain ⟨s, hs, _, hshape⟩ := hm.shape e he
      exact ⟨(hvec e he).1.trans hst.symm, s, hs, hshape.1⟩
  · intro s hs
    obtain ⟨e, he, rfl⟩ := List.mem_map.mp hs
    obtain ⟨s0, hs0, _, hshape⟩ := hm.shape e he
    exact ⟨(hvec e he).2, hshape.2.2.1 ▸ (hS s0 hs0).2.1⟩
  · exact List.forall₂_map_left_iff.mpr (hfa.imp fun _ _ h => h.2)
  · intro rs hrs
    obtain ⟨e, _, ⟨s, hs, _, hsk⟩, _⟩ := forall₂_mem_right hfa hrs
    exact ⟨s, hs, hsk.symm⟩

end PV.Merge
