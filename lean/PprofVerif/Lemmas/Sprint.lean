import PprofVerif.Model.GraphOrder
/-!
# `fmt.Sprint(NodeInfo)` separates distinct infos whose string fields contain no space

`compareNodes` compares `fmt.Sprint(l.Info) < fmt.Sprint(r.Info)`.  The rendering joins the eight
fields with single spaces, so it is injective exactly as far as the fields can be recovered by
splitting on spaces.  (Core Lean tactics only.)
-/
namespace PV.GraphOrder
open PV PV.Order

def valRev : List Nat → Nat
  | [] => 0
  | d :: ds => d + 10 * valRev ds

theorem valRev_digitsRev : ∀ (f n : Nat), n < f → valRev (digitsRev f n) = n
  | 0, n, h => absurd h (Nat.not_lt_zero n)
  | f + 1, n, h => by
    unfold digitsRev
    by_cases hn : n < 10
    · rw [if_pos hn]; exact Nat.add_zero n
    · rw [if_neg hn, valRev, valRev_digitsRev f (n / 10) (by omega)]
      exact Nat.mod_add_div n 10

theorem digitsRev_lt10 : ∀ (f n : Nat), ∀ d ∈ digitsRev f n, d < 10
  | 0, _, d, h => nomatch h
  | f + 1, n, d, h => by
    unfold digitsRev at h
    by_cases hn : n < 10
    · rw [if_pos hn, List.mem_singleton] at h; exact h ▸ hn
    · rw [if_neg hn] at h
      rcases List.mem_cons.mp h with e | hm
      · exact e ▸ Nat.mod_lt n (by decide)
      · exact digitsRev_lt10 f (n / 10) d hm

theorem digitByte_toNat {d : Nat} (h : d < 10) : (digitByte d).toNat = 48 + d := by
  rw [digitByte, UInt8.toNat_ofNat', Nat.mod_eq_of_lt (by omega)]

theorem map_digitByte_inj (xs ys : List Nat) (hx : ∀ d ∈ xs, d < 10) (hy : ∀ d ∈ ys, d < 10)
    (h : xs.map digitByte = ys.map digitByte) : xs = ys := by
  induction xs generalizing ys with
  | nil => exact (List.map_eq_nil_iff.mp h.symm).symm
  | cons x xs ih =>
    cases ys with
    | nil => exact List.map_eq_nil_iff.mp h
    | cons y ys =>
      obtain ⟨h1, h2⟩ := List.cons.inj h
      have h1 := congrArg UInt8.toNat h1
      rw [digitByte_toNat (hx x List.mem_cons_self), digitByte_toNat (hy y List.mem_cons_self)] at h1
      rw [Nat.add_left_cancel h1, ih ys (fun d hd => hx d (List.mem_cons_of_mem _ hd))
        (fun d hd => hy d (List.mem_cons_of_mem _ hd)) h2]

theorem decNat_digit_lt (n : Nat) : ∀ d ∈ (digitsRev (n + 1) n).reverse, d < 10 :=
  fun d hd => digitsRev_lt10 _ _ d (List.mem_reverse.mp hd)

theorem decNat_inj {m n : Nat} (h : decNat m = decNat n) : m = n := by
  have h' := congrArg valRev
    (List.reverse_inj.mp (map_digitByte_inj _ _ (decNat_digit_lt m) (decNat_digit_lt n) h))
  rwa [valRev_digitsRev _ _ (by omega), valRev_digitsRev _ _ (by omega)] at h'

theorem decNat_digits (n : Nat) : ∀ b ∈ decNat n, 48 ≤ b.toNat ∧ b.toNat ≤ 57 := by
  intro b hb
  obtain ⟨d, hd, rfl⟩ := List.mem_map.mp hb
  have hd10 := decNat_digit_lt n d hd
  rw [digitByte_toNat hd10]; omega

theorem decInt_inj {i j : Int} (h : decInt i = decInt j) : i = j := by
  -- a rendering that starts with `-` (45) is not a rendering of a natural number
  have hsign : ∀ (m n : Nat), (45 : UInt8) :: decNat m ≠ decNat n := fun m n e =>
    absurd (decNat_digits n 45 (e ▸ List.mem_cons_self)).1 (by decide)
  have hnat : ∀ {a b : Int}, 0 ≤ a → 0 ≤ b → a.toNat = b.toNat → a = b := fun ha hb e => by
    rw [← Int.toNat_of_nonneg ha, ← Int.toNat_of_nonneg hb, e]
  unfold decInt at h
  by_cases hi : i < 0 <;> by_cases hj : j < 0
  · rw [if_pos hi, if_pos hj] at h
    exact Int.neg_inj.mp (hnat (Int.neg_nonneg_of_nonpos (Int.le_of_lt hi))
      (Int.neg_nonneg_of_nonpos (Int.le_of_lt hj)) (decNat_inj (List.cons.inj h).2))
  · rw [if_pos hi, if_neg hj] at h; exact absurd h (hsign _ _)
  · rw [if_neg hi, if_pos hj] at h; exact absurd h.symm (hsign _ _)
  · rw [if_neg hi, if_neg hj] at h
    exact hnat (Int.not_lt.mp hi) (Int.not_lt.mp hj) (decNat_inj h)

theorem sp_not_mem_decNat (n : Nat) : sp ∉ decNat n := by
  intro h
  have := decNat_digits n sp h
  simp [sp] at this

theorem sp_not_mem_decInt (i : Int) : sp ∉ decInt i := by
  unfold decInt
  by_cases hi : i < 0 <;> simp only [hi, if_true, if_false]
  · intro h
    rcases List.mem_cons.mp h with e | hm
    · simp [sp] at e
    · exact sp_not_mem_decNat _ hm
  · exact sp_not_mem_decNat _

theorem append_sp_inj (s t x y : Str) (hs : sp ∉ s) (ht : sp ∉ t) (h : s ++ sp :: x = t ++ sp :: y) :
    s = t ∧ x = y := by
  induction s generalizing t with
  | nil =>
    cases t with
    | nil => exact ⟨rfl, (List.cons.inj h).2⟩
    | cons b t => exact absurd ((List.cons.inj h).1 ▸ List.mem_cons_self) ht
  | cons a s ih =>
    cases t with
    | nil => exact absurd ((List.cons.inj h).1 ▸ List.mem_cons_self) hs
    | cons b t =>
      obtain ⟨e, h'⟩ := List.cons.inj h
      obtain ⟨e1, e2⟩ := ih t (fun m => hs (List.mem_cons_of_mem _ m)) (fun m => ht (List.mem_cons_of_mem _ m)) h'
      exact ⟨by rw [e, e1], e2⟩

theorem ne_append_sp (s t y : Str) (hs : sp ∉ s) : s ≠ t ++ sp :: y := by
  intro h
  exact hs (h ▸ List.mem_append_right _ (List.mem_cons_self ..))

theorem joinSp_inj (fs gs : List Str) (hl : fs.length = gs.length) (hf : ∀ f ∈ fs, sp ∉ f)
    (hg : ∀ g ∈ gs, sp ∉ g) (h : joinSp fs = joinSp gs) : fs = gs := by
  induction fs generalizing gs with
  | nil => cases gs with
    | nil => rfl
    | cons => cases hl
  | cons s fs ih =>
    cases gs with
    | nil => cases hl
    | cons t gs =>
      have hl' := Nat.succ.inj hl
      cases fs with
      | nil => cases gs with
        | nil => exact congrArg (· :: []) h
        | cons => cases hl'
      | cons f fs => cases gs with
        | nil => cases hl'
        | cons g gs =>
          obtain ⟨e1, e2⟩ := append_sp_inj s t _ _ (hf s List.mem_cons_self) (hg t List.mem_cons_self) h
          rw [e1, ih (g :: gs) hl' (fun x hx => hf x (List.mem_cons_of_mem _ hx))
            (fun x hx => hg x (List.mem_cons_of_mem _ hx)) e2]

/-- the hypothesis under which `compareNodes` is a faithful tie-break -/
def SpaceFree (i : NodeInfo) : Prop := sp ∉ i.name ∧ sp ∉ i.origName ∧ sp ∉ i.file ∧ sp ∉ i.objfile

theorem sprintFields_spaceFree (i : NodeInfo) (h : SpaceFree i) : ∀ f ∈ sprintFields i, sp ∉ f := by
  obtain ⟨h1, h2, h3, h4⟩ := h
  intro f hf
  simp only [sprintFields, List.mem_cons, List.mem_nil_iff, or_false] at hf
  rcases hf with e | e | e | e | e | e | e | e <;> subst e
  · exact h1
  · exact h2
  · exact sp_not_mem_decNat _
  · exact h3
  · exact sp_not_mem_decInt _
  · exact sp_not_mem_decInt _
  · exact sp_not_mem_decInt _
  · exact h4

theorem sprintInfo_inj {a b : NodeInfo} (ha : SpaceFree a) (hb : SpaceFree b)
    (h : sprintInfo a = sprintInfo b) : a = b := by
  unfold sprintInfo at h
  have h1 := (List.cons.inj h).2
  have h2 := List.append_cancel_right h1
  have h3 := joinSp_inj _ _ (by simp [sprintFields]) (sprintFields_spaceFree a ha) (sprintFields_spaceFree b hb) h2
  simp only [sprintFields, List.cons.injEq, and_true] at h3
  obtain ⟨e1, e2, e3, e4, e5, e6, e7, e8⟩ := h3
  cases a; cases b
  simp only [NodeInfo.mk.injEq]
  exact ⟨e1, e2, decNat_inj e3, e4, decInt_inj e5, decInt_inj e6, decInt_inj e7, e8⟩

theorem skey_inj {s t : Str} (h : skey s = skey t) : s = t :=
  (List.map_inj_right fun _ _ e => UInt8.toNat_inj.mp (Int.ofNat.inj e)).mp h

theorem ikey_inj {m n : Int} (h : ikey m = ikey n) : m = n := (List.cons.inj h).1

theorem NodeProj.get_sprint (sc : ScoreSrc) (n : Node) : NodeProj.get sc .Sprint_Info n = skey (sprintInfo n.info) := rfl

end PV.GraphOrder
