import PprofVerif.Lemmas.LegacyMapSection
import PprofVerif.Model.LegacyContention
/-!
Helper lemmas for C14: contention / mutex profiles —
`parseContention (printContention d) = ok (expectedContention d)`.
-/
namespace PV.Legacy
open PV

def ContKey.all : List ContKey := [.cyclesPerSecond, .samplingPeriod, .msSinceReset, .discarded]

theorem ContKey.mem_all (k : ContKey) : k ∈ ContKey.all := by cases k <;> decide

/-- what the attribute loop can see of a key; a fixed table, evaluated once -/
theorem ContKey.print_table : ∀ k ∈ ContKey.all,
    (k.print ≠ [] ∧ stopsB isSpace k.print = true ∧ stopsB isSpace k.print.reverse = true) ∧
    (∀ c ∈ [35, 45, 61, 10, 13], c ∉ k.print) ∧ contKeyOf k.print = some k := by
  decide +kernel

theorem ContKey.not_mem_print (k : ContKey) {c : UInt8} (h : c ∈ [35, 45, 61, 10, 13]) : c ∉ k.print :=
  (print_table k k.mem_all).2.1 c h

theorem contKeyOf_print (k : ContKey) : contKeyOf k.print = some k := (ContKey.print_table k k.mem_all).2.2

theorem splitEq_assign {key val : Str} (spaced : Bool) (hk : (61 : UInt8) ∉ key) (hne : key ≠ [])
    (hk1 : Stops isSpace key) (hk2 : Stops isSpace key.reverse) (hv1 : Stops isSpace val) (hv2 : Stops isSpace val.reverse) :
    ∃ k v, splitEq (key ++ ((if spaced then asc " = " else asc "=") ++ val)) = some (k, v) ∧
      trimSpace k = key ∧ trimSpace v = val := by
  rw [assignSep_eq]
  generalize (if spaced then 1 else 0) = n
  refine ⟨key ++ sp n, sp n ++ val, ?_, trimSpace_pad 0 n key hne hk1 hk2, trimSpace_replicate n val hv1 hv2⟩
  rw [List.append_assoc, ← List.append_assoc, List.cons_append]
  refine splitEq_append _ _ fun b hb => ?_
  rcases List.mem_append.1 hb with hb | hb
  · exact ne_of_not_mem hk b hb
  · rw [List.eq_of_mem_replicate hb]; decide

def ContAttr.core (a : ContAttr) : Str := a.key.print ++ ((if a.spaced then asc " = " else asc "=") ++ intStr a.value)

theorem ContAttr.print_eq (a : ContAttr) : a.print = sp a.indent ++ a.core := by
  simp only [ContAttr.print, ContAttr.core, List.append_assoc]

theorem ContAttr.trim (a : ContAttr) : trimSpace a.print = a.core := by
  obtain ⟨⟨hne, hs1, _⟩, _⟩ := ContKey.print_table a.key a.key.mem_all
  rw [a.print_eq]
  refine trimSpace_replicate _ _ (Stops_append_of_ne_nil hne (Stops_of_stopsB hs1)) ?_
  rw [ContAttr.core, ← List.append_assoc]
  exact Stops_reverse_append (intStr_ne_nil _) (intStr_reverse_stops _)

theorem contAttrLoop_filler (f : Filler) (R : List Str) (st : ContState) : contAttrLoop (f.print :: R) st = contAttrLoop R st := by
  rw [contAttrLoop]; simp only [trimSpace_filler, if_true]

theorem contAttrLoop_attr (a : ContAttr) (ha : -(two63 : Int) ≤ a.value ∧ a.value < (two63 : Int)) (R : List Str) (st : ContState) :
    contAttrLoop (a.print :: R) st = contAttrLoop R (st.set a.key a.value) := by
  obtain ⟨⟨hne, hs1, hs2⟩, _⟩ := ContKey.print_table a.key a.key.mem_all
  obtain ⟨h1, h2⟩ : isSpaceOrComment a.core = false ∧ hasPrefix (asc "---") a.core = false :=
    not_filler_nor_dashes hne (Stops_of_stopsB hs1) (a.key.not_mem_print (by simp)) (a.key.not_mem_print (by simp)) _
  obtain ⟨c', t', hd, hc'⟩ := intStr_cons a.value
  obtain ⟨k, v, (hs : splitEq a.core = _), hk', hv'⟩ := splitEq_assign a.spaced (a.key.not_mem_print (by simp)) hne (Stops_of_stopsB hs1)
    (Stops_of_stopsB hs2) (by rw [hd]; simpa using (head_not_space hc').1) (intStr_reverse_stops a.value)
  rw [contAttrLoop]
  simp only [ContAttr.trim, h1, h2, Bool.false_eq_true, if_false, hs, hk', hv', contKeyOf_print, parseI64Base0Z_intStr ha.1 ha.2]
  cases a.key <;> rfl

theorem contAttrLoop_stop (l : Str) (R : List Str) (st : ContState) (h1 : isSpaceOrComment (trimSpace l) = false)
    (h2 : hasPrefix (asc "---") (trimSpace l) = true ∨ splitEq (trimSpace l) = none) :
    contAttrLoop (l :: R) st = .ok (st, l :: R) := by
  rw [contAttrLoop]
  rcases h2 with h2 | h2
  · simp only [h1, h2, Bool.false_eq_true, if_false, if_true]
  · cases hasPrefix (asc "---") (trimSpace l) <;> simp only [h1, h2, Bool.false_eq_true, if_false, if_true]

def ContRec.core (w : Nat) (r : ContRec) : Str :=
  dec r.cycles ++ (sp (r.gap + 1) ++ (dec r.count ++ (asc " @" ++ printAddrs w r.addrs)))

theorem ContRec.print_eq (w : Nat) (r : ContRec) : r.print w = sp r.indent ++ r.core w := by
  simp only [ContRec.print, ContRec.core, List.append_assoc]

theorem ContRec.core_cons (w : Nat) (r : ContRec) : ∃ c t, r.core w = c :: t ∧ isDigit c = true := by
  obtain ⟨c, t, hd, hc⟩ := dec_cons r.cycles
  unfold ContRec.core; rw [hd]; exact ⟨c, _, rfl, hc⟩

theorem ContRec.trim (w : Nat) (r : ContRec) : trimSpace (r.print w) = r.core w := by
  rw [ContRec.print_eq]
  obtain ⟨c, t, hd, hc⟩ := r.core_cons w
  refine trimSpace_replicate _ _ (by rw [hd]; simpa using isSpace_false_of_isDigit hc) ?_
  rw [ContRec.core, asc_at, show ([32, 64] : Str) ++ printAddrs w r.addrs = [32] ++ 64 :: printAddrs w r.addrs from rfl]
  simp only [← List.append_assoc]
  exact at_printAddrs_reverse_stops _ _ _

theorem ContRec.not_mem_print {x : UInt8} (hd : isDigit x = false) (ha : isAddrText x = false) (h : x ≠ 32 ∧ x ≠ 64)
    (w : Nat) (r : ContRec) : x ∉ r.print w := by
  simp [ContRec.print, asc_at, not_mem_sp h.1, not_mem_dec hd, not_mem_printAddrs ha, h.1, h.2]

theorem matchContSampleAt_core (w : Nat) (r : ContRec) :
    matchContSampleAt (r.core w) = some (dec r.cycles, dec r.count, printAddrs w r.addrs) := by
  unfold matchContSampleAt ContRec.core
  rw [reDigits_dec (by simp [sp_succ, isDigit_32])]
  simp only [Option.bind_eq_bind, Option.bind_some]
  rw [skipSp_sp _ _ (Stops_sp32_dec _ _),
    reDigits_dec (by rw [asc_at]; simp; decide)]
  simp only [Option.bind_some, stripPrefix_append, takeWhile_addrText]
  rfl

theorem contSample_values_of_period_nonpos (cyc : CycFn) {st : ContState} (cycles count : Nat) (addrs : List Nat)
    (h : st.period ≤ 0) : (contSample cyc st cycles count addrs).values = [(count : Int), (cycles : Int)] := by
  have h1 : ¬ (st.period > 0) := by omega
  simp [contSample, h1]

theorem contSample_values_of_cpuHz_nonpos (cyc : CycFn) {st : ContState} (cycles count : Nat) (addrs : List Nat)
    (h1 : 0 < st.period) (h2 : st.cpuHz ≤ 0) :
    (contSample cyc st cycles count addrs).values = [wrapI64 ((count : Int) * st.period), (cycles : Int)] := by
  have h3 : ¬ (st.cpuHz > 0) := by omega
  simp [contSample, h1, h3]

theorem parseContentionSample_core (cyc : CycFn) (st : ContState) (w : Nat) (r : ContRec) (hr : r.wf = true) :
    parseContentionSample cyc st (r.core w) = .ok (contSample cyc st r.cycles r.count r.addrs) := by
  simp only [ContRec.wf, Bool.and_eq_true, decide_eq_true_eq, List.all_eq_true] at hr
  obtain ⟨⟨⟨_, h1⟩, h2⟩, h3⟩ := hr
  unfold parseContentionSample
  rw [searchRe_of_some (matchContSampleAt_core w r)]
  simp only [parseI64_dec h1, parseI64_dec h2, parseHexAddresses_printAddrs w r.addrs h3]

theorem contSampleLoop_filler (cyc : CycFn) (st : ContState) (f : Filler) (R : List Str) (acc : List RawSample) :
    contSampleLoop cyc st (f.print :: R) acc = contSampleLoop cyc st R acc := by
  have hp : hasPrefix (asc "---") (trimSpace f.print) = false := by
    rcases f.trim with h | ⟨t, h⟩ <;> rw [h]
    · decide +kernel
    · exact hasPrefix_dashes_ne _ (by decide)
  rw [contSampleLoop]; simp only [trimSpace_filler, hp, Bool.false_eq_true, if_false, if_true]

theorem contSampleLoop_rec (cyc : CycFn) (st : ContState) (w : Nat) (r : ContRec) (hr : r.wf = true)
    (R : List Str) (acc : List RawSample) :
    contSampleLoop cyc st (r.print w :: R) acc = contSampleLoop cyc st R (contSample cyc st r.cycles r.count r.addrs :: acc) := by
  obtain ⟨c, t, hd, hc⟩ := r.core_cons w
  have h := digit_line t hc
  rw [← hd] at h
  rw [contSampleLoop]
  simp only [ContRec.trim, h.1, h.2, Bool.false_eq_true, if_false, parseContentionSample_core cyc st w r hr]

/-- After the attributes come filler lines and then a line at which the attribute loop hands over: the
first record, the sentinel of the map section, or the end of the input. -/
theorem contAttrLoop_body (w : Nat) (rs : List ContRec) (post : List Filler) (map : Option MapSection) :
    ∃ fs L', rs.flatMap (fun r => printFillers r.fill ++ [r.print w]) ++ (printFillers post ++ tailLines sentinelMemoryMap map)
        = printFillers fs ++ L' ∧ ∀ st, contAttrLoop (printFillers fs ++ L') st = .ok (st, L') := by
  cases rs with
  | nil =>
    refine ⟨post, _, rfl, fun st => ?_⟩
    rw [loop_fillers contAttrLoop contAttrLoop_filler]
    cases map with
    | none => rfl
    | some m =>
      exact contAttrLoop_stop _ _ _ (by rw [sentinel_boundary.1]; exact sentinel_boundary.not_filler)
        (Or.inl (by rw [sentinel_boundary.1]; exact sentinel_boundary.2))
  | cons r rs =>
    refine ⟨r.fill, r.print w :: _, by rw [List.flatMap_cons, List.append_assoc, List.append_assoc]; rfl, fun st => ?_⟩
    obtain ⟨c, t, hd, hc⟩ := r.core_cons w
    rw [loop_fillers contAttrLoop contAttrLoop_filler]
    refine contAttrLoop_stop _ _ _ ?_ (Or.inr ?_) <;> rw [r.trim]
    · rw [hd]; exact (digit_line t hc).1
    · rw [← r.trim]
      exact splitEq_none _ fun b hb => ne_of_not_mem (r.not_mem_print (x := 61) (by decide) (by decide) (by decide) w)
        b (trimSpace_mem hb)


theorem ContHead.prefix (h : ContHead) :
    (hasPrefix (asc "--- contentionz ") h.print || hasPrefix (asc "--- mutex:") h.print || hasPrefix (asc "--- contention:") h.print) = true := by
  cases h with
  | contentionz n => rw [ContHead.print, List.append_assoc, hasPrefix_append]; rfl
  | mutex => rw [ContHead.print, hasPrefix_self, Bool.or_true, Bool.true_or]
  | contention => rw [ContHead.print, hasPrefix_self, Bool.or_true]

/-- the head lines hold no `h` (so nothing in them starts `heap profile:`) and no line terminator; a fixed table -/
theorem ContHead.lit_table : ∀ c ∈ [104, 10, 13],
    ∀ l ∈ [asc "--- contentionz ", asc " ---", asc "--- mutex:", asc "--- contention:"], c ∉ l := by decide +kernel

theorem ContHead.not_mem_print (h : ContHead) {c : UInt8} (hc : c ∈ [104, 10, 13]) : c ∉ h.print := by
  have hd : isDigit c = false := by
    simp only [List.mem_cons, List.not_mem_nil, or_false] at hc
    rcases hc with rfl | rfl | rfl <;> decide
  cases h with
  | contentionz n =>
    simp only [ContHead.print, List.mem_append, not_or]
    exact ⟨⟨lit_table c hc _ (by simp), not_mem_dec hd n⟩, lit_table c hc _ (by simp)⟩
  | mutex => exact lit_table c hc (asc "--- mutex:") (by simp)
  | contention => exact lit_table c hc (asc "--- contention:") (by simp)

theorem ContHead.LineOK_print (h : ContHead) : LineOK h.print :=
  LineOK_of_not_mem (h.not_mem_print (by simp)) (h.not_mem_print (by simp))

theorem ContAttr.LineOK_print (a : ContAttr) : LineOK a.print := by
  have h2 : LineOK a.key.print := LineOK_of_not_mem (a.key.not_mem_print (by simp)) (a.key.not_mem_print (by simp))
  simp only [ContAttr.print]; lineok; exact ⟨⟨h2, LineOK_assignSep _⟩, LineOK_intStr _⟩

theorem ContDoc.wf_parts {d : ContDoc} (h : d.wf = true) :
    (∀ a ∈ d.attrs, a.fill.all Filler.wf = true ∧ -(two63 : Int) ≤ a.value ∧ a.value < (two63 : Int)) ∧
      (∀ r ∈ d.recs, r.wf = true) ∧ d.post.all Filler.wf = true ∧ ∀ m, d.map = some m → m.wf = true := by
  simp only [ContDoc.wf, Bool.and_eq_true, List.all_eq_true, decide_eq_true_eq] at h
  obtain ⟨⟨⟨hattrs, hrecs⟩, hpost⟩, hmap⟩ := h
  exact ⟨fun a ha => ⟨List.all_eq_true.2 (hattrs a ha).1, (hattrs a ha).2⟩, hrecs, List.all_eq_true.2 hpost, wf_of_map hmap⟩

theorem ContDoc.lines_ok (d : ContDoc) (h : d.wf = true) : ∀ l ∈ d.lines, LineOK l := by
  obtain ⟨hattrs, hrecs, hpost, hmap⟩ := d.wf_parts h
  intro l hl
  simp only [ContDoc.lines, List.mem_append, List.mem_singleton] at hl
  rcases hl with (((hl | hl) | hl) | hl) | hl
  · rw [hl]; exact d.head.LineOK_print
  · exact LineOK_records ContAttr.fill ContAttr.print d.attrs (fun a ha => ⟨(hattrs a ha).1, a.LineOK_print⟩) l hl
  · refine LineOK_records ContRec.fill (ContRec.print d.width) d.recs (fun r hr => ⟨?_, LineOK_of_not_mem
      (r.not_mem_print (by decide) (by decide) (by decide) _) (r.not_mem_print (by decide) (by decide) (by decide) _)⟩) l hl
    have := hrecs r hr
    simp only [ContRec.wf, Bool.and_eq_true] at this
    exact this.1.1.1
  · exact LineOK_fillers hpost l hl
  · exact LineOK_tailLines LineOK_sentinelMemoryMap hmap l hl

theorem splitLines_printContention (d : ContDoc) (h : d.wf = true) : splitLines (printContention d) = d.lines :=
  splitLines_unlines _ (d.lines_ok h)

theorem parseContention_printContention (cyc : CycFn) (d : ContDoc) (h : d.wf = true) :
    parseContention cyc (printContention d) = .ok (expectedContention cyc d) := by
  obtain ⟨hattrs, hrecs, hpost, hmap⟩ := d.wf_parts h
  unfold parseContention
  rw [splitLines_printContention d h]
  unfold ContDoc.lines
  simp only [List.append_assoc, List.cons_append, List.nil_append, parseContentionLines,
    d.head.prefix, Bool.not_true, Bool.false_eq_true, if_false]
  rw [loop_records contAttrLoop ContAttr.fill ContAttr.print (fun st a => st.set a.key a.value) contAttrLoop_filler d.attrs
    (fun a ha => contAttrLoop_attr a (hattrs a ha).2)]
  obtain ⟨fs, L', hL, hattr⟩ := contAttrLoop_body d.width d.recs d.post d.map
  rw [hL, hattr]
  simp only []
  rw [← loop_fillers (contSampleLoop cyc _) (contSampleLoop_filler cyc _) fs L', ← hL]
  obtain ⟨cur, rest, hloop, hsect⟩ := loop_document (contSampleLoop cyc d.state) ContRec.fill (ContRec.print d.width)
    (fun r => contSample cyc d.state r.cycles r.count r.addrs) sentinelMemoryMap (contSampleLoop_filler cyc _) d.recs
    (fun r hr => contSampleLoop_rec cyc _ d.width r (hrecs r hr)) (fun acc => by rw [contSampleLoop])
    (fun R acc => by rw [contSampleLoop]; simp only [sentinel_boundary.1, sentinel_boundary.2, if_true])
    isMemoryMapSentinel_memoryMap d.post d.map hmap
  rw [ContDoc.state] at hloop
  rw [hloop]
  simp only [hsect, expectedContention, ContDoc.state]

end PV.Legacy
