import PprofVerif.Lemmas.CodecTotalPost
import PprofVerif.Lemmas.MessagesNested
import PprofVerif.Lemmas.EncodeWF
import PprofVerif.Lemmas.NormalizeIdem
/-!
C01's round-trip theorems at lemma level: the statements of `Props/C01.lean`'s `parse_serialize`,
`copy_eq_normalize` and (first three parts of) `roundtrip_fixpoint`, in a module of their own so that
the Props files of other properties (C02, C07, C09, C10) can use them without importing another
property's Props file (and whatever that file imports: schema tables, regenerated facts).
-/
namespace PV
namespace Codec
open Wire

theorem serialize_of_preEncode {p : Profile} {x : ProfileX} (hx : preEncode p = .ok x) :
    serialize p = .ok x.encode := by
  unfold serialize; rw [hx]; rfl

/-- `preEncode`'s only panic site is the index expression `units[i]`; it is unreachable when the
documented NumUnit/NumLabel length contract holds: then `preEncode` returns a message. -/
theorem serialize_ne_panic (p : Profile) (h : p.unitsAligned = true) (s : String) : serialize p ≠ .panic s := by
  obtain ⟨x, hx, _⟩ := preEncode_spec p h
  exact Outcome.ne_panic_of_eq_ok (serialize_of_preEncode hx) s

/-- = `PV.Props.C01.parse_serialize` -/
theorem parse_serialize_normalize (p : Profile) (hv : p.Valid) (ha : p.unitsAligned = true) (hs : p.mapsSorted = true)
    (hr : InRange p) (hz : ∀ x, preEncode p = .ok x → EncSizes x) :
    ∃ b, serialize p = .ok b ∧ parseUncompressed b = .ok (Profile.normalize p) := by
  obtain ⟨x, hx, hrel⟩ := preEncode_spec p ha
  have hsz := hz x hx
  refine ⟨x.encode, serialize_of_preEncode hx, ?_⟩
  rw [parseUncompressed_encode x (WF_of_EncRel hrel hr hsz) (Sized_of_EncRel hrel hr hsz)]
  exact postDecode_of_EncRel hrel hv hs

/-- = `PV.Props.C01.copy_eq_normalize` -/
theorem copy_normalize (p : Profile) (hv : p.Valid) (ha : p.unitsAligned = true) (hs : p.mapsSorted = true)
    (hr : InRange p) (hz : ∀ x, preEncode p = .ok x → EncSizes x) :
    copy p = .ok (Profile.normalize p) := by
  obtain ⟨x, hx, hrel⟩ := preEncode_spec p ha
  have hsz := hz x hx
  unfold copy
  rw [serialize_of_preEncode hx, Outcome.bind_ok, unmarshal_encode x (WF_of_EncRel hrel hr hsz) (Sized_of_EncRel hrel hr hsz),
    Outcome.bind_ok, postDecode_normPT, postDecode_of_EncRel hrel hv hs]

/-- the first three parts of `PV.Props.C01.roundtrip_fixpoint`: the normal form is again valid,
aligned and key-sorted -/
theorem normalize_keeps_contract (p : Profile) (hv : p.Valid) (ha : p.unitsAligned = true) (hs : p.mapsSorted = true) :
    (Profile.normalize p).Valid ∧ (Profile.normalize p).unitsAligned = true ∧
    (Profile.normalize p).mapsSorted = true := by
  obtain ⟨x, _, hrel⟩ := preEncode_spec p ha
  obtain ⟨ha', hs'⟩ := postDecode_ok x _ (postDecode_of_EncRel hrel hv hs)
  exact ⟨(validB_normalize p).trans hv, ha', hs'⟩

end Codec
end PV
