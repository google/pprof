import PprofVerif.Model.StacksSelect
/-! C17: selecting the sample value by name (`Profile.SampleIndexByName`, `profile/index.go`).  `firstType` is
`findIdx?` shifted by the start index, so it returns the first accepted sample type; for a text that is neither empty
nor a number `selectIndex` is that search. -/
namespace PV.Stacks
open PV

theorem firstType_eq (q : Str → Bool) (l : List ValueType) (k : Nat) :
    firstType q l k = (l.findIdx? fun t => q t.typ).map (· + k) := by
  induction l generalizing k with
  | nil => rfl
  | cons t r ih =>
    rw [firstType, List.findIdx?_cons, ih]
    split
    · simp
    · simp [Option.map_map, Function.comp_def, Nat.add_assoc, Nat.add_comm 1]

theorem firstType_spec {q : Str → Bool} {l : List ValueType} {i : Nat} (h : firstType q l 0 = some i) :
    ∃ t, l[i]? = some t ∧ q t.typ = true ∧ ∀ j, j < i → ∀ t', l[j]? = some t' → q t'.typ = false := by
  rw [firstType_eq, Option.map_eq_some_iff] at h
  obtain ⟨_, h, rfl⟩ := h
  obtain ⟨hi, hq, hlt⟩ := List.findIdx?_eq_some_iff_getElem.1 h
  refine ⟨_, List.getElem?_eq_getElem hi, hq, fun j hj t' ht' => ?_⟩
  obtain ⟨_, rfl⟩ := List.getElem?_eq_some_iff.1 ht'
  simpa using hlt j hj

theorem firstType_eq_none_iff (q : Str → Bool) (l : List ValueType) (k : Nat) :
    firstType q l k = none ↔ ∀ t ∈ l, q t.typ = false := by
  rw [firstType_eq, Option.map_eq_none_iff, List.findIdx?_eq_none_iff]

theorem firstType_none (q : Str → Bool) (l : List ValueType) : ∀ k, firstType q l k = none →
    ∀ t ∈ l, q t.typ = false :=
  fun k => (firstType_eq_none_iff q l k).1

theorem selectIndex_by_name {p : Profile} {sel : Str} (hne : sel ≠ []) (hnum : atoi sel = none) :
    selectIndex p sel = if p.sampleType = [] then .err "profile has no samples" else
      match firstType (fun t => t = sel || t = trimInuse sel) p.sampleType 0 with
      | some i => .ok i
      | none => .err "sample_index must be one of the sample types" := by
  rw [selectIndex, if_neg hne, hnum]
  rfl

theorem selectIndex_name_ok {p : Profile} {sel : Str} {i : Nat} (hne : sel ≠ []) (hnum : atoi sel = none) :
    selectIndex p sel = .ok i ↔
      firstType (fun t => t = sel || t = trimInuse sel) p.sampleType 0 = some i := by
  rw [selectIndex_by_name hne hnum]
  split
  · next he => rw [he]; exact ⟨nofun, nofun⟩
  · split <;> simp [*]

end PV.Stacks
