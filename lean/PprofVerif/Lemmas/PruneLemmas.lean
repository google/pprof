import PprofVerif.Spec.Prune
import PprofVerif.Lemmas.LocFrames
/-!
C11: Model/Prune.lean (`profile/prune.go`) against the frame-level rule of Spec/Prune.lean.  The per-sample loop of
`Prune` agrees with the repaired loop `scanRepaired` whenever `PruneH` holds (`scan_eq_scanRepaired`), and the repaired
loop computes the rule under the weaker `PruneHRepaired` (`scanRepaired_frames`); `PruneFrom` computes it under
`PruneFromH`.  Without hypotheses both only remove, from the leaf side, and are the identity when nothing matches.
-/
namespace PV.Prune
open PV PV.PruneSpec
open PV.FilterSpec hiding frameMatches

/-- `keepRootSide` with the "user frame already seen" flag. -/
def keepRootSideSeen {α} (m : α → Bool) : Bool → List α → List α
  | true, l => l.takeWhile (fun x => !m x)
  | false, l => keepRootSide m l

theorem keepRootSideSeen_user {α} (m : α → Bool) (fu : Bool) (u rest : List α) (hne : u ≠ []) (hu : ∀ x ∈ u, m x = false) :
    keepRootSideSeen m fu (u ++ rest) = u ++ keepRootSideSeen m true rest := by
  have htw : (u ++ rest).takeWhile (fun x => !m x) = u ++ rest.takeWhile (fun x => !m x) :=
    List.takeWhile_append_of_pos fun x hx => by simp [hu x hx]
  cases fu with
  | true => exact htw
  | false =>
    obtain ⟨x, t, rfl⟩ := List.exists_cons_of_ne_nil hne
    have hx := hu x (by simp)
    simpa [keepRootSideSeen, keepRootSide, List.takeWhile_cons, List.dropWhile_cons, hx] using htw

theorem keepRootSideSeen_whole_true {α} (m : α → Bool) (x : α) (t rest : List α) (hx : m x = true) :
    keepRootSideSeen m true ((x :: t) ++ rest) = [] := by
  simp [keepRootSideSeen, hx]

theorem keepRootSideSeen_whole_false {α} (m : α → Bool) (a rest : List α) (ha : ∀ x ∈ a, m x = true) :
    keepRootSideSeen m false (a ++ rest) = a ++ keepRootSideSeen m false rest := by
  simp [keepRootSideSeen, keepRootSide, List.takeWhile_append_of_pos ha, List.dropWhile_append_of_pos ha]

theorem keepRootSideSeen_beneath {α} (m : α → Bool) (fu : Bool) (u : List α) (x : α) (t rest : List α) (hne : u ≠ [])
    (hu : ∀ y ∈ u, m y = false) (hx : m x = true) :
    keepRootSideSeen m fu ((u ++ x :: t) ++ rest) = u := by
  rw [List.append_assoc, keepRootSideSeen_user m fu u _ hne hu]
  simp [keepRootSideSeen, hx]

/-- what the rule needs to know of a location of a given class: its root-first frames `g` and its
root-first frames `g'` after the location pass. -/
def Block {β} (m : β → Bool) : LocClass → List β → List β → Prop
  | .user, g, g' => g ≠ [] ∧ (∀ x ∈ g, m x = false) ∧ g' = g
  | .whole, g, g' => (∃ x t, g = x :: t ∧ m x = true) ∧ g' = g
  | .beneath, g, g' => ∃ u x t, g = u ++ x :: t ∧ u ≠ [] ∧ (∀ y ∈ u, m y = false) ∧ m x = true ∧ g' = u

/-- `PruneH` on the root-first id list: up to the first location without a matching line there are
only locations that match on all lines (`allm`). -/
def leadOK (cls : Nat → LocClass) (allm : Nat → Bool) : List Nat → Bool
  | [] => true
  | id :: r =>
    match cls id with
    | .user => true
    | .whole => allm id && leadOK cls allm r
    | .beneath => false

/-- hypothesis left once the one-line repair is applied: only family B is excluded. -/
def leadOKRepaired (cls : Nat → LocClass) (allm : Nat → Bool) : List Nat → Bool
  | [] => true
  | id :: r =>
    match cls id with
    | .user => true
    | .whole => allm id && leadOKRepaired cls allm r
    | .beneath => true

theorem leadOKRepaired_of_leadOK {cls : Nat → LocClass} {allm : Nat → Bool} {ids : List Nat}
    (h : leadOK cls allm ids = true) : leadOKRepaired cls allm ids = true := by
  induction ids with
  | nil => rfl
  | cons id r ih =>
    unfold leadOK at h
    unfold leadOKRepaired
    cases hc : cls id <;> simp_all

theorem scan_eq_scanRepaired {cls : Nat → LocClass} {allm : Nat → Bool} {ids : List Nat} (fu : Bool)
    (hL : fu = true ∨ leadOK cls allm ids = true) : scan cls ids fu = scanRepaired cls ids fu := by
  induction ids generalizing fu with
  | nil => rfl
  | cons id r ih =>
    unfold scan scanRepaired
    cases hc : cls id with
    | user => simp only [ih true (Or.inl rfl)]
    | whole =>
      cases fu with
      | true => rfl
      | false =>
        have hL' : allm id = true ∧ leadOK cls allm r = true := by simpa [leadOK, hc] using hL
        simp only [ih false (Or.inr hL'.2)]
    | beneath =>
      cases fu with
      | true => rfl
      | false => simp [leadOK, hc] at hL

theorem scanRepaired_flatMap {β} (m : β → Bool) (cls : Nat → LocClass) (allm : Nat → Bool) (G G' : Nat → List β)
    (ids : List Nat) (fu : Bool)
    (hB : ∀ id ∈ ids, Block m (cls id) (G id) (G' id))
    (hA : ∀ id, allm id = true → ∀ x ∈ G id, m x = true)
    (hL : fu = true ∨ leadOKRepaired cls allm ids = true) :
    (scanRepaired cls ids fu).flatMap G' = keepRootSideSeen m fu (ids.flatMap G) := by
  induction ids generalizing fu with
  | nil => cases fu <;> rfl
  | cons id r ih =>
    have ihr := fun fu' hL' => ih fu' (fun x hx => hB x (by simp [hx])) hL'
    have hb := hB id (by simp)
    simp only [List.flatMap_cons]
    unfold scanRepaired
    cases hc : cls id with
    | user =>
      obtain ⟨hne, hall, hG⟩ := hc ▸ hb
      rw [List.flatMap_cons, hG, ihr true (Or.inl rfl), keepRootSideSeen_user m fu (G id) _ hne hall]
    | whole =>
      obtain ⟨⟨x, t, hxt, hx⟩, hG⟩ := hc ▸ hb
      cases fu with
      | true => rw [hxt, keepRootSideSeen_whole_true m x t _ hx]; rfl
      | false =>
        have hL' : allm id = true ∧ leadOKRepaired cls allm r = true := by simpa [leadOKRepaired, hc] using hL
        simp only [Bool.false_eq_true, ↓reduceIte]
        rw [List.flatMap_cons, hG, ihr false (Or.inr hL'.2), keepRootSideSeen_whole_false m (G id) _ (hA id hL'.1)]
    | beneath =>
      obtain ⟨u, x, t, hG, hne, hu, hx, hG'⟩ := hc ▸ hb
      rw [hG, keepRootSideSeen_beneath m fu u x t _ hne hu hx]
      simp [hG']

theorem dropThroughLast_eq_none {α} {q : α → Bool} {L : List α} :
    dropThroughLast q L = none ↔ ∀ x ∈ L, q x = false := by
  induction L with
  | nil => simp [dropThroughLast]
  | cons a r ih =>
    simp only [dropThroughLast, List.mem_cons, forall_eq_or_imp]
    cases hr : dropThroughLast q r with
    | some s =>
      have : ¬ ∀ x ∈ r, q x = false := fun hcon => by simp [ih.mpr hcon] at hr
      simp [this]
    | none =>
      cases hq : q a
      · simpa using ih.mp hr
      · simp

theorem dropThroughLast_some {α} {q : α → Bool} {L s : List α} (h : dropThroughLast q L = some s) :
    ∃ pre x, L = pre ++ x :: s ∧ q x = true ∧ ∀ y ∈ s, q y = false := by
  induction L with
  | nil => cases h
  | cons a r ih =>
    unfold dropThroughLast at h
    cases hr : dropThroughLast q r with
    | some s' =>
      simp only [hr, Option.some.injEq] at h
      obtain ⟨pre, x, hL, hx, hs⟩ := ih (h ▸ hr)
      exact ⟨a :: pre, x, by simp [hL], hx, hs⟩
    | none =>
      simp only [hr] at h
      split at h
      · cases h; rename_i hq
        exact ⟨[], a, rfl, hq, dropThroughLast_eq_none.mp hr⟩
      · cases h

theorem dropThroughLast_suffix {α} {q : α → Bool} {L s : List α} (h : dropThroughLast q L = some s) :
    s <:+ L := by
  obtain ⟨pre, x, rfl, _⟩ := dropThroughLast_some h
  exact ⟨pre ++ [x], by simp⟩

theorem dropThroughLast_false {α} (L : List α) : dropThroughLast (fun _ => false) L = none :=
  dropThroughLast_eq_none.mpr fun _ _ => rfl

theorem frameMatches_false_of_lines (p : Profile) (q : Str → Bool) (l : Location)
    (h : ∀ ln ∈ l.lines, lineMatches p q ln = false) : ∀ fr ∈ locFrames l, frameMatches p q fr = false := by
  intro fr hfr
  by_cases hl : l.lines = []
  · rw [Filter.locFrames_of_lines_nil hl] at hfr
    rw [List.mem_singleton.mp hfr]; rfl
  · rw [Filter.locFrames_of_lines_ne hl] at hfr
    obtain ⟨ln, hln, rfl⟩ := List.mem_map.mp hfr
    exact h ln hln

theorem pruneLoc_cut (p : Profile) (q : Str → Bool) (l : Location) :
    ((pruneLoc p q l).lines <:+ l.lines ∧ (pruneLoc p q l).id = l.id) ∧
      (locFrames (pruneLoc p q l)).Sublist (locFrames l) := by
  unfold pruneLoc
  split
  · rename_i a r h
    have hs := dropThroughLast_suffix h
    exact ⟨⟨hs, rfl⟩, Filter.locFrames_lines_sublist l hs.sublist (by simp)⟩
  · exact ⟨⟨List.suffix_refl _, rfl⟩, List.Sublist.refl _⟩

theorem pruneLoc_id (p : Profile) (q : Str → Bool) (l : Location) : (pruneLoc p q l).id = l.id :=
  (pruneLoc_cut p q l).1.2

def allMatchId (p : Profile) (q : Str → Bool) (id : Nat) : Bool :=
  match p.findLocation id with
  | some l => !l.lines.isEmpty && l.lines.all (lineMatches p q)
  | none => false

theorem block_of_loc (p p' : Profile) (q : Str → Bool) (hl : p'.locations = p.locations.map (pruneLoc p q))
    (id : Nat) (l : Location) (hf : p.findLocation id = some l) :
    Block (frameMatches p q) (classOf p q id) (locFramesOf p id).reverse (locFramesOf p' id).reverse := by
  have h1 : locFramesOf p id = locFrames l := by simp [locFramesOf, hf]
  have h2 : locFramesOf p' id = locFrames (pruneLoc p q l) := by
    rw [Filter.locFramesOf_map (pruneLoc_id p q) hl, hf]
  rw [h1, h2]
  simp only [classOf, hf, classify, pruneLoc]
  cases hd : dropThroughLast (lineMatches p q) l.lines with
  | none =>
    exact ⟨by simpa using Filter.locFrames_ne_nil l,
      fun x hx => frameMatches_false_of_lines p q l (dropThroughLast_eq_none.mp hd) x (List.mem_reverse.mp hx), rfl⟩
  | some s =>
    obtain ⟨pre, x, hL, hx, hs⟩ := dropThroughLast_some hd
    have hne : l.lines ≠ [] := by simp [hL]
    have hg : (locFrames l).reverse =
        (s.map (Filter.mkFrame l)).reverse ++ Filter.mkFrame l x :: (pre.map (Filter.mkFrame l)).reverse := by
      simp [Filter.locFrames_of_lines_ne hne, hL]
    cases s with
    | nil => exact ⟨⟨_, _, hg, hx⟩, rfl⟩
    | cons a r =>
      refine ⟨_, _, _, hg, by simp, fun y hy => ?_, hx, ?_⟩
      · obtain ⟨ln, hln, rfl⟩ := List.mem_map.mp (List.mem_reverse.mp hy)
        exact hs ln hln
      · rw [Filter.locFrames_of_lines_ne (l := { l with lines := a :: r }) (by simp)]; rfl

theorem allMatchId_frames (p : Profile) (q : Str → Bool) (id : Nat) (h : allMatchId p q id = true) :
    ∀ x ∈ (locFramesOf p id).reverse, frameMatches p q x = true := by
  unfold allMatchId at h
  cases hf : p.findLocation id with
  | none => rw [hf] at h; cases h
  | some l =>
    simp only [hf, Bool.and_eq_true, Bool.not_eq_eq_eq_not, Bool.not_true, List.isEmpty_eq_false_iff,
      List.all_eq_true] at h
    simp only [locFramesOf, hf]
    intro x hx
    rw [List.mem_reverse, Filter.locFrames_of_lines_ne h.1] at hx
    obtain ⟨ln, hln, rfl⟩ := List.mem_map.mp hx
    exact h.2 ln hln

/-- Hypothesis of `prune_spec_frames_partial` for one sample: scanning from the root, every location before the first
one without a matching line matches on ALL its lines (so neither is a user frame hidden inside a location whose
root-most line matches, nor does the first user frame share its location with a matching line). -/
def PruneH (p : Profile) (q : Str → Bool) (s : Sample) : Prop :=
  leadOK (classOf p q) (allMatchId p q) s.locationIDs.reverse = true

instance (p : Profile) (q : Str → Bool) (s : Sample) : Decidable (PruneH p q s) := by
  unfold PruneH; infer_instance

/-- Hypothesis for the repaired loop: scanning from the root, every location whose root-most line matches and that lies
before the first location of another kind matches on all its lines. -/
def PruneHRepaired (p : Profile) (q : Str → Bool) (s : Sample) : Prop :=
  leadOKRepaired (classOf p q) (allMatchId p q) s.locationIDs.reverse = true

theorem scanRepaired_frames (p p' : Profile) (wf : Filter.WF p) (q : Str → Bool)
    (hl : p'.locations = p.locations.map (pruneLoc p q)) (s : Sample) (hs : s ∈ p.samples)
    (h : PruneHRepaired p q s) :
    (scanRepaired (classOf p q) s.locationIDs.reverse false).reverse.flatMap (locFramesOf p') =
      pruneFrames (frameMatches p q) (frames p s) := by
  unfold frames pruneFrames
  rw [← List.reverse_inj, List.reverse_reverse, List.reverse_flatMap, List.reverse_reverse, List.reverse_flatMap]
  refine scanRepaired_flatMap (frameMatches p q) (classOf p q) (allMatchId p q) _ _ _ false
    (fun id hid => ?_) (allMatchId_frames p q) (Or.inr h)
  obtain ⟨l, hf⟩ := wf.sampleLocs s hs id (List.mem_reverse.mp hid)
  exact block_of_loc p p' q hl id l hf

theorem prune_frames_eq_spec (p : Profile) (wf : Filter.WF p) (q : Str → Bool) (s : Sample)
    (hs : s ∈ p.samples) (h : PruneH p q s) :
    frames (pruneWith p q) (pruneSample p q s) = pruneFrames (frameMatches p q) (frames p s) := by
  rw [← scanRepaired_frames p (pruneWith p q) wf q rfl s hs (leadOKRepaired_of_leadOK h),
    ← scan_eq_scanRepaired false (Or.inr h)]
  rfl

theorem scan_prefix (cls : Nat → LocClass) (ids : List Nat) (fu : Bool) : scan cls ids fu <+: ids := by
  induction ids generalizing fu with
  | nil => simp [scan]
  | cons id r ih =>
    unfold scan
    split
    · exact List.prefix_cons_inj id |>.mpr (ih true)
    · split
      · exact List.nil_prefix
      · exact List.prefix_cons_inj id |>.mpr (ih fu)
    · split
      · exact ⟨r, rfl⟩
      · exact List.prefix_cons_inj id |>.mpr (ih fu)

theorem pruneSample_suffix (p : Profile) (q : Str → Bool) (s : Sample) :
    (pruneSample p q s).locationIDs <:+ s.locationIDs := by
  simpa [pruneSample] using List.reverse_suffix.mpr (scan_prefix (classOf p q) s.locationIDs.reverse false)

theorem prune_frames_ne_nil (p : Profile) (wf : Filter.WF p) (q : Str → Bool) (s : Sample)
    (hs : s ∈ p.samples) (h : s.locationIDs ≠ []) :
    frames (pruneWith p q) (pruneSample p q s) ≠ [] := by
  have hne : (pruneSample p q s).locationIDs ≠ [] := by
    obtain ⟨id, r, hr⟩ := List.exists_cons_of_ne_nil (List.reverse_ne_nil_iff.mpr h)
    simp only [pruneSample, hr, ne_eq, List.reverse_eq_nil_iff]
    unfold scan
    cases classOf p q id <;> simp
  rw [← List.isEmpty_eq_false_iff] at hne ⊢
  rw [← hne]
  refine Filter.flatMap_isEmpty fun id hid => ?_
  obtain ⟨l, hf⟩ := wf.sampleLocs s hs id ((pruneSample_suffix p q s).subset hid)
  rw [Filter.locFramesOf_map (pruneLoc_id p q) rfl, hf]
  exact Filter.locFrames_ne_nil _

/-- both passes rewrite the location table and the samples entry by entry. -/
theorem map_entries_id (p : Profile) {T : Location → Location} {S : Sample → Sample}
    (hT : ∀ l ∈ p.locations, T l = l) (hS : ∀ s, S s = s) :
    { p with locations := p.locations.map T, samples := p.samples.map S } = p := by
  rw [(List.map_congr_left hT).trans (List.map_id _), List.map_id'' hS]

theorem scan_all_user (cls : Nat → LocClass) (h : ∀ id, cls id = .user) (ids : List Nat) (fu : Bool) :
    scan cls ids fu = ids := by
  induction ids generalizing fu with
  | nil => rfl
  | cons id r ih => unfold scan; rw [h id]; simp [ih]

theorem pruneWith_no_match (p : Profile) (q : Str → Bool)
    (h : ∀ l ∈ p.locations, ∀ ln ∈ l.lines, lineMatches p q ln = false) : pruneWith p q = p := by
  have hloc : ∀ l ∈ p.locations, dropThroughLast (lineMatches p q) l.lines = none :=
    fun l hl => dropThroughLast_eq_none.mpr (h l hl)
  have hcls : ∀ id, classOf p q id = .user := by
    intro id
    unfold classOf
    cases hf : p.findLocation id with
    | none => rfl
    | some l => simp only [classify, hloc l (Filter.find?_mem_id hf).1]
  exact map_entries_id p (fun l hl => by simp only [pruneLoc, hloc l hl])
    (fun s => by simp [pruneSample, scan_all_user _ hcls])

theorem fromFirst_append {α} (q : α → Bool) (a b : List α) :
    fromFirst q (a ++ b) =
      match fromFirst q a with
      | some r => some (r ++ b)
      | none => fromFirst q b := by
  induction a with
  | nil => rfl
  | cons x r ih =>
    simp only [List.cons_append, fromFirst]
    by_cases hx : q x = true <;> simp [hx, ih]

theorem fromFirst_map {α β} (f : α → β) (q : β → Bool) (l : List α) :
    fromFirst q (l.map f) = (fromFirst (fun x => q (f x)) l).map (List.map f) := by
  induction l with
  | nil => rfl
  | cons x r ih =>
    simp only [List.map_cons, fromFirst]
    by_cases hx : q (f x) = true <;> simp [hx, ih]

theorem fromFirst_some {α} {q : α → Bool} {L s : List α} (h : fromFirst q L = some s) : s <:+ L ∧ s ≠ [] := by
  induction L with
  | nil => cases h
  | cons a r ih =>
    unfold fromFirst at h
    split at h
    · cases h; exact ⟨List.suffix_refl _, by simp⟩
    · exact ⟨List.suffix_cons_iff.mpr (Or.inr (ih h).1), (ih h).2⟩

theorem fromFirst_none_of {α} {q : α → Bool} {L : List α} (h : ∀ x ∈ L, q x = false) : fromFirst q L = none := by
  induction L with
  | nil => rfl
  | cons a r ih =>
    simp [fromFirst, h a List.mem_cons_self, ih (fun x hx => h x (List.mem_cons_of_mem _ hx))]

def laterWhole (Q whole : Nat → Bool) : List Nat → Bool
  | [] => true
  | id :: r => if Q id then r.all (fun x => !Q x || whole x) else laterWhole Q whole r

theorem fromFirst_flatMap {β} (m : β → Bool) (Q whole : Nat → Bool) (F F' : Nat → List β) (ids : List Nat)
    (hF : ∀ id, fromFirst m (F id) = if Q id then some (F' id) else none)
    (hE : ∀ id, Q id = false ∨ whole id = true → F' id = F id)
    (hL : laterWhole Q whole ids = true) :
    fromFirst m (ids.flatMap F) = (fromFirst Q ids).map (fun r => r.flatMap F') ∧
      (fromFirst Q ids = none → ids.flatMap F' = ids.flatMap F) := by
  induction ids with
  | nil => exact ⟨rfl, fun _ => rfl⟩
  | cons id r ih =>
    have hid := hF id
    simp only [List.flatMap_cons, fromFirst_append, fromFirst, laterWhole] at hL ⊢
    cases hq : Q id with
    | true =>
      simp only [hq, ↓reduceIte, List.all_eq_true, Bool.or_eq_true, Bool.not_eq_eq_eq_not, Bool.not_true] at hid hL
      have hr : r.flatMap F' = r.flatMap F :=
        ListFacts.flatMap_congr_mem fun x hx => hE x (hL x hx)
      simp [hid, hr]
    | false =>
      simp only [hq, Bool.false_eq_true, ↓reduceIte] at hid hL
      obtain ⟨i1, i2⟩ := ih hL
      simp only [hid, i1, Bool.false_eq_true, ↓reduceIte, true_and]
      exact fun hn => by rw [hE id (Or.inl hq), i2 hn]

theorem pruneFromLoc_cut (p : Profile) (q : Str → Bool) (l : Location) :
    ((pruneFromLoc p q l).1.lines <:+ l.lines ∧ (pruneFromLoc p q l).1.id = l.id) ∧
      (locFrames (pruneFromLoc p q l).1).Sublist (locFrames l) := by
  unfold pruneFromLoc
  split
  · rename_i ls h
    obtain ⟨hs, hne⟩ := fromFirst_some h
    exact ⟨⟨hs, rfl⟩, Filter.locFrames_lines_sublist l hs.sublist hne⟩
  · exact ⟨⟨List.suffix_refl _, rfl⟩, List.Sublist.refl _⟩

theorem pruneFromLoc_id (p : Profile) (q : Str → Bool) (l : Location) : (pruneFromLoc p q l).1.id = l.id :=
  (pruneFromLoc_cut p q l).1.2

theorem fromFirst_locFrames (p : Profile) (q : Str → Bool) (l : Location) :
    fromFirst (frameMatches p q) (locFrames l) =
      (fromFirst (lineMatches p q) l.lines).map fun ls => locFrames { l with lines := ls } := by
  by_cases hl : l.lines = []
  · simp [Filter.locFrames_of_lines_nil hl, hl, fromFirst, frameMatches]
  · rw [Filter.locFrames_of_lines_ne hl, fromFirst_map]
    show Option.map _ (fromFirst (lineMatches p q) l.lines) = _
    cases hd : fromFirst (lineMatches p q) l.lines with
    | none => rfl
    | some ls => rw [Option.map_some, Option.map_some, Filter.locFrames_of_lines_ne (fromFirst_some hd).2]; rfl

/-- the leaf-most line of the location matches (prune_from does not cut into it). -/
def firstLineMatches (p : Profile) (q : Str → Bool) (id : Nat) : Bool :=
  match p.findLocation id with
  | some l => (match l.lines with | ln :: _ => lineMatches p q ln | [] => false)
  | none => false

/-- hypothesis of `pruneFrom_spec_partial` for one sample: on the root side of its leaf-most
matching location, every matching location matches on its leaf-most line. -/
def PruneFromH (p : Profile) (q : Str → Bool) (s : Sample) : Prop :=
  laterWhole (pruneFromId p q) (firstLineMatches p q) s.locationIDs = true

instance (p : Profile) (q : Str → Bool) (s : Sample) : Decidable (PruneFromH p q s) := by
  unfold PruneFromH; infer_instance

theorem pruneFrom_block (p p' : Profile) (q : Str → Bool)
    (hl : p'.locations = p.locations.map (fun l => (pruneFromLoc p q l).1)) (id : Nat) :
    fromFirst (frameMatches p q) (locFramesOf p id) =
        (if pruneFromId p q id then some (locFramesOf p' id) else none) ∧
      (pruneFromId p q id = false ∨ firstLineMatches p q id = true → locFramesOf p' id = locFramesOf p id) := by
  rw [Filter.locFramesOf_map (pruneFromLoc_id p q) hl]
  unfold pruneFromId firstLineMatches locFramesOf
  cases p.findLocation id with
  | none => exact ⟨rfl, fun _ => rfl⟩
  | some l =>
    simp only [fromFirst_locFrames]
    cases hd : fromFirst (lineMatches p q) l.lines with
    | none => simp [pruneFromLoc, hd]
    | some ls =>
      simp only [pruneFromLoc, hd]
      refine ⟨rfl, fun h => ?_⟩
      cases hL : l.lines with
      | nil => rw [hL] at hd; cases hd
      | cons ln t =>
        simp only [hL, Bool.true_eq_false, false_or] at h
        simp only [hL, fromFirst, h, ↓reduceIte, Option.some.injEq] at hd
        rw [← hd, ← hL]

theorem pruneFrom_frames_eq_spec (p : Profile) (q : Str → Bool) (s : Sample) (h : PruneFromH p q s) :
    frames (pruneFromWith p q) (pruneFromSample p q s) =
      pruneFromFrames (frameMatches p q) (frames p s) := by
  unfold frames pruneFromSample pruneFromFrames
  obtain ⟨h1, h2⟩ := fromFirst_flatMap (frameMatches p q) (pruneFromId p q) (firstLineMatches p q)
    (locFramesOf p) (locFramesOf (pruneFromWith p q)) s.locationIDs
    (fun id => (pruneFrom_block p _ q rfl id).1) (fun id => (pruneFrom_block p _ q rfl id).2) h
  rw [h1]
  cases hd : fromFirst (pruneFromId p q) s.locationIDs with
  | none => exact h2 hd
  | some r' => rfl

theorem pruneFromSample_data (p : Profile) (q : Str → Bool) (s : Sample) :
    (pruneFromSample p q s).values = s.values ∧ (pruneFromSample p q s).label = s.label ∧
      (pruneFromSample p q s).numLabel = s.numLabel ∧ (pruneFromSample p q s).numUnit = s.numUnit := by
  unfold pruneFromSample
  split <;> exact ⟨rfl, rfl, rfl, rfl⟩

theorem pruneFromSample_suffix (p : Profile) (q : Str → Bool) (s : Sample) :
    (pruneFromSample p q s).locationIDs <:+ s.locationIDs := by
  unfold pruneFromSample
  split
  · rename_i ids h; exact (fromFirst_some h).1
  · exact List.suffix_refl _

theorem pruneFromWith_no_match (p : Profile) (q : Str → Bool)
    (h : ∀ l ∈ p.locations, ∀ ln ∈ l.lines, lineMatches p q ln = false) : pruneFromWith p q = p := by
  have hloc : ∀ l ∈ p.locations, pruneFromLoc p q l = (l, false) := by
    intro l hl
    unfold pruneFromLoc
    rw [fromFirst_none_of (h l hl)]
  have hid : ∀ id, pruneFromId p q id = false := by
    intro id
    unfold pruneFromId
    cases hf : p.findLocation id with
    | none => rfl
    | some l => simp only [hloc l (Filter.find?_mem_id hf).1]
  exact map_entries_id p (fun l hl => by rw [hloc l hl])
    (fun s => by simp only [pruneFromSample, fromFirst_none_of fun x _ => hid x])

theorem hasPrefix_head {pat s : Str} {b : UInt8} (hp : pat.head? = some b) (h : hasPrefix pat s = true) :
    s.head? = some b := by
  cases pat with
  | nil => cases hp
  | cons a as =>
    cases s with
    | nil => simp [hasPrefix] at h
    | cons c cs =>
      simp only [hasPrefix, Bool.and_eq_true, beq_iff_eq] at h
      simp only [List.head?_cons, Option.some.injEq] at hp ⊢
      rw [← hp, h.1]

theorem hasPrefix_mem {pat s : Str} (h : hasPrefix pat s = true) : ∀ x ∈ pat, x ∈ s := by
  induction pat generalizing s with
  | nil => intro x hx; cases hx
  | cons a as ih =>
    cases s with
    | nil => simp [hasPrefix] at h
    | cons c cs =>
      simp only [hasPrefix, Bool.and_eq_true, beq_iff_eq] at h
      intro x hx
      rcases List.mem_cons.mp hx with rfl | hx
      · simp [h.1]
      · exact List.mem_cons_of_mem _ (ih h.2 x hx)

theorem cutAtParen_noParen (k : Nat) (s : Str) (h : (40 : UInt8) ∉ s) : cutAtParen k s = s := by
  induction s generalizing k with
  | nil => cases k <;> rfl
  | cons b r ih =>
    have hr : (40 : UInt8) ∉ r := fun hx => h (List.mem_cons_of_mem _ hx)
    have hb : b ≠ 40 := fun hx => h (by simp [hx])
    cases k with
    | succ k => simp [cutAtParen, ih k hr]
    | zero =>
      -- a reserved name contains `(`
      have hno : ∀ pat : Str, (40 : UInt8) ∈ pat → hasPrefix pat (b :: r) = false := fun pat hp =>
        Bool.eq_false_iff.mpr fun hx => h (hasPrefix_mem hx 40 hp)
      simp [cutAtParen, hno anonNs (by decide), hno operatorCall (by decide), hb, ih 0 hr]

/-! Witnesses of the recorded findings; byte literals: d=100 k=107 u=117 m=109 a=97 b=98 l=108. -/
def wfn (id : Nat) (n : Str) : Function := ⟨id, n, n, [], 0⟩
def wprofile (fs : List Function) (ls : List Location) (ss : List Sample) : Profile :=
  { sampleType := [⟨[115], [99]⟩], defaultSampleType := [], samples := ss, mappings := [],
    locations := ls, functions := fs, comments := [], docURL := [], dropFrames := [], keepFrames := [],
    timeNanos := 0, durationNanos := 0, periodType := none, period := 0 }

/-- family A (`C11/prune/H-violated/partial-first-user-location`): stack root→leaf `um dm | lf` (`dm` inlined into the
root location), drop = `dm`. -/
def witnessA : Profile :=
  wprofile [wfn 1 [108, 102], wfn 2 [100, 109], wfn 3 [117, 109]]
    [⟨1, 0, 1, [⟨1, 1, 0⟩], false⟩, ⟨2, 0, 2, [⟨2, 1, 0⟩, ⟨3, 2, 0⟩], false⟩]
    [⟨[1, 2], [7], [], [], []⟩]
def dropA : Str → Bool := fun n => n == [100, 109]

/-- family B (`C11/prune/H-violated/top-line-match`): stack root→leaf `d2 k1 d2 | d1` (one location `d2 k1 d2`),
drop = `d1|d2`. -/
def witnessB : Profile :=
  wprofile [wfn 1 [100, 49], wfn 2 [100, 50], wfn 3 [107, 49]]
    [⟨1, 0, 1, [⟨1, 1, 0⟩], false⟩, ⟨2, 0, 2, [⟨2, 1, 0⟩, ⟨3, 2, 0⟩, ⟨2, 3, 0⟩], false⟩]
    [⟨[1, 2], [7], [], [], []⟩]
def dropB : Str → Bool := fun n => n == [100, 49] || n == [100, 50]

/-- `C11/prune_from/inlined-location-above-lowest-match`: stack leaf-first `[m a | b mm]`, prune_from = `^m`. -/
def witnessPF : Profile :=
  wprofile [wfn 1 [109], wfn 2 [97], wfn 3 [98], wfn 4 [109, 109]]
    [⟨1, 0, 1, [⟨1, 1, 0⟩, ⟨2, 2, 0⟩], false⟩, ⟨2, 0, 2, [⟨3, 1, 0⟩, ⟨4, 2, 0⟩], false⟩]
    [⟨[1, 2], [7], [], [], []⟩]
def startsWithM : Str → Bool := fun n => n.head? == some 109

end PV.Prune
