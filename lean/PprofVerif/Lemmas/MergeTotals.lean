import PprofVerif.Lemmas.MergeTop
import PprofVerif.Lemmas.MergeDedup
/-!
Per-type totals: the sum of all value vectors of a profile equals the sum, over any duplicate-free
list of stack keys covering its samples, of the weights — hence conservation of every stack's
weight implies conservation of the totals.
-/
namespace PV.Merge
open PV.Spec
open PV.Wire (InI64 two63)

theorem VecOK_weight {p : Profile} (hv : p.Valid) (ht : Typed p) (k : StackKey) :
    VecOK p.sampleType.length (weight p k) := by
  obtain ⟨src, _, hok⟩ := srcOK_of_valid hv ht
  simp only [weight, hok.res]
  exact weightR_VecOK hok.ok k

/-- `Compact` conserves the weight function of the profile (`PV.Props.C03.compact_conserves`;
stated here for the Props files of other properties). -/
theorem compact_spec (p : Profile) (hv : p.Valid) (ht : Typed p) :
    ∃ c, compact p = .ok c ∧ c.Valid ∧ Typed c ∧ ∀ k, weight c k = weight p k := by
  obtain ⟨c, hc, hval, htyp, _, _, hw, _⟩ := merge_spec p [] (inputs_single hv ht)
  exact ⟨c, hc, hval, htyp, fun k => (hw k).trans (sumV_singleton (VecOK_weight hv ht k))⟩

theorem Inputs.weight_length {first : Profile} {rest : List Profile} (h : Inputs first rest) (k : StackKey) :
    ∀ v ∈ (first :: rest).map (weight · k), v.length = first.sampleType.length := by
  intro v hv
  obtain ⟨p, hp, rfl⟩ := List.mem_map.mp hv
  exact (VecOK_weight (h.valid p hp) (h.typed p hp) k).1.trans (h.lengths p hp)

theorem sumV_pair {n : Nat} {x : List Int} (hx : VecOK n x) (y : List Int) : sumV n [x, y] = addV x y := by
  simp only [sumV, List.foldl_cons, List.foldl_nil, zeroV_addV hx]

def totalR (n : Nat) (rs : List RSample) : List Int := sumV n (rs.map (·.values))

theorem totalR_eq_sum_weights {n : Nat} : ∀ (K : List StackKey), K.Nodup → ∀ (S : List RSample),
    SamplesOK n S → (∀ s ∈ S, stackKey s ∈ K) → totalR n S = sumV n (K.map (weightR n S))
  | [], _, S, _, hcov => by
    cases S with
    | nil => rfl
    | cons s S => cases hcov s List.mem_cons_self
  | k :: K, hK, S, hS, hcov => by
    rw [List.nodup_cons] at hK
    -- split off the samples of stack `k`; the others are covered by `K`
    have hlen : ∀ (q : RSample → Bool), ∀ v ∈ (S.filter q).map (·.values), v.length = n := by
      intro q v hv
      obtain ⟨s, hs, rfl⟩ := List.mem_map.mp hv
      exact (hS s (List.mem_of_mem_filter hs)).1
    have hsplit : totalR n S = addV (weightR n S k)
        (totalR n (S.filter fun s => !decide (stackKey s = k))) := by
      unfold totalR weightR
      rw [← sumV_append _ _ (hlen _) (hlen _), ← List.map_append]
      exact sumV_perm ((List.filter_append_perm _ S).map _).symm
    have ih := totalR_eq_sum_weights K hK.2 (S.filter fun s => !decide (stackKey s = k))
      (fun s hs => hS s (List.mem_of_mem_filter hs)) (fun s hs => by
        rw [List.mem_filter] at hs
        exact (List.mem_cons.mp (hcov s hs.1)).resolve_left (by simpa using hs.2))
    have hw : ∀ k' ∈ K, weightR n (S.filter fun s => !decide (stackKey s = k)) k' = weightR n S k' := by
      intro k' hk'
      unfold weightR
      rw [List.filter_filter]
      congr 2
      refine List.filter_congr fun s _ => ?_
      by_cases h : stackKey s = k' <;> simp [h]
      rintro rfl; exact hK.1 hk'
    rw [hsplit, ih, List.map_congr_left hw, List.map_cons, sumV_cons_of_VecOK (weightR_VecOK hS k)]
    intro w hw'
    obtain ⟨k', _, rfl⟩ := List.mem_map.mp hw'
    exact (weightR_VecOK hS k').1

theorem sumV_flatten {n : Nat} : ∀ (vss : List (List (List Int))), (∀ vs ∈ vss, ∀ v ∈ vs, v.length = n) →
    sumV n vss.flatten = sumV n (vss.map (sumV n))
  | [], _ => rfl
  | vs :: vss, h => by
    have hvs := h vs (by simp)
    have hvss : ∀ x ∈ vss, ∀ v ∈ x, v.length = n := fun x hx => h x (List.mem_cons_of_mem _ hx)
    have hfl : ∀ v ∈ vss.flatten, v.length = n := by
      intro v hv
      obtain ⟨x, hx, hvx⟩ := List.mem_flatten.mp hv
      exact hvss x hx v hvx
    rw [List.flatten_cons, sumV_append _ _ hvs hfl, sumV_flatten vss hvss, List.map_cons,
      sumV_cons_of_VecOK (sumV_VecOK vs hvs)]
    intro w hw
    obtain ⟨x, hx, rfl⟩ := List.mem_map.mp hw
    exact (sumV_VecOK x (hvss x hx)).1

theorem resolve_values {p : Profile} {rs : List RSample} (h : resolve p = some rs) :
    rs.map (·.values) = p.samples.map (·.values) := by
  exact (forall₂_map_eq ((optMap_eq_some_iff _).mp h) fun s r hsr => (resolveSample_fields hsr).1.symm).symm

theorem totals_eq_totalR {p : Profile} {rs : List RSample} (h : resolve p = some rs) :
    totals p = totalR p.sampleType.length rs := by
  unfold totals totalR; rw [resolve_values h]

/-- **the totals are determined by the weight function**: regroup both sides over the stack keys
of `A ++ B`, each once. -/
theorem totalR_congr {n : Nat} {A B : List RSample} (hA : SamplesOK n A) (hB : SamplesOK n B)
    (h : ∀ k, weightR n A k = weightR n B k) : totalR n A = totalR n B := by
  have hcov : ∀ s ∈ A ++ B, stackKey s ∈ dedupKeys ((A ++ B).map stackKey) :=
    fun _ hs => (mem_dedupKeys _ _).mpr (List.mem_map_of_mem hs)
  rw [totalR_eq_sum_weights _ (dedupKeys_nodup _) A hA fun s hs => hcov s (List.mem_append_left _ hs),
    totalR_eq_sum_weights _ (dedupKeys_nodup _) B hB fun s hs => hcov s (List.mem_append_right _ hs),
    List.map_congr_left fun k _ => h k]

theorem flatten_samples {n : Nat} {ps : List Profile} {srcs : List Src} (hfa : List.Forall₂ (SrcOK n) ps srcs) :
    SamplesOK n (srcs.map (·.samples)).flatten ∧
    totalR n (srcs.map (·.samples)).flatten = sumV n (ps.map totals) ∧
    ∀ k, weightR n (srcs.map (·.samples)).flatten k = sumV n (ps.map (weight · k)) := by
  have hsrc : ∀ rs ∈ srcs.map (·.samples), SamplesOK n rs := by
    intro rs hrs
    obtain ⟨src, hsrc, rfl⟩ := List.mem_map.mp hrs
    obtain ⟨p, _, hp⟩ := forall₂_mem_right hfa hsrc
    exact hp.ok
  refine ⟨fun s hs => ?_, ?_, fun k => ?_⟩
  · obtain ⟨rs, hrs, hs⟩ := List.mem_flatten.mp hs
    exact hsrc rs hrs s hs
  · unfold totalR
    rw [List.map_flatten, sumV_flatten, List.map_map, List.map_map]
    · congr 1
      exact (forall₂_map_eq hfa fun p src hr => by rw [totals_eq_totalR hr.res, hr.width]; rfl).symm
    · intro vs hvs v hv
      obtain ⟨rs, hrs, rfl⟩ := List.mem_map.mp hvs
      obtain ⟨s, hs, rfl⟩ := List.mem_map.mp hv
      exact (hsrc rs hrs s hs).1
  · rw [weightR_flatten _ hsrc, List.map_map]
    congr 1
    exact (forall₂_map_eq hfa fun p src hr => weight_eq_weightR hr.res hr.width k).symm

end PV.Merge
