import PprofVerif.Base.Basic
/-!
# `Outcome.Safe`

`x.Safe P` — `x` does not panic and a value it returns satisfies `P`, an error being allowed — is
the form in which the functions of the model get their totality statements: stating totality and a
postcondition together lets both be proved in one pass, and `Safe.bind` follows the `do` blocks of
the model (`Safe.ite` its `if`s, `mapM_safe`/`foldlM_safe` its loops).  Core Lean only.
-/
namespace PV

instance : LawfulMonad Outcome := LawfulMonad.mk' Outcome
  (id_map := by intro α x; cases x <;> rfl)
  (pure_bind := by intros; rfl)
  (bind_assoc := by intro α β γ x f g; cases x <;> rfl)

namespace Outcome
variable {α β : Type} {x : Outcome α} {P Q : α → Prop}

/-- `x` does not panic, and a value it returns satisfies `P`; an error is allowed.  Stating
totality and a postcondition together lets both be proved in one pass over a parser. -/
def Safe (x : Outcome α) (P : α → Prop) : Prop :=
  match x with
  | .ok a => P a
  | .err _ => True
  | .panic _ => False

theorem Safe.ne_panic (h : x.Safe P) (s : String) : x ≠ .panic s := by
  rintro rfl; exact h

theorem Safe.of_ok (h : x.Safe P) {a : α} (e : x = .ok a) : P a := by
  subst e; exact h

theorem Safe.intro (hp : ∀ s, x ≠ .panic s) (hok : ∀ a, x = .ok a → P a) : x.Safe P := by
  cases x with
  | ok a => exact hok a rfl
  | err e => trivial
  | panic s => exact hp s rfl

theorem Safe.mono (h : x.Safe P) (hPQ : ∀ a, P a → Q a) : x.Safe Q := by
  cases x with
  | ok a => exact hPQ a h
  | err e => trivial
  | panic s => exact h

theorem Safe.bind {f : α → Outcome β} {R : β → Prop} (hx : x.Safe P)
    (hf : ∀ a, P a → (f a).Safe R) : (x >>= f).Safe R := by
  cases x with
  | ok a => exact hf a hx
  | err e => trivial
  | panic s => exact hx

theorem Safe.ok {a : α} (h : P a) : Safe (.ok a) P := h

theorem Safe.err {e : String} : Safe (.err e) P := trivial

theorem Safe.ite {c : Prop} [Decidable c] {y : Outcome α} (hx : c → x.Safe P) (hy : ¬c → y.Safe P) :
    (if c then x else y).Safe P := by
  by_cases h : c
  · rw [if_pos h]; exact hx h
  · rw [if_neg h]; exact hy h

/-- the three shapes of a safe computation, for code that matches on an `Outcome` itself. -/
theorem Safe.cases (hx : x.Safe P) : (∃ a, x = .ok a ∧ P a) ∨ ∃ e, x = .err e := by
  cases x with
  | ok a => exact .inl ⟨a, rfl, hx⟩
  | err e => exact .inr ⟨e, rfl⟩
  | panic s => exact hx.elim

theorem mapM_safe {α β} {f : α → Outcome β} {Q : β → Prop} :
    ∀ l : List α, (∀ a ∈ l, (f a).Safe Q) → (l.mapM f).Safe fun r => ∀ y ∈ r, Q y
  | [], _ => by rw [List.mapM_nil]; exact List.forall_mem_nil _
  | a :: l, h => by
    rw [List.mapM_cons]
    exact (h a (List.mem_cons_self ..)).bind fun b hb =>
      (mapM_safe l fun a ha => h a (List.mem_cons_of_mem _ ha)).bind fun bs hbs =>
        List.forall_mem_cons.mpr ⟨hb, hbs⟩

theorem foldlM_safe {α β} {f : β → α → Outcome β} {P : β → Prop} :
    ∀ (l : List α), (∀ b, ∀ a ∈ l, P b → (f b a).Safe P) → ∀ b, P b → (l.foldlM f b).Safe P
  | [], _, b, hb => by rw [List.foldlM_nil]; exact hb
  | a :: l, h, b, hb => by
    rw [List.foldlM_cons]
    exact (h b a (List.mem_cons_self ..) hb).bind fun b' hb' =>
      foldlM_safe l (fun b a ha => h b a (List.mem_cons_of_mem _ ha)) b' hb'

theorem bind_eq_ok {f : α → Outcome β} {b : β} :
    (x >>= f) = .ok b ↔ ∃ a, x = .ok a ∧ f a = .ok b := by
  cases x <;> simp

theorem ne_panic_of_eq_ok {a : α} (h : x = .ok a) (s : String) : x ≠ .panic s := by
  rw [h]; exact nofun

theorem bind_congr {f g : α → Outcome β} (h : ∀ a, x = .ok a → f a = g a) : x >>= f = x >>= g := by
  cases x with
  | ok a => exact h a rfl
  | err e => rfl
  | panic s => rfl

end Outcome

end PV
