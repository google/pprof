import PprofVerif.Model.TrimTree
import PprofVerif.Lemmas.Trim
/-!
Map-table lemmas for the TrimTree model: `tfind` / `tdel` / `tset`, the per-node views `inEdges` /
`outEdges`, and the two inner loops `detachChildren` and `rewire` described by their lookups.
-/
namespace PV.TrimTree
open PV PV.GSpec PV.Graph

section generic
variable {α β : Type} [DecidableEq α]

theorem tfind_filter_key (p : α → Bool) (t : List (α × β)) (k : α) :
    tfind (t.filter (fun e => p e.1)) k = if p k = true then tfind t k else none := by
  induction t with
  | nil => simp [tfind]
  | cons hd tl ih =>
    by_cases hk : hd.1 = k
    · subst hk; cases hp : p hd.1 <;> simp [tfind, hp, ih]
    · cases hp : p hd.1 <;> simp [tfind, hp, hk, ih]

theorem tfind_tdel (t : List (α × β)) (k k' : α) :
    tfind (tdel t k) k' = if k = k' then none else tfind t k' := by
  rw [tdel, tfind_filter_key (fun x => !decide (x = k))]
  by_cases h : k = k' <;> simp [h, eq_comm]

theorem tfind_tset (t : List (α × β)) (k k' : α) (v : β) :
    tfind (tset t k v) k' = if k = k' then some v else tfind t k' := by
  induction t with
  | nil => simp [tset, tfind]
  | cons hd tl ih =>
    obtain ⟨k0, v0⟩ := hd
    by_cases h0 : k0 = k
    · subst h0; by_cases h1 : k0 = k' <;> simp [tset, tfind, h1]
    · by_cases h1 : k0 = k'
      · subst h1; simp [tset, tfind, h0, Ne.symm h0]
      · simp [tset, tfind, h0, h1, ih]

theorem tset_eq_tupd (t : List (α × β)) (k : α) (v : β) : tset t k v = tupd t k (fun _ => v) v := by
  induction t with
  | nil => rfl
  | cons hd tl ih => simp only [tset, tupd, ih]

theorem keysNodup_tset {t : List (α × β)} (h : KeysNodup t) (k : α) (v : β) : KeysNodup (tset t k v) :=
  tset_eq_tupd t k v ▸ h.tupd k _ v

omit [DecidableEq α] in
theorem keysNodup_filter {t : List (α × β)} (h : KeysNodup t) (p : α × β → Bool) : KeysNodup (t.filter p) :=
  List.Nodup.sublist (List.Sublist.map _ List.filter_sublist) h

theorem keysNodup_tdel {t : List (α × β)} (h : KeysNodup t) (k : α) : KeysNodup (tdel t k) :=
  keysNodup_filter h _

theorem mem_of_tfind {t : List (α × β)} {k : α} {v : β} (h : tfind t k = some v) : (k, v) ∈ t := by
  induction t with
  | nil => simp [tfind] at h
  | cons hd tl ih =>
    simp only [tfind] at h
    split at h
    · rename_i h0; rw [← h0, ← Option.some.inj h]; exact List.mem_cons_self
    · exact List.mem_cons_of_mem _ (ih h)

theorem tfind_none_of_not_mem {t : List (α × β)} {k : α} (h : ∀ v, (k, v) ∉ t) : tfind t k = none := by
  cases hf : tfind t k with
  | none => rfl
  | some v => exact absurd (mem_of_tfind hf) (h v)

theorem thas_eq_tfind (t : List (α × β)) (k : α) : thas t k = (tfind t k).isSome := by
  induction t with
  | nil => rfl
  | cons hd tl ih => by_cases h0 : hd.1 = k <;> simp [thas, tfind, h0, ih]

theorem tget_eq_tfind (t : List (α × β)) (k : α) (d : β) : tget t k d = (tfind t k).getD d := by
  induction t with
  | nil => rfl
  | cons hd tl ih => by_cases h0 : hd.1 = k <;> simp [tget, tfind, h0, ih]

theorem tfind_isSome_of_mem {t : List (α × β)} {k : α} {v : β} (hm : (k, v) ∈ t) : (tfind t k).isSome = true :=
  thas_eq_tfind t k ▸ thas_of_mem hm

theorem tfind_of_mem {t : List (α × β)} (h : KeysNodup t) {k : α} {v : β} (hm : (k, v) ∈ t) :
    tfind t k = some v := by
  induction t with
  | nil => simp at hm
  | cons hd tl ih =>
    have hn := List.nodup_cons.mp h
    rcases List.mem_cons.mp hm with rfl | hm'
    · simp [tfind]
    · have hne : hd.1 ≠ k := fun e => hn.1 (e ▸ List.mem_map_of_mem (f := Prod.fst) hm')
      simp only [tfind, hne, if_false]
      exact ih hn.2 hm'

omit [DecidableEq α] in
theorem length_le_one_of_keys_eq {t : List (α × β)} (h : KeysNodup t) (k : α) (hk : ∀ e ∈ t, e.1 = k) :
    t.length ≤ 1 := by
  rcases t with _ | ⟨a, _ | ⟨b, r⟩⟩
  · exact Nat.zero_le _
  · exact Nat.le_refl _
  · refine absurd ?_ (List.nodup_cons.mp h).1
    rw [hk a List.mem_cons_self, ← hk b (List.mem_cons_of_mem _ List.mem_cons_self)]
    exact List.mem_cons_self

end generic

variable {κ : Type} [DecidableEq κ]

theorem mem_inEdges {ins : ETable κ} {n : κ} {e : (κ × κ) × EdgeAcc} :
    e ∈ inEdges ins n ↔ e ∈ ins ∧ e.1.2 = n := by
  simp [inEdges, List.mem_filter]

theorem mem_outEdges {outs : ETable κ} {n : κ} {e : (κ × κ) × EdgeAcc} :
    e ∈ outEdges outs n ↔ e ∈ outs ∧ e.1.1 = n := by
  simp [outEdges, List.mem_filter]

theorem keysNodup_inEdges {ins : ETable κ} (h : KeysNodup ins) (n : κ) : KeysNodup (inEdges ins n) :=
  keysNodup_filter h _
theorem keysNodup_outEdges {outs : ETable κ} (h : KeysNodup outs) (n : κ) : KeysNodup (outEdges outs n) :=
  keysNodup_filter h _

theorem tfind_outEdges (outs : ETable κ) (n a b : κ) :
    tfind (outEdges outs n) (a, b) = if a = n then tfind outs (a, b) else none := by
  rw [outEdges, tfind_filter_key (fun k : κ × κ => decide (k.1 = n))]
  simp

/-! ### the loops over the children of one node

`detachChildren` and both components of `rewire` walk the out-edges `L` of `cur`, and the step for
the edge to child `c` touches only keys `(·, c)`.  So a lookup at `(a, b)` afterwards sees the step of
`b`'s own entry in `L`, if there is one, and nothing else. -/

theorem tfind_foldl_children {T : Type} (look : T → κ × κ → Option EdgeAcc)
    (step : T → (κ × κ) × EdgeAcc → T) (g : EdgeAcc → κ → Option EdgeAcc → Option EdgeAcc)
    (hstep : ∀ t e a b, look (step t e) (a, b) =
      if e.1.2 = b then g e.2 a (look t (a, b)) else look t (a, b))
    (cur : κ) (L : List ((κ × κ) × EdgeAcc)) (hL : KeysNodup L) (hsrc : ∀ e ∈ L, e.1.1 = cur)
    (t : T) (a b : κ) :
    look (L.foldl step t) (a, b) =
      match tfind L (cur, b) with
      | none => look t (a, b)
      | some e => g e a (look t (a, b)) := by
  induction L generalizing t with
  | nil => rfl
  | cons e r ih =>
    have hn := List.nodup_cons.mp hL
    obtain ⟨⟨x, c⟩, ev⟩ := e
    obtain rfl : x = cur := hsrc _ List.mem_cons_self
    rw [List.foldl_cons, ih hn.2 (fun y hy => hsrc y (List.mem_cons_of_mem _ hy)), hstep, tfind]
    by_cases hc : c = b
    · subst hc
      have : tfind r (x, c) = none :=
        tfind_none_of_not_mem fun v hv => hn.1 (List.mem_map.mpr ⟨_, hv, rfl⟩)
      simp [this]
    · simp [hc]

theorem detachChildren_eq_foldl (cur : κ) (L : List ((κ × κ) × EdgeAcc)) (ins : ETable κ) :
    detachChildren cur ins L = L.foldl (fun t e => tdel t (cur, e.1.2)) ins := by
  induction L generalizing ins with
  | nil => rfl
  | cons e r ih => exact ih _

theorem rewire_eq_foldl (p cur : κ) (L : List ((κ × κ) × EdgeAcc)) (io : ETable κ × ETable κ) :
    rewire p cur io L = L.foldl (fun io e =>
      (tset (tdel io.1 (cur, e.1.2)) (p, e.1.2) { e.2 with residual := true },
       tset io.2 (p, e.1.2) { e.2 with residual := true })) io := by
  induction L generalizing io with
  | nil => rfl
  | cons e r ih => exact ih _

theorem tfind_detachChildren (cur : κ) (L : List ((κ × κ) × EdgeAcc)) (hL : KeysNodup L)
    (hsrc : ∀ e ∈ L, e.1.1 = cur) (ins : ETable κ) (a b : κ) :
    tfind (detachChildren cur ins L) (a, b) =
      match tfind L (cur, b) with
      | none => tfind ins (a, b)
      | some _ => if a = cur then none else tfind ins (a, b) := by
  rw [detachChildren_eq_foldl]
  refine tfind_foldl_children tfind _ (fun _ a v => if a = cur then none else v) ?_ cur L hL hsrc ins a b
  intro t e a b
  simp only [tfind_tdel, Prod.mk.injEq]
  by_cases hc : e.1.2 = b <;> simp [hc, eq_comm]

theorem tfind_rewire_ins (p cur : κ) (L : List ((κ × κ) × EdgeAcc)) (hL : KeysNodup L)
    (hsrc : ∀ e ∈ L, e.1.1 = cur) (io : ETable κ × ETable κ) (a b : κ) :
    tfind (rewire p cur io L).1 (a, b) =
      match tfind L (cur, b) with
      | none => tfind io.1 (a, b)
      | some e => if a = p then some { e with residual := true } else if a = cur then none
                  else tfind io.1 (a, b) := by
  rw [rewire_eq_foldl]
  refine tfind_foldl_children (fun io => tfind io.1) _
    (fun e a v => if a = p then some { e with residual := true } else if a = cur then none else v)
    ?_ cur L hL hsrc io a b
  intro t e a b
  simp only [tfind_tset, tfind_tdel, Prod.mk.injEq]
  by_cases hc : e.1.2 = b <;> simp [hc, eq_comm]

theorem tfind_rewire_outs (p cur : κ) (L : List ((κ × κ) × EdgeAcc)) (hL : KeysNodup L)
    (hsrc : ∀ e ∈ L, e.1.1 = cur) (io : ETable κ × ETable κ) (a b : κ) :
    tfind (rewire p cur io L).2 (a, b) =
      match tfind L (cur, b) with
      | none => tfind io.2 (a, b)
      | some e => if a = p then some { e with residual := true } else tfind io.2 (a, b) := by
  rw [rewire_eq_foldl]
  refine tfind_foldl_children (fun io => tfind io.2) _
    (fun e a v => if a = p then some { e with residual := true } else v) ?_ cur L hL hsrc io a b
  intro t e a b
  simp only [tfind_tset, Prod.mk.injEq]
  by_cases hc : e.1.2 = b <;> simp [hc, eq_comm]

theorem keysNodup_detachChildren (cur : κ) (L : List ((κ × κ) × EdgeAcc)) (ins : ETable κ)
    (h : KeysNodup ins) : KeysNodup (detachChildren cur ins L) := by
  induction L generalizing ins with
  | nil => exact h
  | cons e r ih => exact ih _ (keysNodup_tdel h _)

theorem keysNodup_rewire (p cur : κ) (L : List ((κ × κ) × EdgeAcc)) (io : ETable κ × ETable κ)
    (h1 : KeysNodup io.1) (h2 : KeysNodup io.2) :
    KeysNodup (rewire p cur io L).1 ∧ KeysNodup (rewire p cur io L).2 := by
  induction L generalizing io with
  | nil => exact ⟨h1, h2⟩
  | cons e r ih => exact ih _ (keysNodup_tset (keysNodup_tdel h1 _) _ _) (keysNodup_tset h2 _ _)

end PV.TrimTree
