import PprofVerif.Spec.Stacks
/-! C17: `getSrc`, the closure of `makeInitialStacks` that interns a frame as a source, and the state it keeps.  `WF` is
the invariant of the table from frame identities to source indices (DESIGN A.1), `Ext` the way the state grows.
`NamesInv` is the invariant behind `UniqueName`: among the sources after the root, the first with a given full name
keeps it as unique name, every later one gets `FullName#<function id>`.  Both invariants survive the sample loop's
`Self += v` (`bumpSelf`).  `FileName` comes from `trimPath`, which only ever removes a prefix. -/
namespace PV.Stacks
open PV

/-- the index the `srcs` map gives to the identity of frame `f` (0 when absent). -/
def idxIn (M : List (Key × Nat)) (f : Frame) : Nat := (M.lookup f.key).getD 0

theorem idxIn_of_lookup {M : List (Key × Nat)} {f : Frame} {i : Nat} (h : M.lookup f.key = some i) :
    idxIn M f = i := by rw [idxIn, h]; rfl

/-- source `s` shows the attributes of frame identity `k`. -/
def Describes (o : Opts) (s : Source) (k : Key) : Prop :=
  s.fullName = k.fullName o ∧ s.fileName = k.fileName o ∧ s.inlined = k.inlined

structure WF (o : Opts) (st : St) : Prop where
  len : st.sources.elems.length = st.srcs.length + 1
  nn : st.sources.nonnil = true
  rng : ∀ k i, st.srcs.lookup k = some i → 1 ≤ i ∧ i < st.sources.elems.length
  desc : ∀ k i, st.srcs.lookup k = some i → ∃ s, st.sources.elems[i]? = some s ∧ Describes o s k
  inj : ∀ k k' i, st.srcs.lookup k = some i → st.srcs.lookup k' = some i → k = k'

/-- `st'` extends `st`: indices handed out stay valid, sources are only appended, and the appended
ones are fresh (no self value, empty non-nil place list). -/
structure Ext (st st' : St) : Prop where
  mono : ∀ k i, st.srcs.lookup k = some i → st'.srcs.lookup k = some i
  app : ∃ extra, st'.sources.elems = st.sources.elems ++ extra ∧
          ∀ s ∈ extra, s.self = 0 ∧ s.places = Slice.lit []

theorem Ext.refl (st : St) : Ext st st := ⟨fun _ _ h => h, [], by simp, by simp⟩

theorem Ext.trans {a b c : St} (h1 : Ext a b) (h2 : Ext b c) : Ext a c := by
  obtain ⟨e1, he1, hf1⟩ := h1.app
  obtain ⟨e2, he2, hf2⟩ := h2.app
  refine ⟨fun k i h => h2.mono k i (h1.mono k i h), e1 ++ e2, by rw [he2, he1, List.append_assoc], ?_⟩
  intro s hs
  rcases List.mem_append.1 hs with h | h
  · exact hf1 s h
  · exact hf2 s h

theorem Ext.known {a b : St} (e : Ext a b) {f : Frame} (hk : (a.srcs.lookup f.key).isSome = true) :
    (b.srcs.lookup f.key).isSome = true ∧ idxIn a.srcs f = idxIn b.srcs f := by
  obtain ⟨j, hl⟩ := Option.isSome_iff_exists.1 hk
  exact ⟨Option.isSome_iff_exists.2 ⟨j, e.mono _ _ hl⟩,
    by rw [idxIn_of_lookup hl, idxIn_of_lookup (e.mono _ _ hl)]⟩

theorem WF.pos {o : Opts} {st : St} (h : WF o st) : 0 < st.sources.elems.length := by rw [h.len]; omega

theorem lookup_cons_eq_some {β} {k k0 : Key} {b i : β} {M : List (Key × β)} :
    List.lookup k ((k0, b) :: M) = some i ↔ k = k0 ∧ b = i ∨ k ≠ k0 ∧ M.lookup k = some i := by
  by_cases e : k = k0
  · simp [e]
  · have : (k == k0) = false := by simpa using e
    simp [List.lookup_cons, this, e]

theorem Slice.len_push_sub_one {α} (s : Slice α) (x : α) : (s.push x).len - 1 = s.elems.length := by
  simp [Slice.push, Slice.len]

/-- `s.Sources = append(s.Sources, x); srcs[k0] = len(s.Sources) - 1` -/
theorem WF.push {o : Opts} {st : St} (h : WF o st) {k0 : Key} {x : Source}
    (hx : Describes o x k0) {seen : List Str} :
    WF o ⟨st.sources.push x, (k0, st.sources.elems.length) :: st.srcs, seen⟩ := by
  have hlen : (st.sources.push x).elems.length = st.sources.elems.length + 1 := List.length_append
  refine ⟨hlen.trans (congrArg (· + 1) h.len), rfl, ?_, ?_, ?_⟩
  · intro k i hk
    rw [hlen]
    rcases lookup_cons_eq_some.1 hk with ⟨rfl, rfl⟩ | ⟨_, hk⟩
    · exact ⟨h.pos, Nat.lt_succ_self _⟩
    · exact ⟨(h.rng k i hk).1, Nat.lt_succ_of_lt (h.rng k i hk).2⟩
  · intro k i hk
    rcases lookup_cons_eq_some.1 hk with ⟨rfl, rfl⟩ | ⟨_, hk⟩
    · exact ⟨x, List.getElem?_concat_length, hx⟩
    · obtain ⟨s, hs, hd⟩ := h.desc k i hk
      exact ⟨s, by rw [← hs]; exact List.getElem?_append_left (h.rng k i hk).2, hd⟩
  · intro k k' i hk hk'
    rcases lookup_cons_eq_some.1 hk with ⟨rfl, rfl⟩ | ⟨_, h1⟩ <;>
      rcases lookup_cons_eq_some.1 hk' with ⟨rfl, hi⟩ | ⟨_, h2⟩
    · rfl
    · exact absurd (h.rng k' _ h2).2 (Nat.lt_irrefl _)
    · exact absurd (hi ▸ (h.rng k _ h1).2) (Nat.lt_irrefl _)
    · exact h.inj k k' i h1 h2

theorem Ext.push {st : St} {k0 : Key} {x : Source} (hl : st.srcs.lookup k0 = none)
    (hx : x.self = 0 ∧ x.places = Slice.lit []) {n : Nat} {seen : List Str} :
    Ext st ⟨st.sources.push x, (k0, n) :: st.srcs, seen⟩ := by
  refine ⟨fun k i hk => lookup_cons_eq_some.2 (.inr ⟨?_, hk⟩), [x], rfl, by simpa using hx⟩
  intro e; rw [e, hl] at hk; cases hk

theorem getSrc_spec (o : Opts) (st : St) (f : Frame) (h : WF o st) :
    WF o (getSrc o st f).1 ∧ Ext st (getSrc o st f).1 ∧
    (getSrc o st f).1.srcs.lookup f.key = some (getSrc o st f).2 := by
  unfold getSrc
  cases hl : st.srcs.lookup f.key with
  | some i => exact ⟨h, Ext.refl st, hl⟩
  | none =>
    simp only [Slice.len_push_sub_one]
    exact ⟨h.push ⟨rfl, rfl, rfl⟩, Ext.push hl ⟨rfl, rfl⟩,
      lookup_cons_eq_some.2 (.inl ⟨rfl, rfl⟩)⟩

theorem pushFrames_spec (o : Opts) (fs : List Frame) : ∀ (st : St) (idxs : Slice Nat), WF o st →
    WF o (pushFrames o st idxs fs).1 ∧ Ext st (pushFrames o st idxs fs).1 ∧
    (pushFrames o st idxs fs).2.elems = idxs.elems ++ fs.map (idxIn (pushFrames o st idxs fs).1.srcs) ∧
    (idxs.nonnil = true → (pushFrames o st idxs fs).2.nonnil = true) ∧
    (∀ f ∈ fs, ((pushFrames o st idxs fs).1.srcs.lookup f.key).isSome = true) := by
  induction fs with
  | nil => intro st idxs h; exact ⟨h, Ext.refl st, (List.append_nil _).symm, fun h => h, fun _ hf => nomatch hf⟩
  | cons f r ih =>
    intro st idxs h
    obtain ⟨w1, e1, l1⟩ := getSrc_spec o st f h
    obtain ⟨w2, e2, el, nn, kn⟩ := ih (getSrc o st f).1 (idxs.push (getSrc o st f).2) w1
    have l2 := e2.mono _ _ l1
    have hstep : pushFrames o st idxs (f :: r) =
        pushFrames o (getSrc o st f).1 (idxs.push (getSrc o st f).2) r := rfl
    rw [hstep]
    refine ⟨w2, e1.trans e2, el.trans ?_, fun _ => nn rfl, fun g hg => ?_⟩
    · rw [List.map_cons, idxIn_of_lookup l2]
      exact List.append_assoc ..
    · rcases List.mem_cons.1 hg with rfl | hg
      · exact Option.isSome_iff_exists.2 ⟨_, l2⟩
      · exact kn g hg

/-- the state after `s.Sources[i].Self += v`. -/
def bumpSelf (st : St) (i : Nat) (v : Int) : St :=
  { st with sources := ⟨st.sources.nonnil,
      st.sources.elems.modify i fun s => { s with self := s.self + v }⟩ }

theorem getElem?_bumpSelf (st : St) (leaf : Nat) (v : Int) (i : Nat) :
    (bumpSelf st leaf v).sources.elems[i]? = st.sources.elems[i]?.map fun s =>
      { s with self := s.self + if leaf = i then v else 0 } := by
  rw [bumpSelf, List.getElem?_modify]
  cases st.sources.elems[i]? with
  | none => rfl
  | some s =>
    by_cases e : leaf = i
    · simp only [e, if_true]; rfl
    · simp only [e, if_false, Int.add_zero]; rfl

theorem WF.bumpSelf {o : Opts} {st : St} (h : WF o st) (i : Nat) (v : Int) : WF o (bumpSelf st i v) := by
  have hlen : (Stacks.bumpSelf st i v).sources.elems.length = st.sources.elems.length :=
    List.length_modify ..
  refine ⟨hlen.trans h.len, h.nn, fun k j hk => hlen ▸ h.rng k j hk, fun k j hk => ?_, h.inj⟩
  obtain ⟨s, hs, hd⟩ := h.desc k j hk
  exact ⟨{ s with self := s.self + if i = j then v else 0 }, by rw [getElem?_bumpSelf, hs]; rfl, hd⟩

def nm (s : Source) : Str × Str := (s.fullName, s.uniqueName)

/-- the full names at positions `1 … j-1` of a name list (position 0, the root, is exempt). -/
def before (N : List (Str × Str)) (j : Nat) : List Str := ((N.take j).drop 1).map (·.1)

def NamingScheme (N : List (Str × Str)) : Prop :=
  ∀ j q, 1 ≤ j → N[j]? = some q →
    (q.1 ∈ before N j → ∃ id, q.2 = q.1 ++ hash ++ decNat id) ∧ (q.1 ∉ before N j → q.2 = q.1)

def names (st : St) : List (Str × Str) := st.sources.elems.map nm

/-- `seenFunctions` is the set of full names handed out so far, and the names follow the scheme. -/
structure NamesInv (st : St) : Prop where
  pos : 1 ≤ (names st).length
  seen : ∀ n, st.seenFunctions.contains n = true ↔ n ∈ before (names st) (names st).length
  uniq : NamingScheme (names st)

theorem NamesInv.of_eq {st st' : St} (h : NamesInv st) (hn : names st' = names st)
    (hs : st'.seenFunctions = st.seenFunctions) : NamesInv st' :=
  ⟨hn ▸ h.pos, by rw [hn, hs]; exact h.seen, hn ▸ h.uniq⟩

theorem mem_before_iff {S : List Source} {j : Nat} {n : Str} :
    n ∈ before (S.map nm) j ↔ ∃ i s, 1 ≤ i ∧ i < j ∧ S[i]? = some s ∧ s.fullName = n := by
  rw [before, ← List.map_take, ← List.map_drop, List.map_map, List.mem_map]
  constructor
  · rintro ⟨s, hs, rfl⟩
    obtain ⟨i, hi⟩ := List.mem_iff_getElem?.1 hs
    rw [List.getElem?_drop, List.getElem?_take] at hi
    split at hi
    · exact ⟨1 + i, s, Nat.le_add_right .., by assumption, hi, rfl⟩
    · cases hi
  · rintro ⟨i, s, h1, h2, h3, rfl⟩
    refine ⟨s, List.mem_iff_getElem?.2 ⟨i - 1, ?_⟩, rfl⟩
    rw [List.getElem?_drop, List.getElem?_take, Nat.add_sub_cancel' h1, if_pos h2, h3]

theorem append_hash_ne (s : Str) (id : Nat) : s ++ hash ++ decNat id ≠ s := by
  intro he
  rw [List.append_assoc, List.append_right_eq_self] at he
  cases he

theorem before_concat {N : List (Str × Str)} (x : Str × Str) {j : Nat} (h : j ≤ N.length) :
    before (N ++ [x]) j = before N j := by
  rw [before, List.take_append_of_le_length h, before]

theorem before_concat_length {N : List (Str × Str)} (x : Str × Str) (h : 1 ≤ N.length) :
    before (N ++ [x]) (N ++ [x]).length = before N N.length ++ [x.1] := by
  rw [before, List.take_length, List.drop_append_of_le_length h, List.map_append, before, List.take_length]
  rfl

theorem NamingScheme_concat {N : List (Str × Str)} {x : Str × Str} (hu : NamingScheme N)
    (hx : (x.1 ∈ before N N.length → ∃ id, x.2 = x.1 ++ hash ++ decNat id) ∧
      (x.1 ∉ before N N.length → x.2 = x.1)) : NamingScheme (N ++ [x]) := by
  intro j q hj hq
  rcases Nat.lt_or_ge j N.length with hlt | hge
  · rw [List.getElem?_append_left hlt] at hq
    rw [before_concat x (Nat.le_of_lt hlt)]
    exact hu j q hj hq
  · have hlt := (List.getElem?_eq_some_iff.1 hq).1
    rw [List.length_append] at hlt
    obtain rfl : j = N.length := Nat.le_antisymm (Nat.le_of_lt_succ hlt) hge
    rw [List.getElem?_concat_length, Option.some.injEq] at hq
    rw [before_concat x (Nat.le_refl _), ← hq]
    exact hx

theorem NamesInv.push {st : St} (h : NamesInv st) {x : Source} {seen' : List Str} {srcs : List (Key × Nat)}
    (hx : (x.fullName ∈ before (names st) (names st).length →
        ∃ id, x.uniqueName = x.fullName ++ hash ++ decNat id) ∧
      (x.fullName ∉ before (names st) (names st).length → x.uniqueName = x.fullName))
    (hs : ∀ n, seen'.contains n = true ↔ st.seenFunctions.contains n = true ∨ n = x.fullName) :
    NamesInv ⟨st.sources.push x, srcs, seen'⟩ := by
  have hN : names ⟨st.sources.push x, srcs, seen'⟩ = names st ++ [nm x] := List.map_append ..
  refine ⟨hN ▸ Nat.le_trans h.pos (List.length_append ▸ Nat.le_add_right ..), fun n => ?_,
    hN ▸ NamingScheme_concat h.uniq hx⟩
  rw [hN, before_concat_length _ h.pos, List.mem_append, List.mem_singleton, ← h.seen n]
  exact hs n

theorem NamesInv_getSrc (o : Opts) (st : St) (f : Frame) (h : NamesInv st) : NamesInv (getSrc o st f).1 := by
  unfold getSrc
  cases st.srcs.lookup f.key with
  | some i => exact h
  | none =>
    refine h.push ⟨fun hm => ⟨f.fnID, if_pos ((h.seen _).2 hm)⟩,
      fun hm => if_neg fun c => hm ((h.seen _).1 c)⟩ fun n => ?_
    by_cases c : st.seenFunctions.contains (f.key.fullName o) = true
    · rw [if_pos c]
      exact ⟨Or.inl, fun h' => h'.elim (fun h => h) (fun e => e ▸ c)⟩
    · rw [if_neg c, List.contains_cons, Bool.or_eq_true, beq_iff_eq, or_comm]

theorem NamesInv_pushFrames (o : Opts) (fs : List Frame) : ∀ (st : St) (idxs : Slice Nat), NamesInv st →
    NamesInv (pushFrames o st idxs fs).1 := by
  induction fs with
  | nil => intro st idxs h; exact h
  | cons f r ih => intro st idxs h; exact ih _ _ (NamesInv_getSrc o st f h)

theorem NamesInv_init : NamesInv St.init :=
  ⟨Nat.le_refl 1, fun _ => ⟨fun h => (nomatch h), fun h => (nomatch h)⟩, fun j _ hj hq =>
    match j, hj, hq with
    | _ + 1, _, hq => nomatch hq⟩

theorem NamesInv.bumpSelf {st : St} (h : NamesInv st) (i : Nat) (v : Int) : NamesInv (bumpSelf st i v) := by
  refine h.of_eq (List.ext_getElem? fun j => ?_) rfl
  rw [names, names, List.getElem?_map, getElem?_bumpSelf, List.getElem?_map]
  cases st.sources.elems[j]? <;> rfl

theorem firstBase_drop {path : Str} {dirs : List Str} {r : Str} (h : firstBase path dirs = some r) :
    ∃ n, r = path.drop n := by
  induction dirs with
  | nil => cases h
  | cons d t ih =>
    simp only [firstBase] at h
    cases hi : indexOf ([47] ++ pathBase d ++ [47]) path 0 with
    | none => rw [hi] at h; exact ih h
    | some k => rw [hi] at h; exact ⟨_, (Option.some.inj h).symm⟩

theorem firstPrefix_drop {path : Str} {ts : List Str} {r : Str} (h : firstPrefix path ts = some r) :
    ∃ n, r = path.drop n := by
  induction ts with
  | nil => cases h
  | cons t rest ih =>
    simp only [firstPrefix] at h
    by_cases hp : (withSlash t).isPrefixOf path = true
    · rw [if_pos hp] at h; exact ⟨_, (Option.some.inj h).symm⟩
    · rw [if_neg hp] at h; exact ih h

theorem trimPath_drop (o : Opts) (path : Str) : ∃ n, trimPath o path = path.drop n := by
  unfold trimPath
  cases h1 : (if o.trimPath = [] then firstBase path (splitList o.sourcePath) else none) with
  | some r =>
    by_cases ht : o.trimPath = []
    · rw [if_pos ht] at h1; exact firstBase_drop h1
    · rw [if_neg ht] at h1; cases h1
  | none =>
    simp only
    cases h2 : firstPrefix path (splitList o.trimPath ++ [cwdDot, cwd]) with
    | some r => exact firstPrefix_drop h2
    | none => exact ⟨0, rfl⟩

end PV.Stacks
