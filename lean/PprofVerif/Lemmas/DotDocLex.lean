import PprofVerif.Lemmas.DotLex
import PprofVerif.Model.DotDoc
/-! C18: the bytes of the document model (`Model/DotDoc.lean`) lex into its tokens. -/
namespace PV.Dot

def attrToks : List Attr → List Tok
  | [] => []
  | a :: as => .id a.key :: .eq :: a.val.tok :: attrToks as

def Stmt.toks : Stmt → List Tok
  | .node i as => .id i :: .lbrack :: (attrToks as ++ [.rbrack])
  | .edge s d as => .id s :: .arrow :: .id d :: .lbrack :: (attrToks as ++ [.rbrack])

def stmtsToks : List Stmt → List Tok
  | [] => []
  | s :: ss => s.toks ++ stmtsToks ss

def bClusterL : Bytes := [0x63,0x6c,0x75,0x73,0x74,0x65,0x72,0x5f,0x4c]   -- cluster_L
def bStyle : Bytes := [0x73,0x74,0x79,0x6c,0x65]
def bFilled : Bytes := [0x66,0x69,0x6c,0x6c,0x65,0x64]
def bFillcolor : Bytes := [0x66,0x69,0x6c,0x6c,0x63,0x6f,0x6c,0x6f,0x72]
def bF8 : Bytes := [0x23,0x66,0x38,0x66,0x38,0x66,0x38]

def legendToks : Option (Bytes × List Attr) → List Tok
  | none => []
  | some (lid, as) => .id kwSubgraph :: .id bClusterL :: .lbrace :: .str lid :: .lbrack :: (attrToks as ++ [.rbrack, .rbrace])

/-- the attributes of the line `node [style=filled fillcolor="#f8f8f8"]` that `ComposeDot` starts with -/
def defaultAttrs : List Attr := [⟨bStyle, .bare bFilled⟩, ⟨bFillcolor, .quoted bF8⟩]

def defaultsToks : List Tok := (Stmt.node kwNode defaultAttrs).toks

def docToks (title : Bytes) (legend : Option (Bytes × List Attr)) (stmts : List Stmt) : List Tok :=
  .id kwDigraph :: .str title :: .lbrace :: (defaultsToks ++ (legendToks legend ++ (stmtsToks stmts ++ [.rbrace])))

structure AttrOK (a : Attr) : Prop where
  key : IdOK a.key
  keyNoKw : isKw a.key = false
  val : match a.val with
    | .bare w => IdOK w
    | .quoted b => qsafeB b = true
  valNoKw : match a.val with
    | .bare w => isKw w = false
    | .quoted _ => True

def StmtOK : Stmt → Prop
  | .node i as => (IdOK i ∧ isKw i = false) ∧ ∀ a ∈ as, AttrOK a
  | .edge s d as => (IdOK s ∧ isKw s = false) ∧ (IdOK d ∧ isKw d = false) ∧ ∀ a ∈ as, AttrOK a

theorem attrsTail_head (as : List Attr) : ∃ d r, attrsTail as = d :: r ∧ isIdByte d = false := by
  cases as with
  | nil => exact ⟨0x5d, [], rfl, by decide⟩
  | cons a t => exact ⟨SP, _, rfl, by decide⟩

theorem lexes_attr {a : Attr} (ha : AttrOK a) (t : List Attr) {r : Bytes} {ts : List Tok}
    (h : Lexes (attrsTail t ++ r) ts) :
    Lexes (a.bytes ++ attrsTail t ++ r) (.id a.key :: .eq :: a.val.tok :: ts) := by
  obtain ⟨d, r', hdr, hd⟩ := attrsTail_head t
  rw [hdr] at h
  have hv : Lexes (a.val.bytes ++ d :: (r' ++ r)) (a.val.tok :: ts) := by
    have hval := ha.val
    cases hvv : a.val with
    | bare w => rw [hvv] at hval; exact Lexes.id hval hd h
    | quoted b =>
      rw [hvv] at hval
      simpa only [AVal.bytes, AVal.tok, List.cons_append, List.nil_append, List.append_assoc] using Lexes.str hval h
  simpa only [Attr.bytes, hdr, List.cons_append, List.append_assoc] using Lexes.id ha.key (by decide) (Lexes.eq hv)

theorem lexes_attrsTail (as : List Attr) (has : ∀ a ∈ as, AttrOK a) {r : Bytes} {ts : List Tok} (h : Lexes r ts) :
    Lexes (attrsTail as ++ r) (attrToks as ++ .rbrack :: ts) := by
  induction as with
  | nil => exact Lexes.rbrack h
  | cons a t ih =>
    obtain ⟨ha, ht⟩ := List.forall_mem_cons.mp has
    exact Lexes.sp (lexes_attr ha t (ih ht))

theorem lexes_attrList (as : List Attr) (has : ∀ a ∈ as, AttrOK a) {r : Bytes} {ts : List Tok} (h : Lexes r ts) :
    Lexes (attrList as ++ r) (.lbrack :: (attrToks as ++ .rbrack :: ts)) := by
  cases as with
  | nil => exact Lexes.lbrack (Lexes.rbrack h)
  | cons a t =>
    obtain ⟨ha, ht⟩ := List.forall_mem_cons.mp has
    exact Lexes.lbrack (lexes_attr ha t (lexes_attrsTail t ht h))

/-- the identifier may be the keyword `node` -/
theorem lexes_node {i : Bytes} (as : List Attr) (hi : IdOK i) (has : ∀ a ∈ as, AttrOK a) {r : Bytes} {ts : List Tok}
    (h : Lexes r ts) : Lexes ((Stmt.node i as).bytes ++ r) ((Stmt.node i as).toks ++ ts) := by
  have := Lexes.id hi (by decide) (Lexes.sp (lexes_attrList as has (Lexes.nl h)))
  simpa [Stmt.bytes, Stmt.toks, SP, NL, List.append_assoc] using this

theorem lexes_stmt (s : Stmt) (hs : StmtOK s) {r : Bytes} {ts : List Tok} (h : Lexes r ts) :
    Lexes (s.bytes ++ r) (s.toks ++ ts) := by
  cases s with
  | node i as => exact lexes_node as hs.1.1 hs.2 h
  | edge s d as =>
    have := Lexes.id hs.1.1 (by decide) (Lexes.sp (Lexes.arrow (Lexes.sp (lexes_node as hs.2.1.1 hs.2.2 h))))
    simpa [Stmt.bytes, Stmt.toks, SP, List.append_assoc] using this

theorem lexes_stmts (ss : List Stmt) (hss : ∀ s ∈ ss, StmtOK s) {r : Bytes} {ts : List Tok} (h : Lexes r ts) :
    Lexes (stmtsBytes ss ++ r) (stmtsToks ss ++ ts) := by
  induction ss with
  | nil => exact h
  | cons s t ih =>
    obtain ⟨hs, ht⟩ := List.forall_mem_cons.mp hss
    have := lexes_stmt s hs (ih ht)
    simpa [stmtsBytes, stmtsToks, List.append_assoc] using this

theorem idOK_of_decide (w : Bytes) (h : (w ≠ [] ∧ w.all isIdByte = true ∧ validId w = true)) : IdOK w :=
  ⟨h.1, fun b hb => by have := h.2.1; rw [List.all_eq_true] at this; exact this b hb, h.2.2⟩

theorem defaultAttrs_ok : ∀ a ∈ defaultAttrs, AttrOK a := by
  intro a ha
  simp only [defaultAttrs, List.mem_cons, List.not_mem_nil, or_false] at ha
  rcases ha with rfl | rfl
  · exact ⟨idOK_of_decide _ (by decide), by decide, idOK_of_decide _ (by decide), by decide⟩
  · exact ⟨idOK_of_decide _ (by decide), by decide, by decide, trivial⟩

/-- the node defaults are, byte for byte, a node statement for the identifier `node` -/
theorem lexes_defaults {r : Bytes} {ts : List Tok} (h : Lexes r ts) :
    Lexes (bNodeDefaults ++ r) (defaultsToks ++ ts) :=
  lexes_node defaultAttrs (idOK_of_decide kwNode (by decide)) defaultAttrs_ok h

theorem lexes_legend (legend : Option (Bytes × List Attr))
    (hl : ∀ p, legend = some p → qsafeB p.1 = true ∧ ∀ a ∈ p.2, AttrOK a) {r : Bytes} {ts : List Tok} (h : Lexes r ts) :
    Lexes (legendBytes legend ++ r) (legendToks legend ++ ts) := by
  cases legend with
  | none => exact h
  | some p =>
    obtain ⟨lid, as⟩ := p
    obtain ⟨hq, has⟩ := hl (lid, as) rfl
    have h1 := lexes_attrList as has (Lexes.sp (Lexes.rbrace (Lexes.nl h)))
    have := Lexes.id (idOK_of_decide kwSubgraph (by decide)) (by decide) (Lexes.sp (Lexes.id (idOK_of_decide bClusterL
      (by decide)) (by decide) (Lexes.sp (Lexes.lbrace (Lexes.sp (Lexes.str hq (Lexes.sp h1)))))))
    have e : bSubgraph = kwSubgraph ++ 0x20 :: (bClusterL ++ [0x20, 0x7b, 0x20]) := rfl
    simpa only [legendBytes, legendToks, e, SP, NL, List.append_assoc, List.cons_append, List.nil_append] using this

theorem lexes_doc (title : Bytes) (legend : Option (Bytes × List Attr)) (stmts : List Stmt)
    (ht : qsafeB title = true)
    (hl : ∀ p, legend = some p → qsafeB p.1 = true ∧ ∀ a ∈ p.2, AttrOK a)
    (hs : ∀ s ∈ stmts, StmtOK s) :
    lex (docBytes title legend stmts) = some (docToks title legend stmts) := by
  apply Lexes.toLex
  have h3 := lexes_defaults (lexes_legend legend hl (lexes_stmts stmts hs (Lexes.rbrace (Lexes.nl Lexes.nil))))
  have := Lexes.id (idOK_of_decide bDigraph (by decide)) (by decide) (Lexes.sp (Lexes.str ht (Lexes.sp
    (Lexes.lbrace (Lexes.nl h3)))))
  simpa only [docBytes, docToks, show bDigraph = kwDigraph from rfl, SP, NL, List.append_assoc, List.cons_append,
    List.nil_append] using this

end PV.Dot
