import PprofVerif.Lemmas.CodecTotal
import PprofVerif.Lemmas.CodecTotalAssoc
/-!
String interning of `preEncode` (encode.go `addString`), for property C01.  `addString` extends the
table (prefix), returns an index `i ≥ 0` with `tab[i] = s`, and preserves `Nodup` and "entry 0 is the
empty string"; an (index, string) pair stays valid in every extension of the table, hence in the final
table handed to `postDecode`.  Plus the plumbing used by the entity lemmas: the pointwise list relation
`All2`, `mapM` in the interning state monad, `mapM`/`foldlM` in `Outcome`.
-/
namespace PV
namespace Codec

/-- Invariant of the interning table (`strings map[string]int` + insertion order): no string
twice, entry 0 is the empty string. -/
structure TabInv (t : StrTab) : Prop where
  nodup : t.Nodup
  head : t[0]? = some []

/-- `i` is a valid index of `s` in `tab`. -/
def Res (tab : StrTab) (i : Int) (s : Str) : Prop := 0 ≤ i ∧ tab[i.toNat]? = some s

theorem TabInv.init : TabInv [[]] := ⟨by simp, rfl⟩

theorem getElem?_of_prefix {α} {t t' : List α} (h : t <+: t') {i : Nat} {s : α} (hs : t[i]? = some s) :
    t'[i]? = some s := by
  obtain ⟨r, rfl⟩ := h
  obtain ⟨hi, _⟩ := List.getElem?_eq_some_iff.mp hs
  rw [List.getElem?_append_left hi]; exact hs

theorem Res.mono {t t' : StrTab} {i : Int} {s : Str} (h : t <+: t') (hr : Res t i s) : Res t' i s :=
  ⟨hr.1, getElem?_of_prefix h hr.2⟩

theorem Res.lt_length {t : StrTab} {i : Int} {s : Str} (hr : Res t i s) : i < (t.length : Int) := by
  obtain ⟨h0, h⟩ := hr
  obtain ⟨hi, _⟩ := List.getElem?_eq_some_iff.mp h
  omega

theorem Res.zero {t : StrTab} (h : TabInv t) : Res t 0 [] := ⟨by omega, h.head⟩

theorem Res.zero_iff {t : StrTab} {i : Int} {s : Str} (h : TabInv t) (hr : Res t i s) : i = 0 ↔ s = [] := by
  obtain ⟨h0, hi⟩ := hr
  constructor
  · intro hz; subst hz
    have := h.head
    simp only [Int.toNat_zero] at hi
    rw [hi] at this; exact Option.some.inj this
  · intro hs; subst hs
    obtain ⟨hlt, _⟩ := List.getElem?_eq_some_iff.mp hi
    have : i.toNat = 0 := (List.getElem?_inj hlt h.nodup).mp (hi.trans h.head.symm)
    omega

theorem Res.unique {t : StrTab} {i : Int} {s s' : Str} (h : Res t i s) (h' : Res t i s') : s = s' := by
  have := h.2.symm.trans h'.2; exact Option.some.inj this

theorem getString_of_Res {tab : StrTab} {i : Int} {s : Str} (h : Res tab i s) : getString tab i = .ok s := by
  unfold getString
  have : ¬ i < 0 := by have := h.1; omega
  simp only [this, if_false, h.2]

theorem addString_fst_prefix (t : StrTab) (s : Str) : t <+: (addString t s).1 := by
  unfold addString
  split
  · exact List.prefix_refl _
  · exact List.prefix_append _ _

theorem addString_inv (t : StrTab) (s : Str) (h : TabInv t) : TabInv (addString t s).1 := by
  unfold addString
  split
  · exact h
  · rename_i hn
    have hnot : s ∉ t := List.idxOf?_eq_none_iff.mp hn
    refine ⟨?_, getElem?_of_prefix (List.prefix_append _ _) h.head⟩
    rw [List.nodup_append]
    refine ⟨h.nodup, by simp, ?_⟩
    intro a ha b hb
    simp at hb; subst hb
    intro hab; subst hab; exact hnot ha

theorem addString_res (t : StrTab) (s : Str) : Res (addString t s).1 (addString t s).2 s := by
  unfold addString
  split
  · rename_i i hi
    obtain ⟨hlt, hget, _⟩ := List.idxOf?_eq_some_iff.mp hi
    refine ⟨by simp, ?_⟩
    simp only [Int.toNat_natCast]
    exact List.getElem?_eq_some_iff.mpr ⟨hlt, hget⟩
  · refine ⟨by simp, ?_⟩
    simp only [Int.toNat_natCast]
    exact List.getElem?_concat_length

theorem addString_spec (t : StrTab) (s : Str) (h : TabInv t) :
    TabInv (addString t s).1 ∧ t <+: (addString t s).1 ∧ Res (addString t s).1 (addString t s).2 s :=
  ⟨addString_inv t s h, addString_fst_prefix t s, addString_res t s⟩

theorem addString_zero_iff (t : StrTab) (s : Str) (h : TabInv t) : (addString t s).2 = 0 ↔ s = [] :=
  Res.zero_iff (addString_inv t s h) (addString_res t s)

theorem add_fst (s : Str) (t : StrTab) : (add s t).1 = (addString t s).2 := rfl
theorem add_snd (s : Str) (t : StrTab) : (add s t).2 = (addString t s).1 := rfl

inductive All2 {α β} (R : α → β → Prop) : List α → List β → Prop
  | nil : All2 R [] []
  | cons {a b l m} : R a b → All2 R l m → All2 R (a :: l) (b :: m)

theorem All2.mono_mem {α β} {R S : α → β → Prop} {l m} (hr : All2 R l m) (h : ∀ a ∈ l, ∀ b, R a b → S a b) :
    All2 S l m := by
  induction hr with
  | nil => exact .nil
  | cons hab _ ih => exact .cons (h _ List.mem_cons_self _ hab) (ih fun a ha => h a (List.mem_cons_of_mem _ ha))

theorem All2.mono {α β} {R S : α → β → Prop} (h : ∀ a b, R a b → S a b) {l m} (hr : All2 R l m) : All2 S l m :=
  hr.mono_mem fun a _ b => h a b

theorem All2.append {α β} {R : α → β → Prop} : ∀ {l m l' m'}, All2 R l m → All2 R l' m' → All2 R (l ++ l') (m ++ m') := by
  intro l m l' m' h h'
  induction h with
  | nil => exact h'
  | cons hab _ ih => exact .cons hab ih

theorem All2.length_eq {α β} {R : α → β → Prop} : ∀ {l m}, All2 R l m → l.length = m.length := by
  intro l m h
  induction h with
  | nil => rfl
  | cons _ _ ih => exact congrArg Nat.succ ih

theorem All2.map_left {α β γ} {R : γ → β → Prop} {f : α → γ} {l m} (h : All2 (fun a b => R (f a) b) l m) :
    All2 R (l.map f) m := by
  induction h with
  | nil => exact .nil
  | cons hab _ ih => exact .cons hab ih

theorem All2.map_right {α β γ} {R : α → γ → Prop} (f : β → γ) :
    ∀ {l m}, All2 (fun a b => R a (f b)) l m → All2 R l (m.map f) := by
  intro l m h
  induction h with
  | nil => exact .nil
  | cons hab _ ih => exact .cons hab ih

theorem All2.flatten {α β} {R : α → β → Prop} {l : List (List α)} {m : List (List β)} (h : All2 (All2 R) l m) :
    All2 R l.flatten m.flatten := by
  induction h with
  | nil => exact .nil
  | cons hab _ ih => exact All2.append hab ih

theorem All2.mono_tab {α β} {R : StrTab → α → β → Prop}
    (hmono : ∀ t t' a b, t <+: t' → R t a b → R t' a b) {t t' : StrTab} (h : t <+: t') {l : List α} {m : List β}
    (hr : All2 (R t) l m) : All2 (R t') l m :=
  All2.mono (fun a b => hmono t t' a b h) hr

theorem All2.map_eq {α β γ} {R : α → β → Prop} {p : α → γ} {q : β → γ} (h : ∀ a b, R a b → q b = p a) {l m}
    (hr : All2 R l m) : m.map q = l.map p := by
  induction hr with
  | nil => rfl
  | cons hab _ ih => rw [List.map_cons, List.map_cons, h _ _ hab, ih]

theorem All2.forall_right {α β} {R : α → β → Prop} {l m} (h : All2 R l m) : ∀ b ∈ m, ∃ a ∈ l, R a b := by
  induction h with
  | nil => intro b hb; cases hb
  | cons hab _ ih =>
    intro b hb
    rcases List.mem_cons.mp hb with rfl | hb
    · exact ⟨_, List.mem_cons_self, hab⟩
    · obtain ⟨a, ha, h⟩ := ih b hb
      exact ⟨a, List.mem_cons_of_mem _ ha, h⟩

theorem tab_mapM_nil {α β} (f : α → Tab β) (t : StrTab) : (([] : List α).mapM f) t = ([], t) := rfl

theorem tab_mapM_cons {α β} (f : α → Tab β) (a : α) (l : List α) (t : StrTab) :
    ((a :: l).mapM f) t = ((f a t).1 :: (l.mapM f (f a t).2).1, (l.mapM f (f a t).2).2) := by
  rw [List.mapM_cons]; rfl

/-- the shape shared by all interning steps: invariant kept, table extended, `R` established
in the resulting table -/
def StepOK {α} (t : StrTab) (r : α × StrTab) (R : StrTab → α → Prop) : Prop :=
  TabInv r.2 ∧ t <+: r.2 ∧ R r.2 r.1

theorem tab_mapM_spec {α β} (f : α → Tab β) (R : StrTab → α → β → Prop)
    (hmono : ∀ t t' a b, t <+: t' → R t a b → R t' a b)
    (hf : ∀ a t, TabInv t → StepOK t (f a t) (fun t' x => R t' a x)) (l : List α) (t : StrTab) (h : TabInv t) :
    StepOK t (l.mapM f t) (fun t' xs => All2 (R t') l xs) := by
  induction l generalizing t with
  | nil => exact ⟨h, List.prefix_refl _, .nil⟩
  | cons a l ih =>
    rw [tab_mapM_cons]
    obtain ⟨h1, h2, h3⟩ := hf a t h
    obtain ⟨i1, i2, i3⟩ := ih (f a t).2 h1
    exact ⟨i1, h2.trans i2, .cons (hmono _ _ _ _ i2 h3) i3⟩

theorem mapM_ok_of_All2 {α β γ} (post : β → Outcome γ) (g : α → γ) {l : List α} {xs : List β}
    (h : All2 (fun a x => post x = .ok (g a)) l xs) : xs.mapM post = .ok (l.map g) := by
  induction h with
  | nil => rfl
  | cons hab _ ih => rw [List.mapM_cons, hab, Outcome.bind_ok, ih]; rfl

theorem foldlM_ok_of_All2 {α β σ} (step : σ → β → Outcome σ) (pstep : σ → α → σ) {l : List α} {xs : List β}
    (acc : σ) (h : All2 (fun a x => ∀ acc, step acc x = .ok (pstep acc a)) l xs) :
    xs.foldlM step acc = .ok (l.foldl pstep acc) := by
  induction h generalizing acc with
  | nil => rfl
  | cons hab _ ih => rw [List.foldlM_cons, hab, Outcome.bind_ok, ih]; rfl

end Codec
end PV
