import PprofVerif.Lemmas.SymValid
/-!
Lemmas for C12: what the local and the remote step may change in the location and mapping
tables (frame condition, "mappings with symbols are left alone"), and that every line they write
refers to a function of the table.  Core Lean only.
-/
namespace PV.Sym
open PV

/-- pointwise relation between two lists of the same length. -/
inductive Rel₂ {α β : Type} (R : α → β → Prop) : List α → List β → Prop
  | nil : Rel₂ R [] []
  | cons {a b as bs} : R a b → Rel₂ R as bs → Rel₂ R (a :: as) (b :: bs)

namespace Rel₂
variable {α β γ : Type}

theorem refl {R : α → α → Prop} (h : ∀ a, R a a) : ∀ l, Rel₂ R l l
  | [] => .nil
  | a :: l => .cons (h a) (refl h l)

theorem mono_mem {R S : α → β → Prop} {as bs} (r : Rel₂ R as bs)
    (h : ∀ a b, a ∈ as → R a b → S a b) : Rel₂ S as bs := by
  induction r with
  | nil => exact .nil
  | cons hab _ ih =>
    exact .cons (h _ _ (List.mem_cons_self ..) hab) (ih fun a b ha => h a b (List.mem_cons_of_mem _ ha))

theorem mono {R S : α → β → Prop} (h : ∀ a b, R a b → S a b) {as bs} (r : Rel₂ R as bs) : Rel₂ S as bs :=
  r.mono_mem fun a b _ => h a b

theorem flip {R : α → β → Prop} {as bs} (r : Rel₂ R as bs) : Rel₂ (fun b a => R a b) bs as := by
  induction r with
  | nil => exact .nil
  | cons hab _ ih => exact .cons hab ih

theorem comp {R : α → β → Prop} {S : β → γ → Prop} {T : α → γ → Prop}
    (h : ∀ a b c, R a b → S b c → T a c) {as bs cs} (r : Rel₂ R as bs) (s : Rel₂ S bs cs) :
    Rel₂ T as cs := by
  induction r generalizing cs with
  | nil => cases s; exact .nil
  | cons hab _ ih => cases s with | cons hbc s' => exact .cons (h _ _ _ hab hbc) (ih s')

theorem map_eq {R : α → β → Prop} {f : α → γ} {g : β → γ} (h : ∀ a b, R a b → f a = g b)
    {as bs} (r : Rel₂ R as bs) : as.map f = bs.map g := by
  induction r with
  | nil => rfl
  | cons hab _ ih => simp only [List.map_cons, h _ _ hab, ih]

theorem get? {R : α → β → Prop} {as bs} (r : Rel₂ R as bs) (i : Nat) {a} (ha : as[i]? = some a) :
    ∃ b, bs[i]? = some b ∧ R a b := by
  induction r generalizing i with
  | nil => cases ha
  | cons hab _ ih =>
    cases i with
    | zero => exact ⟨_, rfl, Option.some.inj ha ▸ hab⟩
    | succ i => exact ih i ha

theorem get?_right {R : α → β → Prop} {as bs} (r : Rel₂ R as bs) (i : Nat) {b} (hb : bs[i]? = some b) :
    ∃ a, as[i]? = some a ∧ R a b :=
  r.flip.get? i hb

theorem get?_eq {R : α → α → Prop} {as bs} (r : Rel₂ R as bs) {i : Nat} {a} (ha : as[i]? = some a)
    (h : ∀ b, R a b → b = a) : bs[i]? = some a := by
  obtain ⟨b, hb, hab⟩ := r.get? i ha
  exact h b hab ▸ hb

theorem mem_right {R : α → β → Prop} {as bs} (r : Rel₂ R as bs) {b} (hb : b ∈ bs) :
    ∃ a ∈ as, R a b := by
  obtain ⟨i, hi⟩ := List.getElem?_of_mem hb
  obtain ⟨a, ha, hab⟩ := r.get?_right i hi
  exact ⟨a, List.mem_of_getElem? ha, hab⟩

end Rel₂

/-- what no step changes in a mapping; flags only ever go from false to true. -/
structure MapFrame (m m' : Mapping) : Prop where
  id : m'.id = m.id
  start : m'.start = m.start
  limit : m'.limit = m.limit
  offset : m'.offset = m.offset
  file : m'.file = m.file
  buildID : m'.buildID = m.buildID
  hasFunctions : m.hasFunctions = true → m'.hasFunctions = true
  hasFilenames : m.hasFilenames = true → m'.hasFilenames = true
  hasLineNumbers : m.hasLineNumbers = true → m'.hasLineNumbers = true
  hasInlineFrames : m.hasInlineFrames = true → m'.hasInlineFrames = true

theorem MapFrame.refl (m : Mapping) : MapFrame m m :=
  ⟨rfl, rfl, rfl, rfl, rfl, rfl, fun h => h, fun h => h, fun h => h, fun h => h⟩

theorem MapFrame.trans {a b c : Mapping} (h1 : MapFrame a b) (h2 : MapFrame b c) : MapFrame a c :=
  ⟨h2.id.trans h1.id, h2.start.trans h1.start, h2.limit.trans h1.limit, h2.offset.trans h1.offset,
   h2.file.trans h1.file, h2.buildID.trans h1.buildID, h2.hasFunctions ∘ h1.hasFunctions,
   h2.hasFilenames ∘ h1.hasFilenames, h2.hasLineNumbers ∘ h1.hasLineNumbers,
   h2.hasInlineFrames ∘ h1.hasInlineFrames⟩

/-- `touch m` = the step is allowed to work on `m`. -/
def MapRel (touch : Mapping → Prop) (m m' : Mapping) : Prop := MapFrame m m' ∧ (¬ touch m → m' = m)

theorem MapRel.refl (touch : Mapping → Prop) (m : Mapping) : MapRel touch m m := ⟨.refl m, fun _ => rfl⟩

theorem MapRel.weaken {t u : Mapping → Prop} (h : ∀ m, t m → u m) {m m'} (r : MapRel t m m') :
    MapRel u m m' := ⟨r.1, fun hn => r.2 fun ht => hn (h m ht)⟩

theorem MapRel.trans {t : Mapping → Prop} {a b c : Mapping} (r1 : MapRel t a b) (r2 : MapRel t b c) :
    MapRel t a c := by
  refine ⟨r1.1.trans r2.1, fun hn => ?_⟩
  have hb : b = a := r1.2 hn
  exact (r2.2 (hb ▸ hn)).trans hb

theorem mapRel_trans {t : Mapping → Prop} {as bs cs : List Mapping} (r1 : Rel₂ (MapRel t) as bs)
    (r2 : Rel₂ (MapRel t) bs cs) : Rel₂ (MapRel t) as cs :=
  Rel₂.comp (R := MapRel t) (S := MapRel t) (T := MapRel t) (fun _ _ _ => MapRel.trans) r1 r2

/-- `T` = the mapping ids a step may work on. -/
structure LocRel (T : Nat → Prop) (l l' : Location) : Prop where
  id : l'.id = l.id
  mappingID : l'.mappingID = l.mappingID
  address : l'.address = l.address
  unchanged : ¬ T l.mappingID → l' = l

theorem LocRel.refl (T : Nat → Prop) (l : Location) : LocRel T l l := ⟨rfl, rfl, rfl, fun _ => rfl⟩

theorem LocRel.mono {T U : Nat → Prop} (h : ∀ i, T i → U i) {l l'} (r : LocRel T l l') : LocRel U l l' :=
  ⟨r.id, r.mappingID, r.address, fun hn => r.unchanged fun ht => hn (h _ ht)⟩

theorem LocRel.comp {T U : Nat → Prop} {a b c : Location} (r1 : LocRel T a b) (r2 : LocRel U b c) :
    LocRel (fun i => T i ∨ U i) a c := by
  refine ⟨r2.id.trans r1.id, r2.mappingID.trans r1.mappingID, r2.address.trans r1.address, fun hn => ?_⟩
  have h1 : b = a := r1.unchanged fun h => hn (.inl h)
  exact (r2.unchanged fun h => hn (.inr (h1 ▸ h))).trans h1

theorem locRel_refl (T : Nat → Prop) (locs : List Location) : Rel₂ (LocRel T) locs locs :=
  Rel₂.refl (LocRel.refl T) locs

theorem locRel_mono {T U : Nat → Prop} (h : ∀ i, T i → U i) {ls ls'} (r : Rel₂ (LocRel T) ls ls') :
    Rel₂ (LocRel U) ls ls' := r.mono fun _ _ r => r.mono h

theorem locRel_comp {T U V : Nat → Prop} (h : ∀ i, T i ∨ U i → V i) {as bs cs}
    (r1 : Rel₂ (LocRel T) as bs) (r2 : Rel₂ (LocRel U) bs cs) : Rel₂ (LocRel V) as cs :=
  Rel₂.comp (fun _ _ _ a b => (a.comp b).mono h) r1 r2

/-- the local step works on `m` unless it already has symbols and force is off. -/
def touchL (force : Bool) (m : Mapping) : Prop :=
  ¬ (force = false ∧ (m.hasFunctions = true ∨ m.hasFilenames = true ∨ m.hasLineNumbers = true))
/-- the remote step works on `m` unless it already has function names and force is off. -/
def touchR (force : Bool) (m : Mapping) : Prop := ¬ (force = false ∧ m.hasFunctions = true)

theorem touchR_of_touchL {force} (m) (h : touchL force m) : touchR force m :=
  fun hr => h ⟨hr.1, Or.inl hr.2⟩

theorem touchL_of_not_skip {isSourceURL : Str → Bool} {force locs m}
    (h : ¬ localSkip isSourceURL force locs m = true) : touchL force m := by
  intro ⟨hf, hs⟩
  apply h
  have hs : (m.hasFunctions || m.hasFilenames || m.hasLineNumbers) = true := by
    rcases hs with hs | hs | hs <;> simp [hs]
  simp [localSkip, hf, hs]

theorem touchR_of_not_skip {force : Bool} {m : Mapping} (h : ¬ (!force && m.hasFunctions) = true) :
    touchR force m := fun hp => h (by rw [hp.1, hp.2]; rfl)

/-- the ids of the mappings of `ms` that a step may work on. -/
def Touched (touch : Mapping → Prop) (ms : List Mapping) (i : Nat) : Prop := ∃ m ∈ ms, m.id = i ∧ touch m

theorem Touched.cons {touch : Mapping → Prop} {m : Mapping} {ms : List Mapping} (i : Nat)
    (h : (i = m.id ∧ touch m) ∨ Touched touch ms i) : Touched touch (m :: ms) i := by
  rcases h with ⟨e, ht⟩ | ⟨m', hm', h⟩
  · exact ⟨m, List.mem_cons_self .., e.symm, ht⟩
  · exact ⟨m', List.mem_cons_of_mem _ hm', h⟩

theorem Touched.of_rel {touch : Mapping → Prop} {ms ms' : List Mapping}
    (r : Rel₂ (MapRel touch) ms ms') {i : Nat} (h : Touched touch ms' i) : Touched touch ms i := by
  obtain ⟨m', hm', e, ht⟩ := h
  obtain ⟨m, hm, rm⟩ := r.mem_right hm'
  refine ⟨m, hm, rm.1.id.symm.trans e, Classical.byContradiction fun hn => ?_⟩
  exact hn (rm.2 hn ▸ ht)

theorem lookup_some_mem {α β : Type} [BEq α] {l : List (α × β)} {k : α} {v : β}
    (h : l.lookup k = some v) : ∃ k', (k', v) ∈ l := by
  induction l with
  | nil => cases h
  | cons p rest ih =>
    simp only [List.lookup] at h
    split at h
    · exact ⟨p.1, Option.some.inj h ▸ List.mem_cons_self ..⟩
    · exact (ih h).imp fun _ hk => List.mem_cons_of_mem _ hk

/-- the ids remembered in the `functions` map of `doLocalSymbolize` are ids of the table. -/
def IntInv (st : LSt) : Prop := ∀ p ∈ st.intern, HasId st.tab.functions p.2

/-- … and so are the ids of all lines. -/
def LInv (st : LSt) (locs : List Location) : Prop := IntInv st ∧ LocsIn st.tab.functions locs

theorem alloc_hasId (t : FTab) (name file : Str) (sl : Int) :
    HasId (t.alloc name file sl).1.functions (t.alloc name file sl).2 :=
  ⟨_, List.mem_append_right _ (List.mem_singleton_self _), rfl⟩

theorem alloc_ext (t : FTab) (name file : Str) (sl : Int) :
    Ext t.functions (t.alloc name file sl).1.functions :=
  (tabInv_ext _).alloc name file sl (Ext.refl _)

theorem addFunction_hasId (st : LSt) (fr : Frame) (hi : IntInv st) :
    let r := addFunction st fr
    IntInv r.1 ∧ HasId r.1.tab.functions r.2 := by
  fun_cases addFunction st fr
  case case1 hl =>
    obtain ⟨k', hk⟩ := lookup_some_mem hl
    exact ⟨hi, hi _ hk⟩
  case case2 =>
    exact ⟨List.forall_mem_cons.mpr ⟨alloc_hasId .., fun p hp => (hi p hp).mono (alloc_ext ..)⟩,
      alloc_hasId ..⟩

theorem symFrames_ext (st : LSt) (m : Mapping) (frs : List Frame) :
    Ext st.tab.functions (symFrames st m frs).1.tab.functions :=
  symFrames_inv (tabInv_ext _) (Ext.refl _)

theorem symFrames_rel (st : LSt) (m : Mapping) (frs : List Frame) :
    let r := symFrames st m frs
    MapFrame m r.2.1 ∧ (IntInv st → IntInv r.1 ∧ ∀ ln ∈ r.2.2, HasId r.1.tab.functions ln.functionID) := by
  fun_induction symFrames st m frs
  case case1 => exact ⟨.refl _, fun hi => ⟨hi, fun _ h => nomatch h⟩⟩
  case case2 st m fr rest _ _ _ ih =>
    refine ⟨.trans ?_ ih.1, fun hi => ?_⟩
    · exact ⟨rfl, rfl, rfl, rfl, rfl, rfl, fun h => Bool.or_eq_true_iff.mpr (.inl h),
        fun h => Bool.or_eq_true_iff.mpr (.inl h), fun h => Bool.or_eq_true_iff.mpr (.inl h), id⟩
    · have h1 := addFunction_hasId st fr hi
      have h2 := ih.2 h1.1
      exact ⟨h2.1, List.forall_mem_cons.mpr ⟨h1.2.mono (symFrames_ext ..), h2.2⟩⟩

section
variable {σ : Type} (tool : ObjTool σ) (isSourceURL : Str → Bool) (force : Bool)

theorem symLocation_ext (s : σ) (st : LSt) (m : Mapping) (l : Location) :
    Ext st.tab.functions (symLocation tool s st m l).2.1.tab.functions :=
  symLocation_inv (tabInv_ext _) (Ext.refl _)

theorem symLocation_rel (s : σ) (st : LSt) (m : Mapping) (l : Location) :
    let r := symLocation tool s st m l
    MapFrame m r.2.2.1 ∧ LocRel (· = l.mappingID) l r.2.2.2 ∧
    (IntInv st → LinesIn st.tab.functions l → IntInv r.2.1 ∧ LinesIn r.2.1.tab.functions r.2.2.2) := by
  fun_cases symLocation tool s st m l
  case case1 fr frs _ _ =>
    have h := symFrames_rel st m (fr :: frs)
    refine ⟨h.1.trans ?_, ⟨rfl, rfl, rfl, fun hn => absurd rfl hn⟩, fun hi _ => h.2 hi⟩
    exact ⟨rfl, rfl, rfl, rfl, rfl, rfl, id, id, id, fun _ => rfl⟩
  case case2 => exact ⟨.refl m, .refl _ l, fun hi hl => ⟨hi, hl⟩⟩

theorem symLocs_ext (mid : Nat) (s : σ) (st : LSt) (m : Mapping)
    (locs : List Location) : Ext st.tab.functions (symLocs tool mid s st m locs).2.1.tab.functions :=
  symLocs_inv (tabInv_ext _) (Ext.refl _)

theorem symLocs_rel (mid : Nat) (s : σ) (st : LSt) (m : Mapping) (locs : List Location)
    {T : Nat → Prop} (hT : T mid) :
    let r := symLocs tool mid s st m locs
    MapFrame m r.2.2.1 ∧ Rel₂ (LocRel T) locs r.2.2.2 ∧ (LInv st locs → LInv r.2.1 r.2.2.2) := by
  fun_induction symLocs tool mid s st m locs
  case case1 => exact ⟨.refl _, .nil, id⟩
  case case2 s st m l rest hl _ _ ih =>
    have h1 := symLocation_rel tool s st m l
    refine ⟨h1.1.trans ih.1, .cons (h1.2.1.mono fun i hi => hi ▸ hl ▸ hT) ih.2.1, fun hinv => ?_⟩
    have hin := List.forall_mem_cons.mp hinv.2
    have h1' := h1.2.2 hinv.1 hin.1
    have h2' := ih.2.2 ⟨h1'.1, LocsIn.mono (symLocation_ext ..) hin.2⟩
    exact ⟨h2'.1, List.forall_mem_cons.mpr ⟨h1'.2.mono (symLocs_ext ..), h2'.2⟩⟩
  case case3 l _ _ _ ih =>
    refine ⟨ih.1, .cons (.refl _ l) ih.2.1, fun hinv => ?_⟩
    have hin := List.forall_mem_cons.mp hinv.2
    have h2' := ih.2.2 ⟨hinv.1, hin.2⟩
    exact ⟨h2'.1, List.forall_mem_cons.mpr ⟨hin.1.mono (symLocs_ext ..), h2'.2⟩⟩

theorem localMapping_rel (s : σ) (st : LSt) (locs : List Location) (m : Mapping) :
    let r := localMapping tool isSourceURL force s st locs m
    MapRel (touchL force) m r.2.2.2 ∧ Rel₂ (LocRel (fun i => i = m.id ∧ touchL force m)) locs r.2.2.1 ∧
    (LInv st locs → LInv r.2.1 r.2.2.1) := by
  fun_cases localMapping tool isSourceURL force s st locs m
  case case3 hskip s1 _ _ _ _ =>
    have ht := touchL_of_not_skip hskip
    have h := symLocs_rel tool m.id (tool.buildID s1).1 st m locs
      (T := fun i => i = m.id ∧ touchL force m) ⟨rfl, ht⟩
    exact ⟨⟨h.1, fun hn => absurd ht hn⟩, h.2⟩
  all_goals exact ⟨.refl _ m, locRel_refl _ locs, id⟩

theorem localLoop_rel (s : σ) (st : LSt) (locs : List Location) (ms : List Mapping) :
    let r := localLoop tool isSourceURL force s st locs ms
    Rel₂ (MapRel (touchL force)) ms r.2.2.2 ∧ Rel₂ (LocRel (Touched (touchL force) ms)) locs r.2.2.1 ∧
    (LInv st locs → LInv r.2.1 r.2.2.1) := by
  fun_induction localLoop tool isSourceURL force s st locs ms
  case case1 => exact ⟨.nil, locRel_refl _ _, id⟩
  case case2 s st locs m ms _ _ ih =>
    have h1 := localMapping_rel tool isSourceURL force s st locs m
    exact ⟨.cons h1.1 ih.1, locRel_comp Touched.cons h1.2.1 ih.2.1, ih.2.2 ∘ h1.2.2⟩

theorem doLocal_rel (s : σ) (tab : FTab) (locs : List Location) (ms : List Mapping) :
    let r := doLocal tool isSourceURL force s tab locs ms
    Rel₂ (MapRel (touchL force)) ms r.2.2.2 ∧ Rel₂ (LocRel (Touched (touchL force) ms)) locs r.2.2.1 ∧
    (LocsIn tab.functions locs → LocsIn r.2.1.functions r.2.2.1) := by
  have h := localLoop_rel tool isSourceURL force s ⟨tab.rescan, []⟩ locs ms
  exact ⟨h.1, h.2.1, fun hl => (h.2.2 ⟨fun _ hp => (nomatch hp), hl⟩).2⟩

end

/-- the ids in the two maps of one `symbolizeMapping` call are ids of the table. -/
def ZInv (st : ZSt) : Prop :=
  (∀ p ∈ st.names, HasId st.tab.functions p.2) ∧ (∀ p ∈ st.lineMap, HasId st.tab.functions p.2)

theorem internName_zinv (st : ZSt) (name : Str) (hi : ZInv st) :
    let r := internName st name
    ZInv r.1 ∧ HasId r.1.tab.functions r.2 := by
  fun_cases internName st name
  case case1 hl =>
    obtain ⟨k', hk⟩ := lookup_some_mem hl
    exact ⟨hi, hi.1 _ hk⟩
  case case2 =>
    have he := alloc_ext st.tab name [] 0
    exact ⟨⟨List.forall_mem_cons.mpr ⟨alloc_hasId .., fun p hp => (hi.1 p hp).mono he⟩,
      fun p hp => (hi.2 p hp).mono he⟩, alloc_hasId ..⟩

theorem symzLines_zinv (parseLine : Str → Option (Outcome Nat × Str)) (negOff : Int)
    (st : ZSt) (lines : List Str) (hi : ZInv st) : ZInv (symzLines parseLine negOff st lines).1 := by
  fun_induction symzLines parseLine negOff st lines
  case case2 ih => exact ih hi
  case case4 st _ _ _ name _ _ _ _ ih =>
    have h := internName_zinv st name hi
    exact ih ⟨h.1.1, List.forall_mem_cons.mpr ⟨h.2, h.1.2⟩⟩
  all_goals exact hi

theorem applyLine_rel (mid : Nat) (lm : List (Nat × Nat)) (l : Location) {T : Nat → Prop} (hT : T mid) :
    LocRel T l (applyLine mid lm l) ∧
    ∀ fs, (∀ p ∈ lm, HasId fs p.2) → LinesIn fs l → LinesIn fs (applyLine mid lm l) := by
  fun_cases applyLine mid lm l
  case case1 h _ hlk =>
    obtain ⟨k', hk⟩ := lookup_some_mem hlk
    refine ⟨⟨rfl, rfl, rfl, fun hn => absurd (h ▸ hT) hn⟩, fun fs hlm _ ln hln => ?_⟩
    rw [List.mem_singleton.mp hln]
    exact hlm _ hk
  all_goals exact ⟨.refl _ l, fun _ _ hl => hl⟩

theorem map_applyLine_rel (mid : Nat) (lm : List (Nat × Nat)) {T : Nat → Prop} (hT : T mid) :
    ∀ locs : List Location, Rel₂ (LocRel T) locs (locs.map (applyLine mid lm))
  | [] => .nil
  | l :: rest => .cons (applyLine_rel mid lm l hT).1 (map_applyLine_rel mid lm hT rest)

section
variable {τ : Type} (z : Symz τ)

theorem symbolizeMapping_rel (src : Str) (off : Int) (mid : Nat) (t : τ) (tab : FTab)
    (locs : List Location) {T : Nat → Prop} (hT : T mid) :
    let r := symbolizeMapping z src off mid t tab locs
    Rel₂ (LocRel T) locs r.2.2.1 ∧ (LocsIn tab.functions locs → LocsIn r.2.1.functions r.2.2.1) := by
  have he (body : Str) : Ext tab.functions (symzLines z.parseLine (negI64 off) ⟨tab.rescan, [], []⟩
      (splitLines body)).1.tab.functions := symzLines_inv (tabInv_ext _) (Ext.refl _)
  fun_cases symbolizeMapping z src off mid t tab locs
  case case3 body _ _ _ => exact ⟨locRel_refl _ locs, LocsIn.mono (he body)⟩
  case case4 body _ _ _ =>
    have hz := symzLines_zinv z.parseLine (negI64 off) ⟨tab.rescan, [], []⟩ (splitLines body)
      ⟨fun _ h => (nomatch h), fun _ h => (nomatch h)⟩
    refine ⟨map_applyLine_rel mid _ hT locs, fun hl l' hl' => ?_⟩
    obtain ⟨l, hl0, rfl⟩ := List.mem_map.mp hl'
    exact (applyLine_rel mid _ l hT).2 _ hz.2 ((hl l hl0).mono (he body))
  all_goals exact ⟨locRel_refl _ locs, id⟩

variable (force : Bool) (sources : Sources)

theorem remoteMapping_rel (t : τ) (tab : FTab) (locs : List Location) (m : Mapping) :
    let r := remoteMapping z force sources t tab locs m
    MapRel (touchR force) m r.2.2.2.1 ∧ Rel₂ (LocRel (fun i => i = m.id ∧ touchR force m)) locs r.2.2.1 ∧
    (LocsIn tab.functions locs → LocsIn r.2.1.functions r.2.2.1) := by
  have key (src : Source) (ht : touchR force m) :=
    symbolizeMapping_rel z (z.symbolzURL src.source) (srcOffset src.start m.start) m.id t tab locs
      (T := fun i => i = m.id ∧ touchR force m) ⟨rfl, ht⟩
  fun_cases remoteMapping z force sources t tab locs m
  case case3 hskip _ src _ _ _ => exact ⟨.refl _ m, key src (touchR_of_not_skip hskip)⟩
  case case4 hskip _ src _ _ _ =>
    have ht := touchR_of_not_skip hskip
    exact ⟨⟨⟨rfl, rfl, rfl, rfl, rfl, rfl, fun _ => rfl, id, id, id⟩, fun hn => absurd ht hn⟩, key src ht⟩
  all_goals exact ⟨.refl _ m, locRel_refl _ locs, id⟩

theorem remoteLoop_rel (t : τ) (tab : FTab) (locs : List Location) (ms : List Mapping) :
    let r := remoteLoop z force sources t tab locs ms
    Rel₂ (MapRel (touchR force)) ms r.2.2.2.1 ∧ Rel₂ (LocRel (Touched (touchR force) ms)) locs r.2.2.1 ∧
    (LocsIn tab.functions locs → LocsIn r.2.1.functions r.2.2.1) := by
  fun_induction remoteLoop z force sources t tab locs ms
  case case1 => exact ⟨.nil, locRel_refl _ _, id⟩
  case case2 t tab locs m ms _ _ =>
    have h1 := remoteMapping_rel z force sources t tab locs m
    exact ⟨.cons h1.1 (Rel₂.refl (MapRel.refl _) ms),
      locRel_mono (fun i hi => Touched.cons i (.inl hi)) h1.2.1, h1.2.2⟩
  case case3 t tab locs m ms _ _ _ ih =>
    have h1 := remoteMapping_rel z force sources t tab locs m
    exact ⟨.cons h1.1 ih.1, locRel_comp Touched.cons h1.2.1 ih.2.1, ih.2.2 ∘ h1.2.2⟩

end

section
variable {σ τ : Type} (env : Env σ τ) (o : Opts) (sources : Sources) (p : Profile) (s : σ) (t : τ)

/-- `l` is the `let` of `symbolizeTables` that holds the local step, if it is taken at all. -/
theorem localPhase_rel (tab0 : FTab) :
    let l := if o.locl then doLocal env.tool env.isSourceURL o.force s tab0 p.locations p.mappings
             else (s, tab0, p.locations, p.mappings)
    Rel₂ (MapRel (touchL o.force)) p.mappings l.2.2.2 ∧
    Rel₂ (LocRel (Touched (touchL o.force) p.mappings)) p.locations l.2.2.1 ∧
    (LocsIn tab0.functions p.locations → LocsIn l.2.1.functions l.2.2.1) := by
  dsimp only
  split
  · exact doLocal_rel ..
  · exact ⟨Rel₂.refl (MapRel.refl _) _, locRel_refl _ _, id⟩

theorem symbolizeTables_rel_local (hr : o.remote = false) :
    let r := symbolizeTables env o sources p s t
    Rel₂ (MapRel (touchL o.force)) p.mappings r.2.2.2.1 ∧
    Rel₂ (LocRel (Touched (touchL o.force) p.mappings)) p.locations r.2.2.1 := by
  unfold symbolizeTables
  simp only [hr, Bool.false_eq_true, if_false]
  exact ⟨(localPhase_rel ..).1, (localPhase_rel ..).2.1⟩

theorem symbolizeTables_rel :
    let r := symbolizeTables env o sources p s t
    Rel₂ (MapRel (touchR o.force)) p.mappings r.2.2.2.1 ∧
    Rel₂ (LocRel (Touched (touchR o.force) p.mappings)) p.locations r.2.2.1 ∧
    (LocsIn p.functions p.locations → LocsIn r.2.1.functions r.2.2.1) := by
  dsimp only
  unfold symbolizeTables
  extract_lets tab0 l
  have hl := localPhase_rel env o p s tab0
  -- for the remote step: the local rule protects more than the remote one
  have hm : Rel₂ (MapRel (touchR o.force)) p.mappings l.2.2.2 :=
    hl.1.mono fun _ _ r => r.weaken touchR_of_touchL
  have hloc : Rel₂ (LocRel (Touched (touchR o.force) p.mappings)) p.locations l.2.2.1 :=
    locRel_mono (fun i => Exists.imp fun m h => ⟨h.1, h.2.1, touchR_of_touchL m h.2.2⟩) hl.2.1
  split
  · have h2 := remoteLoop_rel env.symz o.force sources t l.2.1 l.2.2.1 l.2.2.2
    exact ⟨mapRel_trans hm h2.1, locRel_comp (fun i hi => hi.elim id (Touched.of_rel hm)) hloc h2.2.1,
      h2.2.2 ∘ hl.2.2⟩
  · exact ⟨hm, hloc, hl.2.2⟩

end

end PV.Sym
