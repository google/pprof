import PprofVerif.Lemmas.Intern
import PprofVerif.Lemmas.ListFacts
/-!
Label flattening and regrouping (property C01).  `preEncode` flattens the three label maps of a sample
into one list of wire labels; `postDecode` regroups them into maps (association lists in the model:
`alSet`, `sortKeys`) with lazy unit padding (`padStringArray`).  A wire label denotes a semantic label
(`Denotes`), on which `postLabel` is the pure step `semStep`; folding `semStep` key by key carries the
padding invariant "units so far = processed units with trailing empties removed" (`foldl_num_key`), and
the regrouped sample is `Sample.normalize` of the original (`postSample_of_semLabels`).
-/
namespace PV
namespace Codec

inductive SemLabel where
  | str (k v : Str)
  | num (k : Str) (v : Int) (u : Str)

/-- what `postLabel` does, on resolved strings (no table) -/
def semStep (acc : LabelAcc) : SemLabel → LabelAcc
  | .str k v =>
    if v = [] then acc
    else { acc with labels := alSet acc.labels k ((acc.labels.lookup k).getD [] ++ [v]) }
  | .num k v u =>
    if v = 0 ∧ u = [] then acc
    else
      let numValues := (acc.numLabels.lookup k).getD []
      let units := (acc.numUnits.lookup k).getD []
      { labels := acc.labels
        numLabels := alSet acc.numLabels k (numValues ++ [v])
        numUnits := if u = [] then acc.numUnits
                    else alSet acc.numUnits k (padStringArray units numValues.length ++ [u]) }

/-- the wire label `l` denotes the semantic label `sl` in table `tab` -/
def Denotes (tab : StrTab) (l : LabelX) : SemLabel → Prop
  | .str k v => Res tab l.keyX k ∧ Res tab l.strX v ∧ l.numX = 0 ∧ l.unitX = 0
  | .num k v u => Res tab l.keyX k ∧ l.strX = 0 ∧ l.numX = v ∧ Res tab l.unitX u

theorem Denotes.mono {t t' : StrTab} {l : LabelX} {sl : SemLabel} (h : t <+: t') (hd : Denotes t l sl) :
    Denotes t' l sl := by
  cases sl with
  | str k v => exact ⟨hd.1.mono h, hd.2.1.mono h, hd.2.2⟩
  | num k v u => exact ⟨hd.1.mono h, hd.2.1, hd.2.2.1, hd.2.2.2.mono h⟩

theorem postLabel_of_Denotes {tab : StrTab} (hinv : TabInv tab) {l : LabelX} {sl : SemLabel}
    (hd : Denotes tab l sl) (acc : LabelAcc) : postLabel tab acc l = .ok (semStep acc sl) := by
  cases sl with
  | str k v =>
    obtain ⟨hk, hv, hn, hu⟩ := hd
    unfold postLabel
    rw [getString_of_Res hk, Outcome.bind_ok]
    have hz := Res.zero_iff hinv hv
    by_cases hv0 : v = []
    · have : l.strX = 0 := hz.mpr hv0
      simp [this, hn, hu, semStep, hv0]
    · have : l.strX ≠ 0 := fun h => hv0 (hz.mp h)
      simp only [this, ne_eq, not_false_eq_true, if_true, semStep, hv0, if_false]
      rw [getString_of_Res hv, Outcome.bind_ok]; rfl
  | num k v u =>
    obtain ⟨hk, hs, hn, hu⟩ := hd
    unfold postLabel
    rw [getString_of_Res hk, Outcome.bind_ok]
    have hz := Res.zero_iff hinv hu
    by_cases hu0 : u = []
    · have hux : l.unitX = 0 := hz.mpr hu0
      by_cases hv0 : v = 0
      · simp [hs, hn, hux, semStep, hu0, hv0]
      · simp [hs, hn, hux, semStep, hu0, hv0]
    · have hux : l.unitX ≠ 0 := fun h => hu0 (hz.mp h)
      simp only [hs, ne_eq, not_true_eq_false, if_false, hux, not_false_eq_true, or_true, if_true, semStep,
        hu0, and_false]
      rw [getString_of_Res hu, Outcome.bind_ok]
      simp [hn]

/-- the entry of key `k` in a Go map of slices: absent while the slice is empty -/
def optKV {β} (k : Str) : List β → List (Str × List β)
  | [] => []
  | c@(_ :: _) => [(k, c)]

theorem optKV_of_ne_nil {β} (k : Str) {c : List β} (h : c ≠ []) : optKV k c = [(k, c)] := by
  cases c with
  | nil => exact absurd rfl h
  | cons a r => rfl

theorem mem_keys {β} {L : List (Str × β)} {e : Str × β} (h : e ∈ L) : e.1 ∈ keys L :=
  List.mem_map.mpr ⟨e, h, rfl⟩

theorem not_any_of_not_mem_keys {β} {L : List (Str × β)} {k : Str} (h : k ∉ keys L) :
    L.any (·.1 == k) = false := by
  rw [List.any_eq_false]
  intro x hx hxk
  exact h (beq_iff_eq.mp hxk ▸ mem_keys hx)

theorem lookup_of_not_mem_keys {β} {L : List (Str × β)} {k : Str} (h : k ∉ keys L) : L.lookup k = none :=
  lookup_none_of_not_any (not_any_of_not_mem_keys h)

theorem lookup_snoc {β} {L : List (Str × List β)} {k : Str} (h : k ∉ keys L) (c : List β) :
    ((L ++ optKV k c).lookup k).getD [] = c := by
  rw [List.lookup_append, lookup_of_not_mem_keys h]
  cases c <;> simp [optKV]

theorem map_set_of_not_mem_keys {β} {L : List (Str × β)} {k : Str} (h : k ∉ keys L) (v : β) :
    L.map (fun e => if e.1 == k then (k, v) else e) = L :=
  ListFacts.map_eq_self fun e he => if_neg fun hc => h ((beq_iff_eq.mp hc : e.1 = k) ▸ mem_keys he)

theorem alSet_snoc {β} {L : List (Str × List β)} {k : Str} (h : k ∉ keys L) (c : List β) {new : List β}
    (hnew : new ≠ []) : alSet (L ++ optKV k c) k new = L ++ optKV k new := by
  rw [optKV_of_ne_nil k hnew]
  cases c with
  | nil =>
    simp only [optKV, List.append_nil]
    unfold alSet
    simp [not_any_of_not_mem_keys h]
  | cons a r =>
    simp only [optKV]
    unfold alSet
    have : (L ++ [(k, a :: r)]).any (·.1 == k) = true := by simp
    simp only [this, if_true, List.map_append, map_set_of_not_mem_keys h]
    simp

theorem keys_snoc_subset {β} (L : List (Str × List β)) (k : Str) (c : List β) :
    ∀ x ∈ keys (L ++ optKV k c), x ∈ keys L ∨ x = k := by
  intro x hx
  simp only [keys, List.map_append, List.mem_append] at hx
  rcases hx with hx | hx
  · exact Or.inl hx
  · cases c with
    | nil => simp [optKV] at hx
    | cons a r => simp [optKV] at hx; exact Or.inr hx

def dropTrailingEmpty (us : List Str) : List Str := (us.reverse.dropWhile (· == [])).reverse

theorem dropTrailingEmpty_snoc (us : List Str) (u : Str) :
    dropTrailingEmpty (us ++ [u]) = if u = [] then dropTrailingEmpty us else us ++ [u] := by
  unfold dropTrailingEmpty
  rw [List.reverse_append, List.reverse_singleton, List.singleton_append, List.dropWhile_cons]
  by_cases h : u = [] <;> simp [h]

theorem dropTrailingEmpty_spec (us : List Str) : ∃ k, dropTrailingEmpty us ++ List.replicate k [] = us := by
  induction us using ListFacts.concat_induction with
  | nil => exact ⟨0, rfl⟩
  | concat us u ih =>
    rw [dropTrailingEmpty_snoc]
    split
    · next hu =>
      obtain ⟨k, hk⟩ := ih
      exact ⟨k + 1, by rw [List.replicate_succ', ← List.append_assoc, hk, hu]⟩
    · exact ⟨0, List.append_nil _⟩

theorem pad_dropTrailingEmpty (us : List Str) : padStringArray (dropTrailingEmpty us) us.length = us := by
  obtain ⟨k, hk⟩ := dropTrailingEmpty_spec us
  have hl := congrArg List.length hk
  rw [List.length_append, List.length_replicate] at hl
  unfold padStringArray
  rw [← hl, Nat.add_sub_cancel_left]
  split
  · next h => rw [Nat.le_zero.mp (Nat.le_of_add_le_add_left (h : _ ≤ _ + 0))] at hk; simpa using hk
  · exact hk

theorem dropTrailingEmpty_eq_nil_iff (us : List Str) : dropTrailingEmpty us = [] ↔ ∀ u ∈ us, u = [] := by
  constructor
  · intro h u hu
    obtain ⟨k, hk⟩ := dropTrailingEmpty_spec us
    rw [h, List.nil_append] at hk
    rw [← hk] at hu
    exact (List.mem_replicate.mp hu).2
  · induction us using ListFacts.concat_induction with
    | nil => intro _; rfl
    | concat us u ih =>
      intro h
      rw [dropTrailingEmpty_snoc, if_pos (h u (by simp))]
      exact ih fun v hv => h v (List.mem_append_left _ hv)

theorem nodup_keys_step {β γ} {L : List (Str × List β)} {e : Str × γ} {l : List (Str × γ)} (c : List β)
    (h : (keys L ++ keys (e :: l)).Nodup) :
    e.1 ∉ keys L ∧ (keys (L ++ optKV e.1 c) ++ keys l).Nodup := by
  have h' : (keys L ++ e.1 :: keys l).Nodup := h
  refine ⟨fun hin => (List.nodup_append.mp h').2.2 _ hin _ List.mem_cons_self rfl, h'.sublist ?_⟩
  -- the entry of `e.1` is present or not: either way a sublist of `[e.1]`
  have hs : (keys (optKV e.1 c)).Sublist [e.1] := by cases c <;> simp [keys, optKV]
  rw [keys, List.map_append, List.append_assoc]
  exact (List.Sublist.refl _).append (hs.append (List.Sublist.refl _))

theorem semStep_str {k : Str} {L : List (Str × List Str)} (hk : k ∉ keys L)
    (NL : List (Str × List Int)) (NU : List (Str × List Str)) (cur : List Str) (v : Str) :
    semStep ⟨L ++ optKV k cur, NL, NU⟩ (.str k v) = ⟨L ++ optKV k (cur ++ [v].filter (· ≠ [])), NL, NU⟩ := by
  by_cases hv : v = []
  · simp [semStep, hv]
  · simp only [semStep, hv, if_false]
    rw [lookup_snoc hk, alSet_snoc hk cur (by simp)]
    simp [hv]

theorem foldl_str_key (k : Str) (L : List (Str × List Str)) (hk : k ∉ keys L)
    (NL : List (Str × List Int)) (NU : List (Str × List Str)) : ∀ (vs cur : List Str),
    (vs.map (SemLabel.str k)).foldl semStep ⟨L ++ optKV k cur, NL, NU⟩ =
      ⟨L ++ optKV k (cur ++ vs.filter (· ≠ [])), NL, NU⟩ := by
  intro vs
  induction vs with
  | nil => intro cur; rw [List.filter_nil, List.append_nil]; rfl
  | cons v vs ih =>
    intro cur
    rw [List.map_cons, List.foldl_cons, semStep_str hk, ih, List.append_assoc, ← List.filter_append]; rfl

theorem foldl_str_all (NL : List (Str × List Int)) (NU : List (Str × List Str)) :
    ∀ (l : List (Str × List Str)) (L : List (Str × List Str)), (keys L ++ keys l).Nodup →
    (l.flatMap (fun e => e.2.map (SemLabel.str e.1))).foldl semStep ⟨L, NL, NU⟩ =
      ⟨L ++ l.flatMap (fun e => optKV e.1 (e.2.filter (· ≠ []))), NL, NU⟩ := by
  intro l
  induction l with
  | nil => intro L _; simp only [List.flatMap_nil, List.append_nil, List.foldl_nil]
  | cons e l ih =>
    intro L h
    obtain ⟨hk, hnd⟩ := nodup_keys_step (e.2.filter (· ≠ [])) h
    have hkey := foldl_str_key e.1 L hk NL NU e.2 []
    rw [show optKV e.1 ([] : List Str) = [] from rfl, List.append_nil, List.nil_append] at hkey
    rw [List.flatMap_cons, List.foldl_append, hkey, ih _ hnd, List.flatMap_cons, List.append_assoc]

/-- the pairs `(value, unit)` that survive on the wire: a zero value with an empty unit is
indistinguishable from an absent label -/
def keepPair (vu : Int × Str) : Bool := decide (vu.1 ≠ 0 ∨ vu.2 ≠ [])

theorem semStep_num {k : Str} {NL : List (Str × List Int)} {NU : List (Str × List Str)} (hk1 : k ∉ keys NL)
    (hk2 : k ∉ keys NU) (Lb : List (Str × List Str)) (done : List (Int × Str)) (p : Int × Str) :
    semStep ⟨Lb, NL ++ optKV k (done.map (·.1)), NU ++ optKV k (dropTrailingEmpty (done.map (·.2)))⟩
        (.num k p.1 p.2) =
      ⟨Lb, NL ++ optKV k ((done ++ [p].filter keepPair).map (·.1)),
        NU ++ optKV k (dropTrailingEmpty ((done ++ [p].filter keepPair).map (·.2)))⟩ := by
  obtain ⟨v, u⟩ := p
  by_cases hz : v = 0 ∧ u = []
  · simp [semStep, keepPair, hz.1, hz.2]
  · have hkp : keepPair (v, u) = true := by
      simp only [keepPair, decide_eq_true_eq]
      exact Classical.or_iff_not_imp_left.mpr fun hv hu => hz ⟨Classical.not_not.mp hv, hu⟩
    simp only [semStep, hz, if_false, List.filter_cons, hkp, if_true, List.filter_nil, List.map_append,
      List.map_cons, List.map_nil, dropTrailingEmpty_snoc]
    rw [lookup_snoc hk1, lookup_snoc hk2, alSet_snoc hk1 _ (by simp)]
    by_cases hu : u = []
    · simp only [hu, if_true]
    · simp only [hu, if_false]
      rw [alSet_snoc hk2 _ (by simp), List.length_map, ← List.length_map (f := (·.2)), pad_dropTrailingEmpty]

/-- The padding invariant: after the kept pairs `done`, the units of `k` are `done.map snd` with the
trailing empty units removed (Go pads lazily, only when a non-empty unit arrives). -/
theorem foldl_num_key (k : Str) (Lb : List (Str × List Str)) (NL : List (Str × List Int))
    (NU : List (Str × List Str)) (hk1 : k ∉ keys NL) (hk2 : k ∉ keys NU) :
    ∀ (ps done : List (Int × Str)),
    (ps.map (fun p => SemLabel.num k p.1 p.2)).foldl semStep
        ⟨Lb, NL ++ optKV k (done.map (·.1)), NU ++ optKV k (dropTrailingEmpty (done.map (·.2)))⟩ =
      ⟨Lb, NL ++ optKV k ((done ++ ps.filter keepPair).map (·.1)),
        NU ++ optKV k (dropTrailingEmpty ((done ++ ps.filter keepPair).map (·.2)))⟩ := by
  intro ps
  induction ps with
  | nil => intro done; rw [List.filter_nil, List.append_nil]; rfl
  | cons p ps ih =>
    intro done
    rw [List.map_cons, List.foldl_cons, semStep_num hk1 hk2, ih, List.append_assoc, ← List.filter_append]; rfl

theorem foldl_num_all (Lb : List (Str × List Str)) :
    ∀ (l : List (Str × List (Int × Str))) (NL : List (Str × List Int)) (NU : List (Str × List Str)),
    (keys NL ++ keys l).Nodup → (keys NU ++ keys l).Nodup →
    (l.flatMap (fun e => e.2.map (fun p => SemLabel.num e.1 p.1 p.2))).foldl semStep ⟨Lb, NL, NU⟩ =
      ⟨Lb, NL ++ l.flatMap (fun e => optKV e.1 ((e.2.filter keepPair).map (·.1))),
        NU ++ l.flatMap (fun e => optKV e.1 (dropTrailingEmpty ((e.2.filter keepPair).map (·.2))))⟩ := by
  intro l
  induction l with
  | nil => intro NL NU _ _; simp only [List.flatMap_nil, List.append_nil, List.foldl_nil]
  | cons e l ih =>
    intro NL NU h1 h2
    obtain ⟨hk1, hnd1⟩ := nodup_keys_step ((e.2.filter keepPair).map (·.1)) h1
    obtain ⟨hk2, hnd2⟩ := nodup_keys_step (dropTrailingEmpty ((e.2.filter keepPair).map (·.2))) h2
    have hkey := foldl_num_key e.1 Lb NL NU hk1 hk2 e.2 []
    rw [List.map_nil, List.map_nil, show dropTrailingEmpty [] = [] from rfl, show optKV e.1 ([] : List Int) = [] from rfl,
      show optKV e.1 ([] : List Str) = [] from rfl, List.append_nil, List.append_nil, List.nil_append] at hkey
    rw [List.flatMap_cons, List.foldl_append, hkey, ih _ _ hnd1 hnd2, List.flatMap_cons, List.flatMap_cons,
      List.append_assoc, List.append_assoc]

theorem pairwise_of_keysSorted {β} : ∀ (l : List (Str × β)), keysSorted l = true → l.Pairwise LtK
  | [], _ => List.Pairwise.nil
  | [_], _ => by simp
  | a :: b :: r, h => by
    simp only [keysSorted, Bool.and_eq_true] at h
    have ih := pairwise_of_keysSorted (b :: r) h.2
    rw [List.pairwise_cons]
    refine ⟨?_, ih⟩
    intro x hx
    rcases List.mem_cons.mp hx with rfl | hx
    · exact h.1
    · exact Str.lt_trans h.1 ((List.pairwise_cons.mp ih).1 x hx)

theorem nodup_keys_of_pairwise {β} {l : List (Str × β)} (h : l.Pairwise LtK) : (keys l).Nodup := by
  unfold keys
  rw [List.Nodup, List.pairwise_map]
  refine h.imp ?_
  intro a b hab heq
  unfold LtK at hab
  rw [heq, Str.lt_irrefl] at hab
  cases hab

theorem sortKeys_eq_self {β} {l : List (Str × β)} (h : l.Pairwise LtK) : sortKeys l = l := by
  induction l with
  | nil => rfl
  | cons a l ih =>
    rw [List.pairwise_cons] at h
    rw [sortKeys, List.foldr_cons, ← sortKeys, ih h.2]
    cases l with
    | nil => rfl
    | cons x r => exact if_pos (h.1 x List.mem_cons_self)

theorem pairwise_flatMap_keyed {α β} (key : α → Str) (h : α → List (Str × β))
    (hkey : ∀ e x, x ∈ h e → x.1 = key e) (hone : ∀ e, (h e).Pairwise LtK) (l : List α)
    (hp : l.Pairwise (fun a b => Str.lt (key a) (key b) = true)) : (l.flatMap h).Pairwise LtK := by
  induction l with
  | nil => exact List.Pairwise.nil
  | cons e l ih =>
    rw [List.pairwise_cons] at hp
    rw [List.flatMap_cons, List.pairwise_append]
    refine ⟨hone e, ih hp.2, fun x hx y hy => ?_⟩
    obtain ⟨e', he', hy'⟩ := List.mem_flatMap.mp hy
    show Str.lt x.1 y.1 = true
    rw [hkey e x hx, hkey e' y hy']
    exact hp.1 e' he'

theorem mem_optKV {β} {k : Str} {c : List β} {x : Str × List β} (h : x ∈ optKV k c) : x = (k, c) ∧ c ≠ [] := by
  cases c with
  | nil => simp [optKV] at h
  | cons a r => simp [optKV] at h; exact ⟨h, by simp⟩

theorem pairwise_optKV {β} (k : Str) (c : List β) : (optKV k c).Pairwise LtK := by
  cases c <;> simp [optKV]

theorem pairwise_flatMap_optKV {γ β} {f : Str × γ → List β} {l : List (Str × γ)} (h : l.Pairwise LtK) :
    (l.flatMap (fun e => optKV e.1 (f e))).Pairwise LtK :=
  pairwise_flatMap_keyed (α := Str × γ) (fun e => e.1) (fun e => optKV e.1 (f e))
    (fun _ _ hx => by rw [(mem_optKV hx).1]) (fun _ => pairwise_optKV _ _) l h

theorem lookup_flatMap_cond {γ β} (c : Str × γ → Bool) (f : Str × γ → β) :
    ∀ (l : List (Str × γ)), (keys l).Nodup → ∀ e ∈ l,
      (l.flatMap (fun e => if c e then [(e.1, f e)] else [])).lookup e.1 = if c e then some (f e) else none := by
  intro l
  induction l with
  | nil => intro _ e he; cases he
  | cons a r ih =>
    intro hnd e he
    obtain ⟨hna, hr⟩ : a.1 ∉ keys r ∧ (keys r).Nodup := List.nodup_cons.mp hnd
    rw [List.flatMap_cons, List.lookup_append]
    rcases List.mem_cons.mp he with rfl | her
    · have : (r.flatMap (fun e => if c e then [(e.1, f e)] else [])).lookup e.1 = none := by
        rw [List.lookup_eq_none_iff]
        intro p hp
        obtain ⟨e', he', hp'⟩ := List.mem_flatMap.mp hp
        split at hp'
        · cases List.mem_singleton.mp hp'
          exact bne_iff_ne.mpr fun heq => hna (by rw [heq]; exact mem_keys he')
        · cases hp'
      rw [this, Option.or_none]
      cases c e with
      | false => rfl
      | true => exact List.lookup_cons_self
    · have hne : (e.1 == a.1) = false :=
        beq_eq_false_iff_ne.mpr fun heq => hna (by rw [← heq]; exact mem_keys her)
      have : (if c a = true then [(a.1, f a)] else []).lookup e.1 = none := by
        cases c a with
        | false => rfl
        | true => rw [if_pos rfl, List.lookup_cons, hne]; rfl
      rw [this, Option.none_or]
      exact ih hr e her

theorem optKV_eq_ite {β} (k : Str) (c : List β) : optKV k c = if c ≠ [] then [(k, c)] else [] := by
  cases c <;> rfl

theorem lookup_flatMap_optKV {γ β} (f : Str × γ → List β) (l : List (Str × γ)) (hnd : (keys l).Nodup)
    (e : Str × γ) (he : e ∈ l) (hne : f e ≠ []) :
    (l.flatMap (fun e => optKV e.1 (f e))).lookup e.1 = some (f e) := by
  have := lookup_flatMap_cond (fun e => decide (f e ≠ [])) f l hnd e he
  simp only [decide_eq_true_eq, hne, ne_eq, not_false_eq_true, if_true] at this
  rw [← this]
  congr 2; funext e; exact optKV_eq_ite _ _

theorem filter_map_eq_flatMap_optKV {γ β} (f : Str × γ → List β) {g : Str × γ → Str × List β}
    (hg : ∀ e, g e = (e.1, f e)) {p : Str × List β → Bool} (hp : ∀ e, p e = decide (e.2 ≠ [])) (l : List (Str × γ)) :
    (l.map g).filter p = l.flatMap (fun e => optKV e.1 (f e)) := by
  rw [List.map_eq_flatMap, List.filter_flatMap]
  refine ListFacts.flatMap_congr_mem fun e _ => ?_
  rw [List.filter_cons, List.filter_nil, hp, hg]
  cases f e <;> rfl

theorem map_flatMap_optKV {γ β β'} (f : Str × γ → List β) (h : β → β') {g : Str × List β → Str × List β'}
    (hg : ∀ e, g e = (e.1, e.2.map h)) (l : List (Str × γ)) :
    (l.flatMap (fun e => optKV e.1 (f e))).map g = l.flatMap (fun e => optKV e.1 ((f e).map h)) := by
  rw [List.map_flatMap]
  refine ListFacts.flatMap_congr_mem fun e _ => ?_
  cases f e with
  | nil => rfl
  | cons a r => rw [optKV, List.map_cons, hg]; rfl

theorem any_ne_nil_iff (us : List Str) : us.any (· ≠ []) = true ↔ dropTrailingEmpty us ≠ [] := by
  rw [Ne, dropTrailingEmpty_eq_nil_iff]
  simp

theorem filter_any_flatMap_optKV {γ} (U : Str × γ → List Str) {p : Str × List Str → Bool}
    (hp : ∀ e, p e = e.2.any (· ≠ [])) (l : List (Str × γ)) :
    (l.flatMap (fun e => optKV e.1 (U e))).filter p =
      l.flatMap (fun e => if (U e).any (· ≠ []) then [(e.1, U e)] else []) := by
  rw [List.filter_flatMap]
  refine ListFacts.flatMap_congr_mem fun e _ => ?_
  cases U e with
  | nil => rfl
  | cons a r => rw [optKV, List.filter_cons, hp]; rfl

/-- the unit list `preEncode` pairs with the values of one NumLabel entry (no units = all empty) -/
def unitsFor (nu : List (Str × List Str)) (e : Str × List Int) : List Str :=
  if ((nu.lookup e.1).getD []).isEmpty then List.replicate e.2.length [] else (nu.lookup e.1).getD []

def numPairs (s : Sample) : List (Str × List (Int × Str)) :=
  s.numLabel.map (fun e => (e.1, e.2.zip (unitsFor s.numUnit e)))

/-- the labels of a sample in the order `preEncode` flattens them -/
def semLabels (s : Sample) : List SemLabel :=
  s.label.flatMap (fun e => e.2.map (SemLabel.str e.1)) ++
  (numPairs s).flatMap (fun e => e.2.map (fun p => SemLabel.num e.1 p.1 p.2))

def normLabel (l : List (Str × List Str)) : List (Str × List Str) :=
  l.flatMap (fun e => optKV e.1 (e.2.filter (· ≠ [])))
def normNum (l : List (Str × List (Int × Str))) : List (Str × List Int) :=
  l.flatMap (fun e => optKV e.1 ((e.2.filter keepPair).map (·.1)))
def normUnitTrim (l : List (Str × List (Int × Str))) : List (Str × List Str) :=
  l.flatMap (fun e => optKV e.1 (dropTrailingEmpty ((e.2.filter keepPair).map (·.2))))
def normUnit (l : List (Str × List (Int × Str))) : List (Str × List Str) :=
  l.flatMap (fun e => if ((e.2.filter keepPair).map (·.2)).any (· ≠ []) then [(e.1, (e.2.filter keepPair).map (·.2))] else [])

theorem keys_numPairs (s : Sample) : keys (numPairs s) = keys s.numLabel := by
  simp [keys, numPairs, List.map_map, Function.comp_def]

theorem normalize_eq (s : Sample) : Sample.normalize s =
    ⟨s.locationIDs, s.values, normLabel s.label, normNum (numPairs s), normUnit (numPairs s)⟩ := by
  have hkv : _ = (numPairs s).flatMap (fun e => optKV e.1 (e.2.filter keepPair)) :=
    (filter_map_eq_flatMap_optKV (fun e => (e.2.zip (unitsFor s.numUnit e)).filter keepPair)
      (fun _ => rfl) (fun _ => rfl) s.numLabel).trans
      (List.flatMap_map (fun e => (e.1, e.2.zip (unitsFor s.numUnit e)))
        (fun e => optKV e.1 (e.2.filter keepPair)) s.numLabel).symm
  unfold Sample.normalize
  simp only
  congr 1
  · exact filter_map_eq_flatMap_optKV (fun e => e.2.filter (· ≠ [])) (fun _ => rfl) (fun _ => rfl) s.label
  · exact (congrArg (List.map _) hkv).trans (map_flatMap_optKV _ Prod.fst (fun _ => rfl) _)
  · exact (congrArg (fun l => List.filter _ (List.map _ l)) hkv).trans
      ((congrArg (List.filter _) (map_flatMap_optKV _ Prod.snd (fun _ => rfl) _)).trans
        (filter_any_flatMap_optKV _ (fun _ => rfl) _))

theorem foldl_semLabels (s : Sample) (h1 : (keys s.label).Nodup) (h2 : (keys s.numLabel).Nodup) :
    (semLabels s).foldl semStep {} =
      ⟨normLabel s.label, normNum (numPairs s), normUnitTrim (numPairs s)⟩ := by
  have hk : (keys (numPairs s)).Nodup := keys_numPairs s ▸ h2
  rw [semLabels, List.foldl_append, show ({} : LabelAcc) = ⟨[], [], []⟩ from rfl,
    foldl_str_all [] [] s.label [] h1, foldl_num_all _ (numPairs s) [] [] hk hk]
  rfl

/-- the closing pass of `postSample` over NumUnit: every (trimmed, non-empty) unit list is padded
to the number of values of its key, which restores exactly the kept units. -/
theorem map_pad_normUnitTrim (l : List (Str × List (Int × Str))) (hnd : (keys l).Nodup) :
    (normUnitTrim l).map (fun x => if x.2.length > 0
        then (x.1, padStringArray x.2 (((normNum l).lookup x.1).getD []).length) else (x.1, x.2)) = normUnit l := by
  unfold normUnitTrim normUnit
  rw [List.map_flatMap]
  refine ListFacts.flatMap_congr_mem fun e he => ?_
  by_cases hany : ((e.2.filter keepPair).map (·.2)).any (· ≠ []) = true
  · have hne := (any_ne_nil_iff _).mp hany
    have hV : (e.2.filter keepPair).map (·.1) ≠ [] := fun h =>
      hne (by rw [List.map_eq_nil_iff.mp h]; rfl)
    have hlk := lookup_flatMap_optKV (fun e : Str × List (Int × Str) => (e.2.filter keepPair).map (·.1)) l hnd e he hV
    have hpad := pad_dropTrailingEmpty ((e.2.filter keepPair).map (·.2))
    rw [List.length_map] at hpad
    rw [optKV_of_ne_nil _ hne, List.map_cons, List.map_nil, if_pos (List.length_pos_iff.mpr hne), if_pos hany]
    unfold normNum
    rw [hlk, Option.getD_some, List.length_map, hpad]
  · have hnil : dropTrailingEmpty ((e.2.filter keepPair).map (·.2)) = [] :=
      Classical.byContradiction fun hc => hany ((any_ne_nil_iff _).mpr hc)
    rw [hnil, if_neg hany]; rfl

theorem normUnit_eq_nil_of_normNum (l : List (Str × List (Int × Str))) (h : normNum l = []) : normUnit l = [] := by
  unfold normNum at h
  unfold normUnit
  rw [List.flatMap_eq_nil_iff] at h ⊢
  intro e he
  have := h e he
  have hV : (e.2.filter keepPair).map (·.1) = [] := by
    cases hc : (e.2.filter keepPair).map (·.1) with
    | nil => rfl
    | cons a r => rw [hc] at this; simp [optKV] at this
  have : e.2.filter keepPair = [] := by simpa using hV
  simp [this]

theorem pairwise_normUnit (l : List (Str × List (Int × Str))) (h : l.Pairwise LtK) : (normUnit l).Pairwise LtK :=
  pairwise_flatMap_keyed (α := Str × List (Int × Str)) (fun e => e.1) _
    (fun e x hx => by
      split at hx
      · simp at hx; rw [hx]
      · cases hx)
    (fun e => by split <;> simp) l h

/-- **Label regrouping.** If the wire labels of `x` denote, in a table satisfying the invariant,
the labels of `s` in flattening order, and the label maps of `s` are key-sorted, then
`postSample` rebuilds exactly the normalised maps of `s`. -/
theorem postSample_of_semLabels {tab : StrTab} (hinv : TabInv tab) {x : SampleX} {s : Sample}
    (hd : All2 (fun sl l => Denotes tab l sl) (semLabels s) x.labelX) (hs : s.mapsSorted = true) :
    postSample tab x = .ok ⟨x.locationIDX, x.value, normLabel s.label, normNum (numPairs s), normUnit (numPairs s)⟩ := by
  unfold Sample.mapsSorted at hs
  simp only [Bool.and_eq_true] at hs
  have p1 := pairwise_of_keysSorted _ hs.1.1
  have p2 := pairwise_of_keysSorted _ hs.1.2
  have p2' : (numPairs s).Pairwise LtK := by
    unfold numPairs
    rw [List.pairwise_map]
    exact p2.imp (fun h => h)
  have hnd : (keys (numPairs s)).Nodup := nodup_keys_of_pairwise p2'
  have hf := foldlM_ok_of_All2 (postLabel tab) semStep {}
    (All2.mono (fun sl l h acc => postLabel_of_Denotes hinv h acc) hd)
  unfold postSample
  rw [hf, Outcome.bind_ok, foldl_semLabels s (nodup_keys_of_pairwise p1) (nodup_keys_of_pairwise p2)]
  have e1 : sortKeys (normLabel s.label) = normLabel s.label :=
    sortKeys_eq_self (pairwise_flatMap_optKV p1)
  have e2 : sortKeys (normNum (numPairs s)) = normNum (numPairs s) :=
    sortKeys_eq_self (pairwise_flatMap_optKV p2')
  have e3 := map_pad_normUnitTrim (numPairs s) hnd
  have e4 : sortKeys (normUnit (numPairs s)) = normUnit (numPairs s) :=
    sortKeys_eq_self (pairwise_normUnit _ p2')
  simp only [e1, e2, e3, e4]
  by_cases hlen : (normNum (numPairs s)).length > 0
  · simp only [hlen, if_true]; rfl
  · have : normNum (numPairs s) = [] := List.eq_nil_of_length_eq_zero (by omega)
    simp only [hlen, if_false, normUnit_eq_nil_of_normNum _ this]; rfl

end Codec
end PV
