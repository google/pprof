import PprofVerif.Lemmas.SettingsDecimal
import PprofVerif.Lemmas.SettingsJSON
import PprofVerif.Lemmas.SettingsFS
/-! Option ↔ URL round trip (C19; `makeURL`, `applyURL` of `internal/driver/config.go`):
`applyURL defaults (makeURL cfg u) = normURL cfg`. -/
namespace PV.Settings

theorem qget_cons (a b : Str) (r : Query) (k : Str) :
    qget ((a, b) :: r) k = if a = k then b else qget r k := rfl

/-- a query is an association list (those of the file-system model, `FS.aget`) in which an absent
parameter reads as "". -/
theorem qget_eq_aget (q : Query) (k : Str) : qget q k = (FS.aget q k).getD [] := by
  induction q with
  | nil => rfl
  | cons p r ih =>
    obtain ⟨a, b⟩ := p
    rw [qget_cons, FS.aget_cons, ih]
    split <;> rfl

theorem qget_qdel (q : Query) (k k' : Str) : qget (qdel q k) k' = if k = k' then [] else qget q k' := by
  rw [qget_eq_aget, qget_eq_aget, show qdel q k = FS.adel q k from rfl, FS.aget_adel]
  split <;> rfl

theorem qget_qset (q : Query) (k v k' : Str) : qget (qset q k v) k' = if k = k' then v else qget q k' := by
  rw [qget_eq_aget, qget_eq_aget, show qset q k v = FS.aset q k v from rfl, FS.aget_aset]
  split <;> rfl

/-- what the theorem needs of a value: right Go type, ints within int64, floats in canonical text
(fixed points of parse∘print), choice fields hold "" or one of their choices. -/
def ValOK (fo : FloatOps) (f : FieldSpec) (v : Val) : Prop :=
  hasKind f.kind v = true ∧
  match v with
  | .i n => inI64 n = true
  | .f t => fo.parse t = some t ∧ t ≠ []
  | .s s => f.kind = .choice → (s = [] ∨ s ∈ f.choices)
  | .b _ => True

def WF (fo : FloatOps) : List FieldSpec → Config → Prop
  | [], [] => True
  | f :: fs, v :: vs => ValOK fo f v ∧ WF fo fs vs
  | _, _ => False

theorem WF.typed {fo : FloatOps} : ∀ {fs : List FieldSpec} {c : Config}, WF fo fs c → Typed fs c
  | [], [], _ => trivial
  | _ :: fs, _ :: vs, h => ⟨h.1.1, WF.typed (fs := fs) (c := vs) h.2⟩
  | [], _ :: _, h | _ :: _, [], h => h.elim

theorem stb_true : stringToBool (b!"true".take 1) = some true := by decide
theorem stb_false : stringToBool (b!"false".take 1) = some false := by decide

theorem field_roundtrip (fo : FloatOps) (f : FieldSpec) (v : Val) (hd : defaultTyped f = true)
    (hv : ValOK fo f v) :
    (if urlVal f v = [] then some f.default else setVal fo f (urlVal f v)) = some (normVal f v) := by
  obtain ⟨hk, hv⟩ := hv
  simp only [defaultTyped, Bool.and_eq_true] at hd
  obtain ⟨⟨hdk, hdr⟩, -⟩ := hd
  generalize hkind : f.kind = k at hk hdk
  generalize hdef : f.default = d at hdk hdr
  -- the five well-typed combinations: the cases of `hasKind` for the value, then the shape of the default
  revert hk
  fun_cases hasKind k v <;> intro hk <;> (try exact Bool.noConfusion hk) <;> cases d <;>
    (try exact Bool.noConfusion hdk)
  all_goals unfold urlVal normVal setVal; rw [hkind, hdef]
  · -- bool: shortened to "t"/"f", which `stringToBool` accepts
    rename_i b d
    cases b <;> cases d <;> rfl
  · -- int: `Atoi ∘ Sprint = id`, so `Sprint` is injective and never ""
    rename_i n d
    by_cases he : showInt n = showInt d
    · simp [getStr, showInt_inj hv hdr he]
    · simp [getStr, he, showInt_ne_nil, atoi_showInt n hv]
  · -- float: canonical texts are fixed points of the parameter
    rename_i t d
    by_cases he : t = d
    · simp [getStr, he]
    · simp [getStr, he, hv.2, hv.1]
  · -- string: verbatim, "" is the unset value
    rename_i s d
    by_cases h0 : s = []
    · simp [getStr, h0]
    · by_cases he : s = d <;> simp [getStr, he, h0]
  · -- choice: verbatim, and a value other than "" is one of the choices
    rename_i s d
    by_cases h0 : s = []
    · simp [getStr, h0]
    · by_cases he : s = d <;> simp [getStr, he, h0]
      exact (hv hkind).resolve_left h0

abbrev urlParams : List FieldSpec → List Str := keys (fun f => decide (f.urlparam ≠ [])) (·.urlparam)

theorem urlparam_of_inURL {f : FieldSpec} (h : inURL f = true) : f.urlparam ≠ [] := by
  simp only [inURL, Bool.and_eq_true, decide_eq_true_eq] at h
  exact h.1

/-- what `makeURL` does to the query for one table row. -/
def putURL (f : FieldSpec) (v : Val) (q : Query) : Query :=
  if inURL f then
    if qget q f.urlparam = urlVal f v then q
    else if urlVal f v = [] then qdel q f.urlparam else qset q f.urlparam (urlVal f v)
  else q

theorem makeURL_cons (f : FieldSpec) (fs : List FieldSpec) (v : Val) (vs : Config) (q : Query) :
    (makeURL (f :: fs) (v :: vs) q).1 = (makeURL fs vs (putURL f v q)).1 := by
  show (if inURL f = true then if qget q f.urlparam = urlVal f v then makeURL fs vs q else (_, true)
    else makeURL fs vs q).1 = _
  unfold putURL
  by_cases hin : inURL f = true
  · rw [if_pos hin, if_pos hin]
    by_cases hs : qget q f.urlparam = urlVal f v
    · rw [if_pos hs, if_pos hs]
    · rw [if_neg hs, if_neg hs]
  · rw [if_neg hin, if_neg hin]

theorem qget_putURL (f : FieldSpec) (v : Val) (q : Query) (p : Str) :
    qget (putURL f v q) p = if inURL f = true ∧ f.urlparam = p then urlVal f v else qget q p := by
  unfold putURL
  by_cases hin : inURL f = true
  · by_cases hs : qget q f.urlparam = urlVal f v
    · rw [if_pos hin, if_pos hs]
      split
      · next h => exact h.2 ▸ hs
      · rfl
    · rw [if_pos hin, if_neg hs]
      split <;> simp [qget_qdel, qget_qset, *]
  · simp [hin]

theorem makeURL_frame {p : Str} {fs : List FieldSpec} (c : Config) (q : Query) (hp : p ∉ urlParams fs) :
    qget (makeURL fs c q).1 p = qget q p := by
  induction fs generalizing c q with
  | nil => cases c <;> rfl
  | cons f fs ih =>
    cases c with
    | nil => rfl
    | cons v vs =>
      have hne : ¬(inURL f = true ∧ f.urlparam = p) := by
        rintro ⟨hin, rfl⟩
        exact hp (mem_keys List.mem_cons_self (decide_eq_true (urlparam_of_inURL hin)))
      rw [makeURL_cons, ih, qget_putURL, if_neg hne]
      exact fun h => hp (keys_sub f h)

theorem applyURL_cons (fo : FloatOps) (f : FieldSpec) (fs : List FieldSpec) (d : Val) (ds : Config) (q : Query) :
    applyURL fo (f :: fs) (d :: ds) q =
      (if (if f.urlparam ≠ [] then qget q f.urlparam else []) = [] then some d
       else setVal fo f (if f.urlparam ≠ [] then qget q f.urlparam else [])).bind
        fun x => (applyURL fo fs ds q).map (x :: ·) := by
  show (if (if f.urlparam ≠ [] then qget q f.urlparam else []) = [] then _ else _) = _
  by_cases hx : (if f.urlparam ≠ [] then qget q f.urlparam else []) = []
  · rw [if_pos hx, if_pos hx]; rfl
  · rw [if_neg hx, if_neg hx]; cases setVal fo f _ <;> rfl

/-- The row at the head writes its parameter into `u`, the rest of the table leaves that parameter alone (distinct
parameters), so `applyURL` reads back what `field_roundtrip` expects; the induction hypothesis is used on the query
the head row left. -/
theorem applyURL_makeURL_distinct (fo : FloatOps) (fs : List FieldSpec) (c : Config) (u : Query)
    (hd : allDistinct (urlParams fs) = true) (hdt : ∀ f ∈ fs, defaultTyped f = true) (hw : WF fo fs c)
    (hu : ∀ f ∈ fs, f.urlparam ≠ [] → inURL f = false → qget u f.urlparam = []) :
    applyURL fo fs (defaults fs) (makeURL fs c u).1 = some (normURL fs c) := by
  induction fs generalizing c u with
  | nil => cases c with | nil => rfl | cons => exact hw.elim
  | cons f fs ih =>
    cases c with
    | nil => exact hw.elim
    | cons v vs =>
      obtain ⟨hfr, hd⟩ := distinct_keys_cons hd
      replace hfr : f.urlparam ≠ [] → f.urlparam ∉ urlParams fs := fun h => hfr (decide_eq_true h)
      have htail := ih vs (putURL f v u) hd (fun g hg => hdt g (List.mem_cons_of_mem _ hg)) hw.2
        fun g hg hgu hin => by
          rw [qget_putURL, if_neg, hu g (List.mem_cons_of_mem _ hg) hgu hin]
          rintro ⟨hf, he⟩
          exact hfr (urlparam_of_inURL hf) (he ▸ mem_keys hg (decide_eq_true hgu))
      have hhead : (if f.urlparam ≠ [] then qget (makeURL fs vs (putURL f v u)).1 f.urlparam else []) =
          if inURL f = true then urlVal f v else [] := by
        by_cases hp : f.urlparam = []
        · simp [hp, inURL]
        · rw [if_pos hp, makeURL_frame _ _ (hfr hp), qget_putURL]
          by_cases hin : inURL f = true
          · simp [hin]
          · simp [hin, hu f (List.mem_cons_self ..) hp (by simpa using hin)]
      simp only [defaults, List.map_cons] at htail ⊢
      rw [makeURL_cons, applyURL_cons, hhead, htail]
      show _ = some ((if inURL f = true then normVal f v else f.default) :: normURL fs vs)
      by_cases hin : inURL f = true
      · simp only [hin, if_true, field_roundtrip fo f v (hdt f (List.mem_cons_self ..)) hw.1]
        rfl
      · simp [hin]

theorem normURL_eq_normSaved (fs : List FieldSpec) (c : Config) (h : allSavedInURL fs = true) :
    normURL fs c = normSaved fs c := by
  induction fs generalizing c with
  | nil => rfl
  | cons f fs ih =>
    cases c with
    | nil => rfl
    | cons v vs =>
      simp only [allSavedInURL, List.all_cons, Bool.and_eq_true] at h
      have hi : inURL f = f.saved :=
        (by decide : ∀ s d : Bool, (!s || d) = true → (d && s) = s) _ _ h.1
      show (if inURL f then _ else _) :: _ = (if f.saved then _ else _) :: _
      rw [hi, ih vs h.2]

end PV.Settings
