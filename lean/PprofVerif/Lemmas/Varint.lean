import PprofVerif.Model.Wire
import Mathlib.Tactic.Ring
import Mathlib.Tactic.Linarith
/-! Varint round trip (proto.go `encodeVarint` / `decodeVarint`). -/
namespace PV.Wire

theorem ofNat_toNat_lt {n : Nat} (h : n < 256) : (UInt8.ofNat n).toNat = n := by
  simp [Nat.mod_eq_of_lt h]

theorem mul_pow_split (x i : Nat) :
    x * 2 ^ (7 * i) = x / 128 * 2 ^ (7 * (i + 1)) + x % 128 * 2 ^ (7 * i) := by
  conv_lhs => rw [← Nat.div_add_mod x 128]
  rw [show 7 * (i + 1) = 7 * i + 7 by ring, pow_add]; ring

theorem decodeVarintGo_encodeVarint (x : Nat) : ∀ (i u : Nat) (rest : Bytes),
    i ≤ 9 → u + x * 2 ^ (7 * i) < two64 →
    decodeVarintGo i u (encodeVarint x ++ rest) = .ok (u + x * 2 ^ (7 * i), rest) := by
  induction x using encodeVarint.induct with
  | case1 x hx ih =>
    intro i u rest hi hlt
    have hs := mul_pow_split x i
    -- a continuation byte at position 9 would need a value of at least 2^70
    have hi' : i + 1 ≤ 9 := by
      have h1 : 1 * 2 ^ (7 * (i + 1)) ≤ x / 128 * 2 ^ (7 * (i + 1)) :=
        Nat.mul_le_mul_right _ ((Nat.one_le_div_iff (by decide)).mpr hx)
      have h2 : 2 ^ (7 * (i + 1)) < 2 ^ 64 := by unfold two64 at hlt; omega
      have := (Nat.pow_lt_pow_iff_right (by decide)).mp h2
      omega
    have hm : x % 128 < 128 := Nat.mod_lt _ (by decide)
    rw [encodeVarint, dif_pos hx, List.cons_append, decodeVarintGo, if_neg (Nat.not_le.mpr (Nat.lt_succ_of_le hi)),
      ofNat_toNat_lt (by omega), Nat.add_mod_right, Nat.mod_mod, if_neg (Nat.not_lt.mpr (Nat.le_add_left _ _)),
      Nat.mod_eq_of_lt (by omega), ih (i + 1) _ rest hi' (by omega), Nat.add_assoc, Nat.add_comm (_ * _), ← hs]
  | case2 x hx =>
    intro i u rest hi hlt
    have hx' : x < 128 := Nat.not_le.mp hx
    rw [encodeVarint, dif_neg hx, List.cons_append, List.nil_append, decodeVarintGo,
      if_neg (Nat.not_le.mpr (Nat.lt_succ_of_le hi)), ofNat_toNat_lt (Nat.lt_trans hx' (by decide)),
      Nat.mod_eq_of_lt hx', if_pos hx', Nat.mod_eq_of_lt hlt]

theorem decodeVarint_encodeVarint (x : Nat) (hx : x < two64) (rest : Bytes) :
    decodeVarint (encodeVarint x ++ rest) = .ok (x, rest) := by
  have := decodeVarintGo_encodeVarint x 0 0 rest (by omega) (by simpa using hx)
  simpa [decodeVarint] using this

theorem encodeVarint_ne_nil (x : Nat) : encodeVarint x ≠ [] := by
  rw [encodeVarint]; split <;> simp

end PV.Wire
