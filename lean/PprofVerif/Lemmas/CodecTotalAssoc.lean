import PprofVerif.Model.Codec
/-!
Helpers for property C02: Go's string order `Str.lt` is a strict total order; facts about the
association lists that model Go maps in `postDecode` (`alSet`, `lookup`, `sortKeys`): the key
set stays duplicate-free, lookups and entries after an update, and `sortKeys` yields strictly
sorted keys.
-/
namespace PV

namespace Str

theorem lt_cons {x y : UInt8} {xs ys : Str} :
    Str.lt (x :: xs) (y :: ys) = true ↔ x < y ∨ (x = y ∧ Str.lt xs ys = true) := by
  rw [Str.lt]
  split
  · simp [*]
  · rename_i h1
    split
    · rename_i h2
      have : x ≠ y := fun h => h1 (h ▸ h2)
      simp [*]
    · rename_i h2
      cases UInt8.le_antisymm (UInt8.not_lt.mp h2) (UInt8.not_lt.mp h1)
      simp [UInt8.lt_irrefl]

theorem lt_irrefl : ∀ a : Str, Str.lt a a = false
  | [] => rfl
  | x :: xs => by
    have := lt_irrefl xs
    rw [Bool.eq_false_iff, Ne, lt_cons]
    simp [UInt8.lt_irrefl, this]

theorem lt_trans : ∀ {a b c : Str}, Str.lt a b = true → Str.lt b c = true → Str.lt a c = true
  | [], [], _, h, _ => nomatch h
  | [], _ :: _, [], _, h => nomatch h
  | [], _ :: _, _ :: _, _, _ => rfl
  | _ :: _, [], _, h, _ => nomatch h
  | _ :: _, _ :: _, [], _, h => nomatch h
  | x :: xs, y :: ys, z :: zs, h1, h2 => by
    rw [lt_cons] at h1 h2 ⊢
    rcases h1 with h1 | ⟨rfl, h1⟩ <;> rcases h2 with h2 | ⟨rfl, h2⟩
    · exact .inl (UInt8.lt_trans h1 h2)
    · exact .inl h1
    · exact .inl h2
    · exact .inr ⟨rfl, lt_trans h1 h2⟩

theorem lt_total : ∀ {a b : Str}, Str.lt a b = false → Str.lt b a = false → a = b
  | [], [], _, _ => rfl
  | [], _ :: _, h, _ => nomatch h
  | _ :: _, [], _, h => nomatch h
  | x :: xs, y :: ys, h1, h2 => by
    rw [Bool.eq_false_iff, Ne, lt_cons, not_or] at h1 h2
    cases UInt8.le_antisymm (UInt8.not_lt.mp h2.1) (UInt8.not_lt.mp h1.1)
    rw [lt_total (Bool.eq_false_iff.mpr fun h => h1.2 ⟨rfl, h⟩) (Bool.eq_false_iff.mpr fun h => h2.2 ⟨rfl, h⟩)]
end Str

namespace Codec

def keys {β} (m : List (Str × β)) : List Str := m.map (·.1)

theorem mem_of_lookup_eq_some {β} {m : List (Str × β)} {k : Str} {v : β} (h : m.lookup k = some v) : (k, v) ∈ m := by
  obtain ⟨l₁, l₂, rfl, _⟩ := List.lookup_eq_some_iff.mp h
  exact List.mem_append_right _ (List.mem_cons_self ..)

theorem lookup_eq_some_of_mem {β} {m : List (Str × β)} {k : Str} {v : β} (hnd : (keys m).Nodup) (h : (k, v) ∈ m) :
    m.lookup k = some v := by
  obtain ⟨s, t, rfl⟩ := List.append_of_mem h
  refine List.lookup_eq_some_iff.mpr ⟨s, t, rfl, fun p hp => bne_iff_ne.mpr fun hk => ?_⟩
  rw [keys, List.map_append, List.nodup_append] at hnd
  exact hnd.2.2 _ (List.mem_map_of_mem hp) _ (List.mem_map_of_mem (List.mem_cons_self ..)) hk.symm

theorem lookup_none_of_not_any {β} {m : List (Str × β)} {k : Str} (h : m.any (·.1 == k) = false) :
    m.lookup k = none :=
  List.lookup_eq_none_iff.mpr fun p hp => bne_iff_ne.mpr fun hk =>
    List.any_eq_false.mp h p hp (beq_iff_eq.mpr hk.symm)

theorem lookup_map_set {β} (k : Str) (v : β) : ∀ (m : List (Str × β)) (k' : Str),
    (m.map (fun e => if e.1 == k then (k, v) else e)).lookup k' =
      if k' == k then (if m.any (·.1 == k) then some v else none) else m.lookup k'
  | [], k' => by simp
  | (a, b) :: es, k' => by
    have ih := lookup_map_set k v es k'
    simp only [List.map_cons, List.any_cons]
    by_cases hak : (a == k) = true
    · have hak' : a = k := beq_iff_eq.mp hak
      subst hak'
      simp only [BEq.rfl, if_true, List.lookup_cons, Bool.true_or]
      by_cases hk : (k' == a) = true
      · simp [hk]
      · have hk' : (k' == a) = false := Bool.eq_false_iff.mpr hk
        simp only [hk'] at ih ⊢
        simpa using ih
    · have hak' : (a == k) = false := Bool.eq_false_iff.mpr hak
      simp only [hak', Bool.false_eq_true, if_false, List.lookup_cons, Bool.false_or]
      by_cases hk : (k' == a) = true
      · have hk2 : k' = a := beq_iff_eq.mp hk
        subst hk2
        simp [hak']
      · have hk' : (k' == a) = false := Bool.eq_false_iff.mpr hk
        simp only [hk']
        exact ih

theorem lookup_alSet {β} (m : List (Str × β)) (k : Str) (v : β) (k' : Str) :
    (alSet m k v).lookup k' = if k' == k then some v else m.lookup k' := by
  unfold alSet
  split
  · rename_i h; rw [lookup_map_set k v m k']; simp [h]
  · rename_i h
    have h' : m.any (·.1 == k) = false := Bool.eq_false_iff.mpr h
    rw [List.lookup_append]
    by_cases hk : (k' == k) = true
    · have : k' = k := beq_iff_eq.mp hk
      subst this
      simp [lookup_none_of_not_any h']
    · have hk' : (k' == k) = false := Bool.eq_false_iff.mpr hk
      simp [hk', List.lookup_cons]

theorem keys_map {β γ} {m : List (Str × β)} {f : Str × β → Str × γ} (h : ∀ e ∈ m, (f e).1 = e.1) :
    keys (m.map f) = keys m := by
  rw [keys, List.map_map]
  exact List.map_congr_left h

theorem keys_alSet {β} (m : List (Str × β)) (k : Str) (v : β) :
    keys (alSet m k v) = if m.any (·.1 == k) then keys m else keys m ++ [k] := by
  unfold alSet
  split
  · refine keys_map fun e _ => ?_
    split
    · rename_i h; exact (beq_iff_eq.mp h).symm
    · rfl
  · simp [keys]

theorem keys_alSet_nodup {β} {m : List (Str × β)} {k : Str} {v : β} (h : (keys m).Nodup) :
    (keys (alSet m k v)).Nodup := by
  rw [keys_alSet]
  split
  · exact h
  · rename_i hany
    refine List.nodup_append.mpr ⟨h, List.pairwise_singleton .., fun a ha b hb hab => hany ?_⟩
    obtain ⟨e, he, rfl⟩ := List.mem_map.mp ha
    cases List.mem_singleton.mp hb
    exact List.any_eq_true.mpr ⟨e, he, beq_iff_eq.mpr hab⟩

theorem mem_alSet {β} {m : List (Str × β)} {k : Str} {v : β} {e : Str × β} (h : e ∈ alSet m k v) :
    e ∈ m ∨ e = (k, v) := by
  unfold alSet at h
  split at h
  · obtain ⟨e0, he0, heq⟩ := List.mem_map.mp h
    split at heq
    · exact Or.inr heq.symm
    · subst heq; exact Or.inl he0
  · rcases List.mem_append.mp h with h | h
    · exact Or.inl h
    · exact Or.inr (List.mem_singleton.mp h)

theorem forall_alSet_append {β} {P : β → Prop} {m : List (Str × List β)} {k : Str} {v : β}
    (hm : ∀ e ∈ m, ∀ w ∈ e.2, P w) (hv : P v) :
    ∀ e ∈ alSet m k ((m.lookup k).getD [] ++ [v]), ∀ w ∈ e.2, P w := by
  intro e he w hw
  rcases mem_alSet he with he | rfl
  · exact hm e he w hw
  · rcases List.mem_append.mp hw with hw | hw
    · cases hl : m.lookup k with
      | none => rw [hl] at hw; exact nomatch hw
      | some vs => rw [hl] at hw; exact hm _ (mem_of_lookup_eq_some hl) w hw
    · cases List.mem_singleton.mp hw
      exact hv

theorem mem_insertSorted {β} (e : Str × β) : ∀ (l : List (Str × β)) (x : Str × β),
    x ∈ insertSorted e l ↔ x = e ∨ x ∈ l
  | [], x => by simp [insertSorted]
  | y :: r, x => by
    rw [insertSorted]
    split
    · exact List.mem_cons
    · rw [List.mem_cons, mem_insertSorted e r x, List.mem_cons]
      exact or_left_comm

theorem mem_sortKeys {β} : ∀ (m : List (Str × β)) (x : Str × β), x ∈ sortKeys m ↔ x ∈ m
  | [], x => by simp [sortKeys]
  | a :: m, x => by
    have ih := mem_sortKeys m x
    simp only [sortKeys, List.foldr_cons] at ih ⊢
    rw [mem_insertSorted, ih]; simp

def LtK {β} (a b : Str × β) : Prop := Str.lt a.1 b.1 = true

theorem keysSorted_of_pairwise {β} : ∀ (l : List (Str × β)), l.Pairwise LtK → keysSorted l = true
  | [], _ => rfl
  | [_], _ => rfl
  | a :: b :: r, h => by
    rw [List.pairwise_cons] at h
    simp only [keysSorted, Bool.and_eq_true]
    exact ⟨h.1 b (by simp), keysSorted_of_pairwise (b :: r) h.2⟩

theorem pairwise_insertSorted {β} (e : Str × β) : ∀ (l : List (Str × β)), l.Pairwise LtK →
    (∀ x ∈ l, x.1 ≠ e.1) → (insertSorted e l).Pairwise LtK
  | [], _, _ => by simp [insertSorted]
  | y :: r, hp, hne => by
    rw [insertSorted]
    rw [List.pairwise_cons] at hp
    split
    · rename_i hlt
      rw [List.pairwise_cons]
      refine ⟨?_, List.pairwise_cons.mpr hp⟩
      intro z hz
      rcases List.mem_cons.mp hz with rfl | hz
      · exact hlt
      · exact Str.lt_trans hlt (hp.1 z hz)
    · rename_i hlt
      have hlt' : Str.lt e.1 y.1 = false := Bool.eq_false_iff.mpr hlt
      rw [List.pairwise_cons]
      refine ⟨?_, pairwise_insertSorted e r hp.2 (fun x hx => hne x (List.mem_cons_of_mem _ hx))⟩
      intro z hz
      rcases (mem_insertSorted e r z).mp hz with rfl | hz
      · -- y < e by totality
        show Str.lt y.1 z.1 = true
        by_cases hc : Str.lt y.1 z.1 = true
        · exact hc
        · exfalso
          have := Str.lt_total hlt' (Bool.eq_false_iff.mpr hc)
          exact hne y (by simp) this.symm
      · exact hp.1 z hz

theorem pairwise_sortKeys {β} : ∀ (m : List (Str × β)), (keys m).Nodup → (sortKeys m).Pairwise LtK
  | [], _ => by simp [sortKeys]
  | a :: m, h => by
    simp only [keys, List.map_cons, List.nodup_cons] at h
    have ih := pairwise_sortKeys m h.2
    simp only [sortKeys, List.foldr_cons] at ih ⊢
    apply pairwise_insertSorted a _ ih
    intro x hx hxa
    have hx' : x ∈ m := (mem_sortKeys m x).mp hx
    exact h.1 (List.mem_map.mpr ⟨x, hx', hxa⟩)

theorem keysSorted_sortKeys {β} {m : List (Str × β)} (h : (keys m).Nodup) : keysSorted (sortKeys m) = true :=
  keysSorted_of_pairwise _ (pairwise_sortKeys m h)

end Codec
end PV
