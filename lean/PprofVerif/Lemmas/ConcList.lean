/-!
The three machines of `Model/Conc.lean` keep their threads in a list and put the stepping thread back with
`List.set`.  What survives that, stated through `l[i]?`: a property of every entry, a relation between any two
entries (`PairRel`: mutual exclusion, distinct file names, writer exclusion), and a fold to which one entry alone
contributes (`foldl_one`: the pending work of the one thread that holds the lock).
-/
namespace PV.Conc
variable {α β : Type} {l : List α} {i : Nat} {a a' : α}

theorem getElem?_set_of_some (h : l[i]? = some a) (a' : α) : (l.set i a')[i]? = some a' :=
  List.getElem?_set_self (List.getElem?_eq_some_iff.mp h).1

theorem all_getElem? {p : α → Bool} (h : l.all p = true) {j : Nat} {b : α} (hj : l[j]? = some b) : p b = true :=
  List.all_eq_true.mp h b (List.mem_of_getElem? hj)

theorem eq_of_getElem?_set_self {b : α} (h : (l.set i a')[i]? = some b) : b = a' := by
  rw [List.getElem?_set, if_pos rfl] at h
  split at h <;> cases h
  rfl

theorem forall_getElem?_set {P : Nat → α → Prop} (h : ∀ j b, l[j]? = some b → P j b) (ha : P i a') :
    ∀ j b, (l.set i a')[j]? = some b → P j b := by
  intro j b hj
  by_cases hij : i = j
  · subst hij; rw [eq_of_getElem?_set_self hj]; exact ha
  · rw [List.getElem?_set_ne hij] at hj; exact h j b hj

def PairRel (R : α → α → Prop) (l : List α) : Prop :=
  ∀ ⦃i j : Nat⦄ ⦃a b : α⦄, i ≠ j → l[i]? = some a → l[j]? = some b → R a b

theorem pairRel_set {R : α → α → Prop} (h : PairRel R l)
    (hnew : ∀ j b, j ≠ i → l[j]? = some b → R a' b ∧ R b a') : PairRel R (l.set i a') := by
  intro j k b c hjk hj hk
  by_cases hij : i = j
  · subst hij
    rw [List.getElem?_set_ne hjk] at hk
    rw [eq_of_getElem?_set_self hj]
    exact (hnew k c (Ne.symm hjk) hk).1
  · rw [List.getElem?_set_ne hij] at hj
    by_cases hik : i = k
    · subst hik
      rw [eq_of_getElem?_set_self hk]
      exact (hnew j b (Ne.symm hij) hj).2
    · rw [List.getElem?_set_ne hik] at hk
      exact h hjk hj hk

variable {g : β → α → β}

theorem foldl_neutral (h : ∀ b ∈ l, ∀ x, g x b = x) (x : β) : l.foldl g x = x := by
  induction l with
  | nil => rfl
  | cons b l ih =>
    rw [List.foldl_cons, h b List.mem_cons_self]
    exact ih fun c hc => h c (List.mem_cons_of_mem _ hc)

theorem foldl_one (hi : l[i]? = some a) (h : ∀ j b, l[j]? = some b → j ≠ i → ∀ x, g x b = x) (x : β) :
    l.foldl g x = g x a := by
  induction l generalizing i x with
  | nil => cases hi
  | cons b l ih =>
    rw [List.foldl_cons]
    cases i with
    | zero =>
      cases hi
      refine foldl_neutral (fun c hc => ?_) _
      obtain ⟨k, hk⟩ := List.getElem?_of_mem hc
      exact h (k + 1) c hk (Nat.succ_ne_zero k)
    | succ k =>
      rw [h 0 b rfl (Nat.succ_ne_zero k).symm]
      exact ih hi (fun j c hj hne => h (j + 1) c hj fun e => hne (Nat.succ.inj e)) x

theorem foldl_one_set (hi : l[i]? = some a) (h : ∀ j b, l[j]? = some b → j ≠ i → ∀ x, g x b = x) (a' : α)
    (x : β) : (l.set i a').foldl g x = g x a' :=
  foldl_one (getElem?_set_of_some hi a')
    (fun j b hj hne => h j b (by rwa [List.getElem?_set_ne hne.symm] at hj) hne) x

theorem foldl_set_same (hi : l[i]? = some a) (h : ∀ x, g x a' = g x a) (x : β) :
    (l.set i a').foldl g x = l.foldl g x := by
  induction l generalizing i x with
  | nil => cases hi
  | cons b l ih =>
    cases i with
    | zero => cases hi; rw [List.set_cons_zero, List.foldl_cons, List.foldl_cons, h]
    | succ k => exact ih hi _

end PV.Conc
