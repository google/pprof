import PprofVerif.Model.LegacyCPU
import PprofVerif.Lemmas.CodecTotal
import PprofVerif.Lemmas.ListFacts
/-!
The binary legacy CPU parser model (property C02) is total — no checked index or slice access
of `Model/LegacyCPU.lean` can fail and the fuel `len(b)` always suffices — and every sample it
returns carries exactly two values (one per sample type of the profile `cpuProfile` /
`javaCPUProfile` builds): frame stripping and duplicate-leaf cleanup never touch the values.
Each function gets one `Outcome.Safe` statement saying both.
-/
namespace PV
namespace LegacyCPU
open Wire (Bytes)
open Outcome (Safe)

theorem idx_safe {b : Bytes} {i : Nat} (h : i < b.length) : (idx b i).Safe fun _ => True := by
  unfold idx
  rw [List.getElem?_eq_getElem h]
  trivial

theorem elemAt_safe {α} {l : List α} {i : Nat} (h : i < l.length) : (elemAt l i).Safe fun _ => True := by
  unfold elemAt
  rw [List.getElem?_eq_getElem h]
  trivial

theorem sliceFrom_safe {α} {l : List α} {n : Nat} (h : n ≤ l.length) :
    (sliceFrom l n).Safe fun r => r = l.drop n := by
  unfold sliceFrom
  rw [if_pos h]
  exact rfl

theorem sliceTo_safe {α} {l : List α} {n : Nat} (h : n ≤ l.length) : (sliceTo l n).Safe fun _ => True := by
  unfold sliceTo
  rw [if_pos h]
  trivial

theorem readLE_safe (b : Bytes) : ∀ (n i : Nat), i + n ≤ b.length → (readLE b i n).Safe fun _ => True
  | 0, i, _ => trivial
  | n + 1, i, h =>
    (idx_safe (by omega)).bind fun _ _ => (readLE_safe b n (i + 1) (by omega)).bind fun _ _ => trivial

theorem readBE_safe (b : Bytes) : ∀ (n i acc : Nat), i + n ≤ b.length → (readBE b i n acc).Safe fun _ => True
  | 0, i, acc, _ => trivial
  | n + 1, i, acc, h => (idx_safe (by omega)).bind fun _ _ => readBE_safe b n (i + 1) _ (by omega)

theorem readWord_safe (w : Word) (b : Bytes) (h : w.size ≤ b.length) : (readWord w b).Safe fun _ => True := by
  unfold readWord
  split
  · exact readLE_safe b _ 0 (by omega)
  · exact readBE_safe b _ 0 0 (by omega)

theorem Word.size_pos (w : Word) : 0 < w.size := by cases w <;> decide

theorem get_safe (w : Word) (sl : Slice) :
    (get w sl).Safe fun r => r.2.len ≤ sl.len ∧ (r.2.isSome → r.2.len < sl.len) := by
  unfold get
  split
  · exact ⟨Nat.le_refl _, nofun⟩
  · rename_i b
    split
    · exact ⟨Nat.zero_le _, nofun⟩
    · refine (readWord_safe w b (by omega)).bind fun _ _ => (sliceFrom_safe (by omega)).bind ?_
      rintro _ rfl
      have := Word.size_pos w
      simp only [Safe, pure, Slice.len, List.length_drop]
      omega

theorem readAddrs_safe (w : Word) : ∀ (n : Nat) (sl : Slice),
    (readAddrs w n sl).Safe fun r => r.1.length = n ∧ r.2.len ≤ sl.len
  | 0, _ => ⟨rfl, Nat.le_refl _⟩
  | n + 1, sl =>
    (get_safe w sl).bind fun (_, b) hg => (readAddrs_safe w n b).bind fun (_, _) hr =>
      ⟨congrArg (· + 1) hr.1, Nat.le_trans hr.2 hg.1⟩

theorem parseCPUSamples_safe (w : Word) (adjust : Bool) (period : Int) :
    ∀ (fuel : Nat) (sl : Slice) (acc : List CPUSample), sl.len ≤ fuel →
      (parseCPUSamples w adjust period fuel sl acc).Safe fun r =>
        (∀ s ∈ acc, s.values.length = 2) → ∀ p, r = some p → ∀ s ∈ p.1, s.values.length = 2
  | 0, sl, acc, h => by
    rw [parseCPUSamples, if_pos (by omega)]
    rintro hacc _ ⟨⟩
    exact hacc
  | fuel + 1, sl, acc, h => by
    rw [parseCPUSamples]
    split
    · rintro hacc _ ⟨⟩
      exact hacc
    refine (get_safe w sl).bind fun (count, b1) hg1 => (get_safe w b1).bind fun (nstk, b2) hg2 => ?_
    dsimp only at hg1 hg2
    cases b2 with
    | none => exact fun _ _ => nofun
    | some bb =>
      dsimp only
      split
      · exact fun _ _ => nofun
      refine (readAddrs_safe w nstk (some bb)).bind fun (addrs, b3) hra => ?_
      dsimp only at hra
      refine Safe.bind (P := fun _ => True) ?_ fun isEnd _ => ?_
      · -- the end-marker test reads `addrs[0]` only when `nstk = 1`
        split
        · rename_i hc
          exact (elemAt_safe (l := addrs) (by omega)).bind fun _ _ => trivial
        · trivial
      split
      · rintro hacc _ ⟨⟩
        exact hacc
      · -- the second `get` returned a non-nil slice, so it consumed a byte of the fuel
        have hlt : b3.len < fuel + 1 :=
          Nat.lt_of_le_of_lt hra.2 (Nat.lt_of_lt_of_le (hg2.2 rfl) (Nat.le_trans hg1.1 h))
        refine (parseCPUSamples_safe w adjust period fuel b3 _ (Nat.le_of_lt_succ hlt)).mono
          fun r hr hacc => hr ?_
        intro s hs
        rcases List.mem_append.mp hs with hs | hs
        · exact hacc s hs
        · cases List.mem_singleton.mp hs
          rfl

theorem secondAddrs_safe : ∀ l : List CPUSample, (secondAddrs l).Safe fun r => r.length ≤ l.length
  | [] => Nat.le_refl 0
  | x :: rest => by
    rw [secondAddrs]
    refine (secondAddrs_safe rest).bind fun r hr => ?_
    split
    · rename_i h
      exact (elemAt_safe h).bind fun _ _ => Nat.succ_le_succ hr
    · exact Nat.le_succ_of_le hr

theorem dropSecond_safe {l : List Nat} (h : l.length > 1) : (dropSecond l).Safe fun _ => True :=
  (sliceTo_safe (by omega)).bind fun _ _ => (sliceFrom_safe (by omega)).bind fun _ _ => trivial

theorem values_cons {s x : CPUSample} {r l : List CPUSample} (hs : s.values = x.values)
    (hr : r.map (·.values) = l.map (·.values)) : (s :: r).map (·.values) = (x :: l).map (·.values) := by
  rw [List.map_cons, List.map_cons, hs, hr]

theorem stripFrame_safe (id1 : Nat) : ∀ l : List CPUSample,
    (stripFrame id1 l).Safe fun r => r.map (·.values) = l.map (·.values)
  | [] => rfl
  | x :: rest => by
    rw [stripFrame]
    refine Safe.bind (P := fun s' => s'.values = x.values) ?_ fun s' hs' =>
      (stripFrame_safe id1 rest).bind fun r hr => values_cons hs' hr
    split
    · rename_i h
      refine (elemAt_safe h).bind fun a _ => ?_
      split
      · exact (dropSecond_safe h).bind fun _ _ => rfl
      · exact rfl
    · exact rfl

theorem removeFrameOnce_safe (l : List CPUSample) :
    (removeFrameOnce l).Safe fun r => r.map (·.values) = l.map (·.values) := by
  unfold removeFrameOnce
  refine (secondAddrs_safe l).bind fun secs _ => ?_
  split
  · exact rfl
  · exact stripFrame_safe _ _

theorem cleanupDup_safe : ∀ l : List CPUSample,
    (cleanupDup l).Safe fun r => r.map (·.values) = l.map (·.values)
  | [] => rfl
  | x :: rest => by
    rw [cleanupDup]
    refine Safe.bind (P := fun s' => s'.values = x.values) ?_ fun s' hs' =>
      (cleanupDup_safe rest).bind fun r hr => values_cons hs' hr
    split
    · rename_i h
      refine (elemAt_safe (by omega)).bind fun a0 _ => (elemAt_safe h).bind fun a1 _ => ?_
      split
      · exact (dropSecond_safe h).bind fun _ _ => rfl
      · exact rfl
    · exact rfl

theorem values_len_of_map_eq {l r : List CPUSample} (h : r.map (·.values) = l.map (·.values))
    (hl : ∀ s ∈ l, s.values.length = 2) : ∀ s ∈ r, s.values.length = 2 := by
  intro s hs
  have : s.values ∈ l.map (·.values) := h ▸ List.mem_map_of_mem hs
  obtain ⟨s0, hs0, heq⟩ := List.mem_map.mp this
  exact heq ▸ hl s0 hs0

abbrev TwoValues (res : CPUResult) : Prop := ∀ s ∈ res.samples, s.values.length = 2

theorem cpuProfile_safe (w : Word) (b : Slice) (period : Int) :
    (cpuProfile w b period).Safe fun r => ∀ res, r = some res → TwoValues res := by
  unfold cpuProfile
  refine (parseCPUSamples_safe w true _ _ b [] (Nat.le_refl _)).bind fun r hr => ?_
  split
  · exact fun _ => nofun
  · refine (removeFrameOnce_safe _).bind fun _ e1 => (removeFrameOnce_safe _).bind fun _ e2 =>
      (cleanupDup_safe _).bind fun _ e3 => ?_
    rintro _ ⟨⟩
    exact values_len_of_map_eq (e3.trans (e2.trans e1)) (hr nofun _ rfl)

theorem javaCPUProfile_safe (w : Word) (b : Slice) (period : Int) :
    (javaCPUProfile w b period).Safe fun r => ∀ res, r = some res → TwoValues res := by
  unfold javaCPUProfile
  refine (parseCPUSamples_safe w false _ _ b [] (Nat.le_refl _)).bind fun r hr => ?_
  split
  · exact fun _ => nofun
  · rintro _ ⟨⟩
    exact hr nofun _ rfl

theorem probe_safe (w : Word) (b : Bytes) :
    (probe w b).Safe fun r => ∀ res, r = some (some res) → TwoValues res := by
  unfold probe
  refine (get_safe _ _).bind fun (n1, t1) _ => (get_safe _ _).bind fun (n2, t2) _ =>
    (get_safe _ _).bind fun (n3, t3) _ => (get_safe _ _).bind fun (n4, t4) _ =>
    (get_safe _ _).bind fun (n5, t5) _ => ?_
  dsimp only
  split
  · refine (cpuProfile_safe _ _ _).bind fun r hr => ?_
    rintro res ⟨⟩
    exact hr res rfl
  · split
    · refine (javaCPUProfile_safe _ _ _).bind fun r hr => ?_
      rintro res ⟨⟩
      exact hr res rfl
    · exact fun _ => nofun

theorem probeAll_safe (b : Bytes) : ∀ ws : List Word,
    (probeAll b ws).Safe fun r => ∀ res, r = some res → TwoValues res
  | [] => fun _ => nofun
  | w :: ws => by
    rw [probeAll]
    refine (probe_safe w b).bind fun r hr => ?_
    split
    · rintro res ⟨⟩
      exact hr res rfl
    · exact probeAll_safe b ws

theorem parseCPU_safe (b : Bytes) : (parseCPU b).Safe fun r => ∀ res, r = some res → TwoValues res :=
  probeAll_safe b _

/-- at most one address can reach the removal threshold `len - len/32`: the order in which Go
ranges over the map `addr1` cannot influence which frame is stripped. -/
theorem frame_candidate_unique (seconds : List Nat) (n : Nat) (hlen : seconds.length ≤ n) (a b : Nat)
    (ha : a ∈ seconds) (hca : seconds.count a ≥ n - n / 32) (hcb : seconds.count b ≥ n - n / 32) : a = b := by
  apply Classical.byContradiction
  intro hab
  have h := ListFacts.count_add_count_le hab seconds
  have : seconds.length = 0 := by omega
  cases List.eq_nil_of_length_eq_zero this
  cases ha

end LegacyCPU
end PV
