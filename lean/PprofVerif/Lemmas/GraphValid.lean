import PprofVerif.Model.Graph
import PprofVerif.Lemmas.ProfileValid
/-!
From a profile to abstract samples (`samplesOf`): the value column chosen by name exists, and on a valid profile
every lookup succeeds, so the abstraction is defined.  Also home of the lemmas about `optAll` and of names for the
anonymous pieces of the model (`fnNodeInfo`, `locOf`) that the tag-frame and aggregation proofs share.
-/
namespace PV.Graph
open PV.GSpec

theorem findIdx_range {α : Type} {f : α → Bool} {l : List α} {k i : Nat} (h : findIdx f l k = some i) :
    i < k + l.length := by
  induction l generalizing k with
  | nil => exact nomatch h
  | cons a r ih =>
    unfold findIdx at h
    split at h
    · cases h; exact Nat.lt_add_of_pos_right (Nat.succ_pos _)
    · have := ih h
      rw [List.length_cons, ← Nat.add_assoc, Nat.add_right_comm]; exact this

/-- every branch of `SampleIndexByName` answers with a position found in the list, with the last position of a
non-empty list, or with a parsed number checked against the length -/
theorem sampleIndexByName_lt (p : Profile) (si : Str) (i : Nat) (h : sampleIndexByName p si = some i) :
    i < p.sampleType.length := by
  have hfind : ∀ (f : ValueType → Bool) j, findIdx f p.sampleType 0 = some j → j < p.sampleType.length :=
    fun f j h => by rw [← Nat.zero_add p.sampleType.length]; exact findIdx_range h
  have hdflt : ∀ j, (if p.defaultSampleType ≠ [] then
      findIdx (fun t => t.typ == p.defaultSampleType) p.sampleType 0 else none) = some j →
      j < p.sampleType.length := by
    intro j hj
    split at hj
    · exact hfind _ _ hj
    · exact nomatch hj
  unfold sampleIndexByName at h
  generalize (if p.defaultSampleType ≠ [] then _ else none) = d at h hdflt
  generalize atoi si = o at h
  generalize hr : findIdx _ p.sampleType 0 = r at h
  dsimp only at h
  split at h
  · cases d with
    | some j => cases h; exact hdflt _ rfl
    | none =>
      dsimp only at h
      split at h
      · exact nomatch h
      · rename_i hn; cases h; exact Nat.sub_lt (Nat.pos_of_ne_zero hn) Nat.one_pos
  · cases o with
    | some z =>
      dsimp only at h
      split at h
      · exact nomatch h
      · rename_i hz
        cases h
        exact (Int.toNat_lt (Int.not_lt.mp (not_or.mp hz).1)).mpr (Int.not_le.mp (not_or.mp hz).2)
    | none => exact hfind _ _ (hr.trans h)

theorem optAll_cons {α β : Type} (f : α → Option β) (a : α) (r : List α) :
    optAll f (a :: r) = (f a).bind fun b => (optAll f r).map (b :: ·) := by
  rw [optAll]; cases f a <;> cases optAll f r <;> rfl

theorem optAll_cons_some {α β : Type} {f : α → Option β} {a : α} {r : List α} {bs : List β}
    (h : optAll f (a :: r) = some bs) : ∃ b bs', f a = some b ∧ optAll f r = some bs' ∧ bs = b :: bs' := by
  rw [optAll_cons, Option.bind_eq_some_iff] at h
  obtain ⟨b, hb, h⟩ := h
  obtain ⟨bs', hr, e⟩ := Option.map_eq_some_iff.mp h
  exact ⟨b, bs', hb, hr, e.symm⟩

theorem optAll_eq_some {α β : Type} {f : α → Option β} {l : List α} {bs : List β} :
    optAll f l = some bs ↔ l.map f = bs.map some := by
  induction l generalizing bs with
  | nil =>
    cases bs with
    | nil => exact ⟨fun _ => rfl, fun _ => rfl⟩
    | cons b bs => exact ⟨fun h => (nomatch h), fun h => (nomatch h)⟩
  | cons a r ih =>
    rw [optAll_cons, Option.bind_eq_some_iff]
    cases bs with
    | nil =>
      refine ⟨fun ⟨b, _, h⟩ => ?_, fun h => (nomatch h)⟩
      obtain ⟨_, _, h⟩ := Option.map_eq_some_iff.mp h
      exact nomatch h
    | cons b bs =>
      rw [List.map_cons, List.map_cons, List.cons.injEq, ← ih]
      constructor
      · rintro ⟨b', h1, h2⟩
        obtain ⟨bs', h3, h4⟩ := Option.map_eq_some_iff.mp h2
        cases h4
        exact ⟨h1, h3⟩
      · rintro ⟨h1, h2⟩
        exact ⟨b, h1, by rw [h2]; rfl⟩

theorem optAll_none {α β : Type} {f : α → Option β} {l : List α} (h : optAll f l = none) :
    ∃ a ∈ l, f a = none := by
  induction l with
  | nil => exact nomatch h
  | cons a r ih =>
    rw [optAll_cons] at h
    cases hfa : f a with
    | none => exact ⟨a, List.mem_cons_self, hfa⟩
    | some b =>
      cases hr : optAll f r with
      | none => exact (ih hr).imp fun x hx => ⟨List.mem_cons_of_mem _ hx.1, hx.2⟩
      | some bs => rw [hfa, hr] at h; exact nomatch h

theorem optAll_some {α β : Type} {f : α → Option β} {l : List α} (h : ∀ a ∈ l, ∃ b, f a = some b) :
    ∃ bs, optAll f l = some bs := by
  cases hl : optAll f l with
  | some bs => exact ⟨bs, rfl⟩
  | none =>
    obtain ⟨a, ha, hn⟩ := optAll_none hl
    obtain ⟨b, hb⟩ := h a ha
    exact nomatch hn.symm.trans hb

theorem optAll_mem {α β : Type} {f : α → Option β} {l : List α} {bs : List β} (h : optAll f l = some bs)
    {b : β} (hb : b ∈ bs) : ∃ a ∈ l, f a = some b := by
  have : some b ∈ l.map f := by rw [optAll_eq_some.mp h]; exact List.mem_map_of_mem hb
  exact List.mem_map.mp this

theorem optAll_length {α β : Type} {f : α → Option β} {l : List α} {bs : List β} (h : optAll f l = some bs) :
    bs.length = l.length := by
  have := congrArg List.length (optAll_eq_some.mp h)
  rw [List.length_map, List.length_map] at this
  exact this.symm

theorem optAll_mono {α β : Type} {f g : α → Option β} {l : List α} {bs : List β}
    (h : ∀ a ∈ l, ∀ b, f a = some b → g a = some b) (hf : optAll f l = some bs) : optAll g l = some bs := by
  rw [optAll_eq_some] at hf ⊢
  rw [← hf]
  apply List.map_congr_left
  intro a ha
  have : f a ∈ bs.map some := hf ▸ List.mem_map_of_mem ha
  obtain ⟨b, _, hb⟩ := List.mem_map.mp this
  rw [← hb]; exact h a ha b hb.symm

theorem optAll_append {α β : Type} {f : α → Option β} {l1 l2 : List α} {b1 b2 : List β}
    (h1 : optAll f l1 = some b1) (h2 : optAll f l2 = some b2) : optAll f (l1 ++ l2) = some (b1 ++ b2) := by
  rw [optAll_eq_some] at h1 h2 ⊢
  rw [List.map_append, List.map_append, h1, h2]

theorem optAll_map {α β γ : Type} (g : α → β) (h : β → Option γ) (l : List α) :
    optAll h (l.map g) = optAll (fun a => h (g a)) l := by
  induction l with
  | nil => rfl
  | cons a r ih => rw [List.map_cons, optAll_cons, optAll_cons, ih]

theorem optAll_congr {α β : Type} {g h : α → Option β} {l : List α} (e : ∀ a ∈ l, g a = h a) :
    optAll g l = optAll h l := by
  induction l with
  | nil => rfl
  | cons a r ih =>
    rw [optAll_cons, optAll_cons, e a List.mem_cons_self, ih (fun x hx => e x (List.mem_cons_of_mem _ hx))]

/-- the entry of a line whose function record is `fn` (the second branch of `graph.nodeInfo`) -/
def fnNodeInfo (clean : Str → Str) (o : GOpts) (l : Location) (line : Line) (objfile : Str) (fn : Function) :
    NodeInfo :=
  let file := if fn.filename ≠ [] then clean fn.filename else []
  let orig := if o.origFnNames then fn.systemName else []
  let withObj := o.objNames || (fn.name = [] && orig = [])
  { name := fn.name, origName := orig, address := l.address, file := file,
    startLine := if withObj then fn.startLine else 0,
    lineno := line.line, columnno := line.column,
    objfile := if withObj then objfile else [] }

theorem nodeInfo_eq (clean : Str → Str) (p : Profile) (o : GOpts) (l : Location) (line : Line) (objfile : Str) :
    nodeInfo clean p o l line objfile =
      if line.functionID = 0 then
        some { name := [], origName := [], address := l.address, file := [], startLine := 0, lineno := 0,
               columnno := 0, objfile := objfile }
      else (p.findFunction line.functionID).map (fnNodeInfo clean o l line objfile) := by
  unfold nodeInfo; split
  · rfl
  · cases p.findFunction line.functionID <;> rfl

/-- the node list of one location id (the function mapped over `Sample.Location` by `framesOf`) -/
def locOf (clean : Str → Str) (p : Profile) (o : GOpts) (id : Nat) : Option (List NodeInfo) :=
  match p.findLocation id with
  | none => none
  | some l => locNodes clean p o l

theorem framesOf_eq (clean : Str → Str) (p : Profile) (o : GOpts) (s : Sample) :
    framesOf clean p o s = (optAll (locOf clean p o) s.locationIDs).map
      (fun perLoc => (perLoc.map List.reverse).reverse.flatten) := by
  unfold framesOf locOf
  cases optAll _ s.locationIDs <;> rfl

theorem locNodes_defined (clean : Str → Str) {p : Profile} (o : GOpts) {l : Location}
    (hl : ∀ ln ∈ l.lines, ln.functionID ≠ 0 → ∃ fn, p.findFunction ln.functionID = some fn) :
    ∃ ns, locNodes clean p o l = some ns := by
  unfold locNodes
  apply optAll_some
  intro ln hln
  rw [nodeInfo_eq]
  split
  · exact ⟨_, rfl⟩
  · rename_i h0
    have hmem : ln ∈ l.lines := by
      split at hln
      · exact absurd (List.mem_singleton.mp hln ▸ rfl) h0
      · exact hln
    obtain ⟨fn, hfn⟩ := hl ln hmem h0
    rw [hfn]
    exact ⟨_, rfl⟩

/-- on a valid profile (CheckValid + references inside the tables) the abstraction to samples is
defined for every in-range value column: the model never meets a dangling id or a short value list. -/
theorem samplesOf_defined (clean : Str → Str) (p : Profile) (o : GOpts) (vi : Nat) (mean : Bool)
    (hv : p.Valid) (hvi : vi < p.sampleType.length) :
    ∃ ss, samplesOf clean p o vi mean = some ss := by
  unfold samplesOf
  apply optAll_some
  intro s hsm
  have hlen := hv.values_length hsm
  have hfr : ∃ fs, framesOf clean p o s = some fs := by
    obtain ⟨per, hper⟩ := optAll_some (f := locOf clean p o) (l := s.locationIDs) (fun id hid => by
      obtain ⟨_, l, hfl, hlm⟩ := hv.findLocation hsm hid
      unfold locOf
      rw [hfl]
      exact locNodes_defined clean o fun ln hln _ => (hv.findFunction hlm hln).2.imp fun _ => And.left)
    rw [framesOf_eq, hper]
    exact ⟨_, rfl⟩
  obtain ⟨fs, hfs⟩ := hfr
  rw [hfs, List.getElem?_eq_getElem (hlen ▸ hvi)]
  cases mean
  · exact ⟨_, rfl⟩
  · rw [if_pos rfl, List.getElem?_eq_getElem (hlen ▸ Nat.zero_lt_of_lt hvi)]
    exact ⟨_, rfl⟩
end PV.Graph
