import PprofVerif.Lemmas.InternEntities
import PprofVerif.Lemmas.LabelsRoundtrip
import PprofVerif.Lemmas.ProfileValid
/-!
`postDecode ∘ preEncode = normalize` (property C01).  `EncRel p x`, "x is an encoding of p", is a
relational specification of `preEncode`: on a profile with aligned units `preEncode` succeeds and its
output encodes the profile, every index being valid in the final string table (`preEncode_spec`).
`postDecode` of any encoding of a valid, key-sorted profile is the normalised profile
(`postDecode_of_EncRel`): id resolution is the identity by validity, a nil `PeriodType` becomes the
empty value type, labels are regrouped by `postSample_of_semLabels`.
-/
namespace PV
namespace Codec

abbrev DenAll (t : StrTab) (sls : List SemLabel) (ls : List LabelX) : Prop :=
  All2 (fun sl l => Denotes t l sl) sls ls

theorem DenAll.mono {t t' : StrTab} (h : t <+: t') {sls : List SemLabel} {ls : List LabelX}
    (hd : DenAll t sls ls) : DenAll t' sls ls :=
  All2.mono (fun _ _ hd => hd.mono h) hd

theorem preStrLabels_spec (k : Str) (vs : List Str) (t : StrTab) (h : TabInv t) :
    StepOK t (preStrLabels k vs t) (fun t' ls => DenAll t' (vs.map (SemLabel.str k)) ls) := by
  unfold preStrLabels
  obtain ⟨h1, h2, h3⟩ := tab_mapM_spec
    (fun v => (do let kx ← add k; let sx ← add v; pure { keyX := kx, strX := sx } : Tab LabelX))
    (fun t v l => Denotes t l (SemLabel.str k v))
    (fun _ _ _ _ ht hd => hd.mono ht)
    (fun v t ht => by
      have a1 := addString_spec t k ht
      have a2 := addString_spec _ v a1.1
      exact ⟨a2.1, a1.2.1.trans a2.2.1, a1.2.2.mono a2.2.1, a2.2.2, rfl, rfl⟩)
    vs t h
  exact ⟨h1, h2, All2.map_left h3⟩

theorem strLabels_spec (l : List (Str × List Str)) (t : StrTab) (h : TabInv t) :
    StepOK t ((l.mapM (fun (x : Str × List Str) => preStrLabels x.1 x.2) : Tab _) t)
      (fun t' lss => DenAll t' (l.flatMap (fun e => e.2.map (SemLabel.str e.1))) lss.flatten) := by
  obtain ⟨h1, h2, h3⟩ := tab_mapM_spec (fun (e : Str × List Str) => preStrLabels e.1 e.2)
    (fun t e ls => DenAll t (e.2.map (SemLabel.str e.1)) ls)
    (fun _ _ _ _ ht hd => hd.mono ht)
    (fun e t ht => preStrLabels_spec e.1 e.2 t ht) l t h
  refine ⟨h1, h2, ?_⟩
  rw [List.flatMap_def]
  exact All2.flatten (All2.map_left h3)

theorem preNumLabels_go_spec_nounits (units : List Str) (hu : units.length = 0) (kx : Int) (k : Str)
    (vs : List Int) (i : Nat) (t : StrTab) (ht : TabInv t) (hk : Res t kx k) :
    ∃ ls, preNumLabels.go units kx i vs t = .ok (ls, t) ∧
      DenAll t (vs.map (fun v => SemLabel.num k v [])) ls := by
  induction vs generalizing i with
  | nil => exact ⟨[], rfl, .nil⟩
  | cons v rest ih =>
    obtain ⟨ls, hgo, hd⟩ := ih (i + 1)
    refine ⟨{ keyX := kx, numX := v, unitX := 0 } :: ls, ?_, .cons ⟨hk, rfl, rfl, Res.zero ht⟩ hd⟩
    rw [preNumLabels.go, if_neg (not_not_intro hu), hgo]

theorem preNumLabels_go_spec_units (units : List Str) (kx : Int) (k : Str) (hne : units.length ≠ 0)
    (vs : List Int) (i : Nat) (t : StrTab) (ht : TabInv t) (hk : Res t kx k) (hle : i + vs.length ≤ units.length) :
    ∃ ls t', preNumLabels.go units kx i vs t = .ok (ls, t') ∧ TabInv t' ∧ t <+: t' ∧
      DenAll t' ((vs.zip (units.drop i)).map (fun p => SemLabel.num k p.1 p.2)) ls := by
  induction vs generalizing i t with
  | nil => exact ⟨[], t, rfl, ht, List.prefix_refl _, .nil⟩
  | cons v rest ih =>
    have hi : i < units.length := Nat.lt_of_lt_of_le (Nat.lt_add_of_pos_right (Nat.succ_pos _)) hle
    have a1 := addString_spec t units[i] ht
    obtain ⟨ls, t', hgo, ht', hpre, hd⟩ := ih (i + 1) (addString t units[i]).1 a1.1 (hk.mono a1.2.1)
      (by rw [List.length_cons] at hle; omega)
    refine ⟨{ keyX := kx, numX := v, unitX := (addString t units[i]).2 } :: ls, t', ?_, ht', a1.2.1.trans hpre, ?_⟩
    · rw [preNumLabels.go, if_pos hne, List.getElem?_eq_getElem hi]
      simp only [hgo]
    · rw [List.drop_eq_getElem_cons hi, List.zip_cons_cons, List.map_cons]
      exact .cons ⟨(hk.mono a1.2.1).mono hpre, rfl, rfl, a1.2.2.mono hpre⟩ hd

theorem zip_replicate_map {α β γ} (f : α × β → γ) (b : β) : ∀ (vs : List α),
    (vs.zip (List.replicate vs.length b)).map f = vs.map (fun v => f (v, b))
  | [] => rfl
  | v :: vs => by simp [List.replicate_succ, zip_replicate_map f b vs]

/-- the `NumUnit` contract for one `NumLabel` entry: no units, or as many as values -/
def alignedEntry (nu : List (Str × List Str)) (e : Str × List Int) : Prop :=
  ((nu.lookup e.1).getD []).length = 0 ∨ ((nu.lookup e.1).getD []).length = e.2.length

theorem preNumLabels_spec (nu : List (Str × List Str)) (e : Str × List Int) (t : StrTab) (h : TabInv t)
    (ha : alignedEntry nu e) :
    ∃ ls t', preNumLabels e.1 e.2 ((nu.lookup e.1).getD []) t = .ok (ls, t') ∧ TabInv t' ∧ t <+: t' ∧
      DenAll t' ((e.2.zip (unitsFor nu e)).map (fun p => SemLabel.num e.1 p.1 p.2)) ls := by
  have a1 := addString_spec t e.1 h
  unfold preNumLabels
  simp only
  by_cases hz : ((nu.lookup e.1).getD []).length = 0
  · obtain ⟨ls, hgo, hd⟩ := preNumLabels_go_spec_nounits _ hz (addString t e.1).2 e.1 e.2 0 _ a1.1 a1.2.2
    refine ⟨ls, _, hgo, a1.1, a1.2.1, ?_⟩
    have he : ((nu.lookup e.1).getD []).isEmpty = true := by
      rw [List.isEmpty_iff]; exact List.eq_nil_of_length_eq_zero hz
    unfold unitsFor
    simp only [he, if_true]
    rw [zip_replicate_map]
    exact hd
  · have hlen : ((nu.lookup e.1).getD []).length = e.2.length := ha.resolve_left hz
    obtain ⟨ls, t', hgo, ht', hpre, hd⟩ := preNumLabels_go_spec_units _ (addString t e.1).2 e.1 hz e.2 0 _ a1.1 a1.2.2
      (by omega)
    refine ⟨ls, t', hgo, ht', a1.2.1.trans hpre, ?_⟩
    have he : ((nu.lookup e.1).getD []).isEmpty = false := by
      cases hc : (nu.lookup e.1).getD [] with
      | nil => rw [hc] at hz; simp at hz
      | cons a r => rfl
    unfold unitsFor
    simp only [he, Bool.false_eq_true, if_false]
    simpa using hd

theorem alignedEntry_of_unitsAligned (s : Sample) (h : s.unitsAligned = true) :
    ∀ e ∈ s.numLabel, alignedEntry s.numUnit e := by
  intro e he
  unfold Sample.unitsAligned at h
  rw [List.all_eq_true] at h
  have := h e he
  unfold alignedEntry
  cases hl : s.numUnit.lookup e.1 with
  | none => left; rfl
  | some us =>
    simp only [hl, Bool.or_eq_true, beq_iff_eq, List.isEmpty_iff] at this
    simp only [Option.getD_some]
    rcases this with h0 | h1
    · left; rw [h0]; rfl
    · right; exact h1

theorem nums_spec (s : Sample) (l : List (Str × List Int)) (t : StrTab) (ht : TabInv t)
    (ha : ∀ e ∈ l, alignedEntry s.numUnit e) :
    ∃ ls t', preSample.nums s l t = .ok (ls, t') ∧ TabInv t' ∧ t <+: t' ∧
      DenAll t' (l.flatMap (fun e => (e.2.zip (unitsFor s.numUnit e)).map (fun p => SemLabel.num e.1 p.1 p.2))) ls := by
  induction l generalizing t with
  | nil => exact ⟨[], t, rfl, ht, List.prefix_refl _, .nil⟩
  | cons e rest ih =>
    obtain ⟨a, t1, h1, ht1, hp1, hd1⟩ := preNumLabels_spec s.numUnit e t ht (ha e List.mem_cons_self)
    obtain ⟨b, t2, h2, ht2, hp2, hd2⟩ := ih t1 ht1 (fun x hx => ha x (List.mem_cons_of_mem _ hx))
    refine ⟨a ++ b, t2, ?_, ht2, hp1.trans hp2, All2.append (hd1.mono hp2) hd2⟩
    rw [preSample.nums]
    simp only [h1, h2]

/-- "`x` encodes the sample `s` in table `t`" -/
def SampRel (t : StrTab) (s : Sample) (x : SampleX) : Prop :=
  x.locationIDX = s.locationIDs ∧ x.value = s.values ∧ DenAll t (semLabels s) x.labelX

theorem SampRel.mono {t t' : StrTab} {s : Sample} {x : SampleX} (h : t <+: t') (hr : SampRel t s x) :
    SampRel t' s x := ⟨hr.1, hr.2.1, hr.2.2.mono h⟩

theorem semLabels_eq (s : Sample) : semLabels s =
    s.label.flatMap (fun e => e.2.map (SemLabel.str e.1)) ++
    s.numLabel.flatMap (fun e => (e.2.zip (unitsFor s.numUnit e)).map (fun p => SemLabel.num e.1 p.1 p.2)) := by
  simp [semLabels, numPairs, List.flatMap_map]

theorem preSample_spec (s : Sample) (t : StrTab) (ht : TabInv t) (ha : s.unitsAligned = true) :
    ∃ x t', preSample s t = .ok (x, t') ∧ TabInv t' ∧ t <+: t' ∧ SampRel t' s x := by
  have hs := strLabels_spec s.label t ht
  generalize hm : ((s.label.mapM (fun (x : Str × List Str) => preStrLabels x.1 x.2) : Tab _) t) = r at hs
  obtain ⟨ls1, t1⟩ := r
  obtain ⟨h1, h2, h3⟩ := hs
  simp only at h1 h2 h3
  obtain ⟨ls2, t2, hn, ht2, hp2, hd2⟩ := nums_spec s s.numLabel t1 h1 (alignedEntry_of_unitsAligned s ha)
  refine ⟨⟨s.locationIDs, s.values, ls1.flatten ++ ls2⟩, t2, ?_, ht2, h2.trans hp2, ?_⟩
  · unfold preSample
    simp only [hm, hn]
  · refine ⟨rfl, rfl, ?_⟩
    rw [semLabels_eq]
    exact All2.append (h3.mono hp2) hd2

theorem preSamples_spec (l : List Sample) (t : StrTab) (ht : TabInv t) (ha : ∀ s ∈ l, s.unitsAligned = true) :
    ∃ xs t', preSamples l t = .ok (xs, t') ∧ TabInv t' ∧ t <+: t' ∧ All2 (SampRel t') l xs := by
  induction l generalizing t with
  | nil => exact ⟨[], t, rfl, ht, List.prefix_refl _, .nil⟩
  | cons s rest ih =>
    obtain ⟨x, t1, h1, ht1, hp1, hr1⟩ := preSample_spec s t ht (ha s List.mem_cons_self)
    obtain ⟨xs, t2, h2, ht2, hp2, hr2⟩ := ih t1 ht1 (fun y hy => ha y (List.mem_cons_of_mem _ hy))
    refine ⟨x :: xs, t2, ?_, ht2, hp1.trans hp2, .cons (hr1.mono hp2) hr2⟩
    rw [preSamples]
    simp only [h1, h2]

theorem postSample_of_SampRel {tab : StrTab} (hinv : TabInv tab) {s : Sample} {x : SampleX}
    (hr : SampRel tab s x) (hs : s.mapsSorted = true) : postSample tab x = .ok (Sample.normalize s) := by
  rw [postSample_of_semLabels hinv hr.2.2 hs, normalize_eq, hr.1, hr.2.1]

def PTRel (t : StrTab) : Option ValueType → Option ValueTypeX → Prop
  | some v, some x => VTRel t v x
  | none, none => True
  | _, _ => False

theorem PTRel.mono {t t' : StrTab} {o : Option ValueType} {ox : Option ValueTypeX} (h : t <+: t')
    (hr : PTRel t o ox) : PTRel t' o ox := by
  cases o <;> cases ox <;> simp only [PTRel] at hr ⊢
  exact hr.mono h

def prePT (o : Option ValueType) (t : StrTab) : Option ValueTypeX × StrTab :=
  match o with
  | some v => let (x, t) := preValueType v t; (some x, t)
  | none => (none, t)

theorem prePT_spec (o : Option ValueType) (t : StrTab) (h : TabInv t) :
    StepOK t (prePT o t) (fun t' ox => PTRel t' o ox) := by
  cases o with
  | none => exact ⟨h, List.prefix_refl _, trivial⟩
  | some v => exact preValueType_spec v t h

/-- "`x` is an encoding of `p`": every string index of `x` resolves, in `x`'s own string table,
to the corresponding string of `p`; labels are flattened in `preEncode`'s order; everything
else is copied. -/
structure EncRel (p : Profile) (x : ProfileX) : Prop where
  inv : TabInv x.stringTable
  sampleType : All2 (VTRel x.stringTable) p.sampleType x.sampleType
  sample : All2 (SampRel x.stringTable) p.samples x.sample
  mapping : All2 (MapRel x.stringTable) p.mappings x.mapping
  location : x.location = p.locations.map preLocation
  function : All2 (FunRel x.stringTable) p.functions x.function
  dropFrames : Res x.stringTable x.dropFramesX p.dropFrames
  keepFrames : Res x.stringTable x.keepFramesX p.keepFrames
  timeNanos : x.timeNanos = p.timeNanos
  durationNanos : x.durationNanos = p.durationNanos
  periodType : PTRel x.stringTable p.periodType x.periodType
  period : x.period = p.period
  comments : All2 (fun c i => Res x.stringTable i c) p.comments x.commentX
  defaultSampleType : Res x.stringTable x.defaultSampleTypeX p.defaultSampleType
  docURL : Res x.stringTable x.docURLX p.docURL

/-- `preEncode` with the stages named by projections (same function, see `preEncode_eq`) -/
def preEncode' (p : Profile) : Outcome ProfileX :=
  let r1 := (p.sampleType.mapM preValueType : Tab _) [[]]
  match preSamples p.samples r1.2 with
  | .err e => .err e | .panic x => .panic x
  | .ok (ss, t2) =>
  let r3 := (p.mappings.mapM preMapping : Tab _) t2
  let r4 := (p.functions.mapM preFunction : Tab _) r3.2
  let r5 := add p.dropFrames r4.2
  let r6 := add p.keepFrames r5.2
  let r7 := prePT p.periodType r6.2
  let r8 := (p.comments.mapM add : Tab _) r7.2
  let r9 := add p.defaultSampleType r8.2
  let r10 := add p.docURL r9.2
  .ok { sampleType := r1.1, sample := ss, mapping := r3.1, location := p.locations.map preLocation,
        function := r4.1, stringTable := r10.2, dropFramesX := r5.1, keepFramesX := r6.1,
        timeNanos := p.timeNanos, durationNanos := p.durationNanos, periodType := r7.1, period := p.period,
        commentX := r8.1, defaultSampleTypeX := r9.1, docURLX := r10.1 }

theorem preEncode_eq (p : Profile) : preEncode p = preEncode' p := by
  unfold preEncode preEncode'; rfl

/-- **`preEncode` never fails on a profile whose units are aligned, and its output encodes the
profile** (all indices resolve in the final string table). -/
theorem preEncode_spec (p : Profile) (ha : p.unitsAligned = true) : ∃ x, preEncode p = .ok x ∧ EncRel p x := by
  rw [preEncode_eq]
  unfold preEncode'
  simp only
  have s1 := tab_mapM_spec preValueType VTRel (fun _ _ _ _ h r => r.mono h) preValueType_spec
    p.sampleType [[]] TabInv.init
  generalize ((p.sampleType.mapM preValueType : Tab _) [[]]) = r1 at s1 ⊢
  obtain ⟨i1, _, q1⟩ := s1
  obtain ⟨ss, t2, hss, i2, e2, q2⟩ := preSamples_spec p.samples r1.2 i1 (List.all_eq_true.mp ha)
  rw [hss]
  simp only
  have s3 := tab_mapM_spec preMapping MapRel (fun _ _ _ _ h r => r.mono h) preMapping_spec p.mappings t2 i2
  generalize ((p.mappings.mapM preMapping : Tab _) t2) = r3 at s3 ⊢
  obtain ⟨i3, e3, q3⟩ := s3
  have s4 := tab_mapM_spec preFunction FunRel (fun _ _ _ _ h r => r.mono h) preFunction_spec p.functions r3.2 i3
  generalize ((p.functions.mapM preFunction : Tab _) r3.2) = r4 at s4 ⊢
  obtain ⟨i4, e4, q4⟩ := s4
  have s5 := add_spec p.dropFrames r4.2 i4
  generalize add p.dropFrames r4.2 = r5 at s5 ⊢
  obtain ⟨i5, e5, q5⟩ := s5
  have s6 := add_spec p.keepFrames r5.2 i5
  generalize add p.keepFrames r5.2 = r6 at s6 ⊢
  obtain ⟨i6, e6, q6⟩ := s6
  have s7 := prePT_spec p.periodType r6.2 i6
  generalize prePT p.periodType r6.2 = r7 at s7 ⊢
  obtain ⟨i7, e7, q7⟩ := s7
  have s8 := tab_mapM_spec add (fun t c i => Res t i c) (fun _ _ _ _ h r => r.mono h)
    (fun c t ht => add_spec c t ht) p.comments r7.2 i7
  generalize ((p.comments.mapM add : Tab _) r7.2) = r8 at s8 ⊢
  obtain ⟨i8, e8, q8⟩ := s8
  have s9 := add_spec p.defaultSampleType r8.2 i8
  generalize add p.defaultSampleType r8.2 = r9 at s9 ⊢
  obtain ⟨i9, e9, q9⟩ := s9
  have s10 := add_spec p.docURL r9.2 i9
  generalize add p.docURL r9.2 = r10 at s10 ⊢
  obtain ⟨i10, e10, q10⟩ := s10
  have c9 : r9.2 <+: r10.2 := e10
  have c8 : r8.2 <+: r10.2 := e9.trans c9
  have c7 : r7.2 <+: r10.2 := e8.trans c8
  have c6 : r6.2 <+: r10.2 := e7.trans c7
  have c5 : r5.2 <+: r10.2 := e6.trans c6
  have c4 : r4.2 <+: r10.2 := e5.trans c5
  have c3 : r3.2 <+: r10.2 := e4.trans c4
  have c2 : t2 <+: r10.2 := e3.trans c3
  have c1 : r1.2 <+: r10.2 := e2.trans c2
  refine ⟨_, rfl, ?_⟩
  exact {
    inv := i10
    sampleType := All2.mono (fun _ _ r => r.mono c1) q1
    sample := All2.mono (fun _ _ r => r.mono c2) q2
    mapping := All2.mono (fun _ _ r => r.mono c3) q3
    location := rfl
    function := All2.mono (fun _ _ r => r.mono c4) q4
    dropFrames := q5.mono c5
    keepFrames := q6.mono c6
    timeNanos := rfl
    durationNanos := rfl
    periodType := q7.mono c7
    period := rfl
    comments := All2.mono (fun _ _ r => r.mono c8) q8
    defaultSampleType := q9.mono c9
    docURL := q10 }

theorem mapM_ok_of_All2_id {α β} (post : β → Outcome α) {l : List α} {xs : List β}
    (h : All2 (fun a x => post x = .ok a) l xs) : xs.mapM post = .ok l := by
  have := mapM_ok_of_All2 post (fun a => a) h
  simpa using this

theorem valid_facts (p : Profile) (hv : p.Valid) :
    (∀ s ∈ p.samples, ∀ id ∈ s.locationIDs, id ∈ p.locations.map (·.id)) ∧
    (∀ l ∈ p.locations, (l.mappingID = 0 ∨ l.mappingID ∈ p.mappings.map (·.id)) ∧
      ∀ ln ∈ l.lines, ln.functionID ≠ 0 ∧ ln.functionID ∈ p.functions.map (·.id)) := by
  obtain ⟨_, hS, _, _, _, hR⟩ := (Profile.valid_iff p).mp hv
  simp only [List.any_eq_true, beq_iff_eq, ← List.mem_map] at hS hR
  exact ⟨fun s hs id hid => ((hS s hs).2 id hid).2, hR⟩

theorem resolve_location (mids fids : List Nat) (l : Location)
    (hm : l.mappingID = 0 ∨ l.mappingID ∈ mids)
    (hf : ∀ ln ∈ l.lines, ln.functionID ≠ 0 ∧ ln.functionID ∈ fids) :
    ({ id := (preLocation l).id,
       mappingID := if mids.contains (preLocation l).mappingIDX then (preLocation l).mappingIDX else 0,
       address := (preLocation l).address, isFolded := (preLocation l).isFolded,
       lines := (preLocation l).line.map fun ln =>
         { functionID := if ln.functionIDX ≠ 0 ∧ fids.contains ln.functionIDX then ln.functionIDX else 0,
           line := ln.line, column := ln.column } } : Location) = l := by
  obtain ⟨lid, mid, addr, lines, folded⟩ := l
  simp only at hm hf
  simp only [preLocation, List.map_map, Location.mk.injEq, true_and, and_true]
  constructor
  · rcases hm with h0 | hin
    · subst h0; simp
    · simp [hin]
  · refine ListFacts.map_eq_self fun ln hln => ?_
    obtain ⟨h0, hin⟩ := hf ln hln
    obtain ⟨fid, li, co⟩ := ln
    simp only at h0 hin
    simp [h0, hin]

theorem resolve_sample_ids (lids : List Nat) (s : Sample) (h : ∀ id ∈ s.locationIDs, id ∈ lids) :
    ({ s with locationIDs := s.locationIDs.map fun id => if lids.contains id then id else 0 } : Sample) = s := by
  obtain ⟨ids, vs, a, b, c⟩ := s
  simp only at h
  simp only [Sample.mk.injEq, and_true]
  exact ListFacts.map_eq_self fun i hi => by simp [h i hi]

theorem normalize_locationIDs (s : Sample) : (Sample.normalize s).locationIDs = s.locationIDs := rfl

theorem postPT_of_PTRel {tab : StrTab} (hinv : TabInv tab) {o : Option ValueType} {ox : Option ValueTypeX}
    (h : PTRel tab o ox) : postValueType tab (ox.getD {}) = .ok (o.getD ⟨[], []⟩) := by
  cases o <;> cases ox <;> simp only [PTRel] at h
  · exact postValueType_of_VTRel (v := ⟨[], []⟩) ⟨Res.zero hinv, Res.zero hinv⟩
  · exact postValueType_of_VTRel h

/-- **`postDecode` of an encoding of a valid, key-sorted profile is the normalised profile.** -/
theorem postDecode_of_EncRel {p : Profile} {x : ProfileX} (h : EncRel p x) (hv : p.Valid)
    (hs : p.mapsSorted = true) : postDecode x = .ok (Profile.normalize p) := by
  obtain ⟨vs, vl⟩ := valid_facts p hv
  have hsorted : ∀ s ∈ p.samples, s.mapsSorted = true := List.all_eq_true.mp hs
  have hms : x.mapping.mapM (postMapping x.stringTable) = .ok p.mappings :=
    mapM_ok_of_All2_id _ (All2.mono (fun _ _ r => postMapping_of_MapRel r) h.mapping)
  have hfs : x.function.mapM (postFunction x.stringTable) = .ok p.functions :=
    mapM_ok_of_All2_id _ (All2.mono (fun _ _ r => postFunction_of_FunRel r) h.function)
  have hsts : x.sampleType.mapM (postValueType x.stringTable) = .ok p.sampleType :=
    mapM_ok_of_All2_id _ (All2.mono (fun _ _ r => postValueType_of_VTRel r) h.sampleType)
  have hss : x.sample.mapM (postSample x.stringTable) = .ok (p.samples.map Sample.normalize) :=
    mapM_ok_of_All2 _ Sample.normalize
      (All2.mono_mem h.sample (fun s hs' sx r => postSample_of_SampRel h.inv r (hsorted s hs')))
  have hcs : x.commentX.mapM (getString x.stringTable) = .ok p.comments :=
    mapM_ok_of_All2_id _ (All2.mono (fun _ _ r => getString_of_Res r) h.comments)
  have hmids : x.mapping.map (·.id) = p.mappings.map (·.id) :=
    All2.map_eq (fun _ _ r => r.1) h.mapping
  have hfids : x.function.map (·.id) = p.functions.map (·.id) :=
    All2.map_eq (fun _ _ r => r.1) h.function
  have hlids : x.location.map (·.id) = p.locations.map (·.id) := by
    rw [h.location, List.map_map]; rfl
  unfold postDecode
  simp only [hms, hfs, hsts, hss, hcs, Outcome.bind_ok, getString_of_Res h.dropFrames,
    getString_of_Res h.keepFrames, getString_of_Res h.defaultSampleType, getString_of_Res h.docURL,
    postPT_of_PTRel h.inv h.periodType, hmids, hfids, hlids, h.timeNanos, h.durationNanos, h.period]
  have hlocs : (x.location.map fun l =>
      (Location.mk l.id (if (p.mappings.map (·.id)).contains l.mappingIDX then l.mappingIDX else 0) l.address
        (l.line.map fun ln => Line.mk
          (if ln.functionIDX ≠ 0 ∧ (p.functions.map (·.id)).contains ln.functionIDX then ln.functionIDX else 0)
          ln.line ln.column) l.isFolded)) = p.locations := by
    rw [h.location, List.map_map]
    exact ListFacts.map_eq_self fun l hl => resolve_location _ _ l (vl l hl).1 (vl l hl).2
  have hsamp : ((p.samples.map Sample.normalize).map fun s =>
      Sample.mk (s.locationIDs.map fun id => if (p.locations.map (·.id)).contains id then id else 0)
        s.values s.label s.numLabel s.numUnit) = p.samples.map Sample.normalize :=
    ListFacts.map_eq_self fun s hs' => by
      obtain ⟨s0, hs0, rfl⟩ := List.mem_map.mp hs'
      exact resolve_sample_ids _ (Sample.normalize s0) (vs s0 hs0)
  rw [hlocs, hsamp]
  rfl

end Codec
end PV
