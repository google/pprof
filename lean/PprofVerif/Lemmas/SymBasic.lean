import PprofVerif.Model.Symbolize
/-! Lemmas for C12: machine integers (`adjust`), `removeMatching`, demangling.  Core Lean only. -/
namespace PV.Sym
open PV

theorem toU64_eq (i k : Int) (h0 : 0 ≤ i + k * two64) (h1 : i + k * two64 < two64) :
    toU64 i = (i + k * (two64 : Int)).toNat := by
  unfold toU64
  rw [← Int.add_mul_emod_self_right i k, Int.emod_eq_of_lt h0 h1]

/-- the conjuncts are what the tests of `adjust` ask for; `1 * N` is the `k * two64` of `toU64_eq`. -/
theorem wrap_below {a d N : Int} (h0 : 0 ≤ a) (hlo : -N ≤ d) (hneg : a + d < 0) :
    d < 0 ∧ a ≤ a + d + 1 * N ∧ a + d + 1 * N < N := by
  have h1 : 0 ≤ d + N := by
    have := Int.add_le_add_right hlo N
    rwa [Int.add_left_neg] at this
  have h2 := Int.add_lt_add_right hneg N
  rw [Int.zero_add] at h2
  rw [Int.one_mul, Int.add_assoc]
  exact ⟨Int.lt_of_not_ge fun hd => Int.not_le.mpr hneg (Int.add_nonneg h0 hd),
    Int.le_add_of_nonneg_right h1, Int.add_assoc .. ▸ h2⟩

theorem wrap_above {a d N : Int} (ha : a < N) (hhi : d < N) (hbig : N ≤ a + d) :
    0 ≤ d ∧ 0 ≤ a + d + -1 * N ∧ a + d + -1 * N < a := by
  rw [Int.neg_mul, Int.one_mul, ← Int.sub_eq_add_neg]
  refine ⟨Int.not_lt.mp fun hd => ?_, Int.sub_nonneg_of_le hbig,
    Int.sub_right_lt_of_lt_add (Int.add_lt_add_left hhi a)⟩
  have := Int.add_lt_add_left hd a
  rw [Int.add_zero] at this
  exact Int.not_le.mpr (Int.lt_trans this ha) hbig

theorem toNat_add_lt {a : Nat} {d : Int} (h : 0 ≤ (a : Int) + d) : ((a : Int) + d).toNat < a ↔ d < 0 := by
  rw [Int.toNat_lt h]
  refine ⟨fun h => Int.lt_of_add_lt_add_left (a := (a : Int)) ?_, fun h => ?_⟩
  · rwa [Int.add_zero]
  · have := Int.add_lt_add_left h (a : Int)
    rwa [Int.add_zero] at this

/-- `adjust` is exact for every offset from `-2⁶⁴` up to, not including, `2⁶⁴`: the sum is at most
one wrap-around away from the uint64 range. -/
theorem adjust_eq_of_lt (addr : Nat) (off : Int) (ha : (addr : Int) < two64)
    (hlo : -(two64 : Int) ≤ off) (hhi : off < (two64 : Int)) :
    adjust addr off =
      if 0 ≤ (addr : Int) + off ∧ (addr : Int) + off < (two64 : Int)
      then some ((addr : Int) + off).toNat else none := by
  have ha0 := Int.natCast_nonneg addr
  unfold adjust
  simp only []
  by_cases hneg : (addr : Int) + off < 0
  · obtain ⟨c1, c2, h1⟩ := wrap_below ha0 hlo hneg
    have h0 := Int.le_trans ha0 c2
    rw [toU64_eq _ 1 h0 h1, if_pos c1, if_pos ((Int.le_toNat h0).mpr c2),
      if_neg fun h => Int.not_lt.mpr h.1 hneg]
  · have hx := Int.not_lt.mp hneg
    by_cases hbig : (addr : Int) + off < two64
    · have hlt := toNat_add_lt hx
      rw [toU64_eq _ 0 (by rwa [Int.zero_mul, Int.add_zero]) (by rwa [Int.zero_mul, Int.add_zero]),
        Int.zero_mul, Int.add_zero]
      by_cases h0 : off < 0
      · rw [if_pos h0, if_neg (Nat.not_le.mpr (hlt.mpr h0)), if_pos ⟨hx, hbig⟩]
      · rw [if_neg h0, if_neg (mt hlt.mp h0), if_pos ⟨hx, hbig⟩]
    · obtain ⟨c1, h0, c2⟩ := wrap_above ha hhi (Int.not_lt.mp hbig)
      rw [toU64_eq _ (-1) h0 (Int.lt_trans c2 ha), if_neg (Int.not_lt.mpr c1),
        if_pos ((Int.toNat_lt h0).mpr c2), if_neg fun h => hbig h.2]

theorem adjust_eq (addr : Nat) (off : Int) (ha : addr < two64)
    (hlo : -(two63 : Int) ≤ off) (hhi : off < (two63 : Int)) :
    adjust addr off =
      if 0 ≤ (addr : Int) + off ∧ (addr : Int) + off < (two64 : Int)
      then some ((addr : Int) + off).toNat else none :=
  have h : (two63 : Int) ≤ two64 := by decide
  adjust_eq_of_lt addr off (Int.ofNat_lt.mpr ha) (Int.le_trans (Int.neg_le_neg h) hlo)
    (Int.lt_of_lt_of_le hhi h)

theorem rmScan_append (a b : UInt8) (k : Str) (n : Nat) (kept pend s : Str) :
    rmScan a b n (k ++ kept) pend s = k ++ rmScan a b n kept pend s := by
  fun_induction rmScan a b n kept pend s with
  | case1 => rw [rmScan, List.append_assoc]
  | case2 _ _ _ ih => rw [rmScan, if_pos rfl, ih]
  | case3 _ _ _ h => rw [rmScan, if_neg h, if_pos rfl, List.append_assoc]
  | case4 _ _ _ _ h1 h2 ih => rw [rmScan, if_neg h1, if_neg h2, List.append_assoc, ih]
  | case5 _ _ _ _ ih => rw [rmScan, if_pos rfl, ih]
  | case6 _ _ _ h ih => rw [rmScan, if_neg h, if_pos rfl, if_pos rfl, ih]
  | case7 _ _ _ _ hn h ih => rw [rmScan, if_neg h, if_pos rfl, if_neg hn, ih]
  | case8 _ _ _ _ _ h1 h2 ih => rw [rmScan, if_neg h1, if_neg h2, ih]

theorem rmScan_sublist (a b : UInt8) (n : Nat) (kept pend s : Str) :
    (rmScan a b n kept pend s).Sublist (kept ++ (pend ++ s)) := by
  fun_induction rmScan a b n kept pend s with
  | case1 => rw [List.append_nil]; exact .refl _
  | case2 kept pend cs ih => exact ih.trans ((List.sublist_append_right pend (a :: cs)).append_left kept)
  | case3 kept pend cs => exact (List.sublist_append_right pend _).append_left kept
  | case4 kept pend c cs _ _ ih =>
    rw [List.append_assoc] at ih
    exact ih.trans ((List.sublist_append_right pend (c :: cs)).append_left kept)
  | case5 _ kept pend cs ih => rw [List.append_cons pend a cs]; exact ih
  | case6 kept pend cs _ ih =>
    exact ih.trans (((List.sublist_cons_self b cs).trans (List.sublist_append_right pend _)).append_left kept)
  | case7 _ kept pend cs _ _ ih => rw [List.append_cons pend b cs]; exact ih
  | case8 _ kept pend c cs _ _ ih => rw [List.append_cons pend c cs]; exact ih

theorem removeMatching_sublist (s : Str) (a b : UInt8) : (removeMatching s a b).Sublist s :=
  rmScan_sublist a b 0 [] [] s

theorem rmScan_plain (a b : UInt8) (s rest : Str) (ha : a ∉ s) (hb : b ∉ s) :
    rmScan a b 0 [] [] (s ++ rest) = s ++ rmScan a b 0 [] [] rest := by
  induction s with
  | nil => simp
  | cons c cs ih =>
    simp only [List.mem_cons, not_or] at ha hb
    simp only [List.cons_append, rmScan]
    rw [if_neg (fun h => ha.1 h.symm), if_neg (fun h => hb.1 h.symm)]
    exact (rmScan_append a b [c] 0 [] [] _).trans (congrArg (c :: ·) (ih ha.2 hb.2))

theorem rmScan_group (a b : UInt8) (pend mid rest : Str) (hab : a ≠ b) (ha : a ∉ mid) (hb : b ∉ mid) :
    rmScan a b 1 [] pend (mid ++ b :: rest) = rmScan a b 0 [] [] rest := by
  induction mid generalizing pend with
  | nil =>
    simp only [List.nil_append, rmScan]
    rw [if_neg (fun h => hab h.symm)]; simp
  | cons c cs ih =>
    simp only [List.mem_cons, not_or] at ha hb
    simp only [List.cons_append, rmScan]
    rw [if_neg (fun h => ha.1 h.symm), if_neg (fun h => hb.1 h.symm)]
    exact ih _ ha.2 hb.2

theorem removeMatching_noop (s : Str) (a b : UInt8) (ha : a ∉ s) (hb : b ∉ s) :
    removeMatching s a b = s := by
  have := rmScan_plain a b s [] ha hb
  simpa [removeMatching, rmScan] using this

theorem removeMatching_group (pre mid post : Str) (a b : UInt8) (hab : a ≠ b)
    (ha1 : a ∉ pre) (hb1 : b ∉ pre) (ha2 : a ∉ mid) (hb2 : b ∉ mid) :
    removeMatching (pre ++ a :: (mid ++ b :: post)) a b = pre ++ removeMatching post a b := by
  unfold removeMatching
  rw [rmScan_plain a b pre _ ha1 hb1]
  congr 1
  simp only [rmScan, if_true]
  exact rmScan_group a b [a] mid post hab ha2 hb2

theorem heuristicName_ne_nil (opts : List DOpt) (sys : Str) (h : sys ≠ []) :
    heuristicName opts sys ≠ [] := by
  fun_cases heuristicName opts sys
  · exact h
  · assumption
  · exact h

/-- `demangleSingleFunction` rewrites the name only and, for a `demangle.Filter` that keeps names
non-empty, does not empty it. -/
theorem demangleSingle_spec (filter : List DOpt → Str → Str) (opts : List DOpt) (f : Function) :
    ∃ d, demangleSingle filter opts f = { f with name := d } ∧
      ((∀ o s, s ≠ [] → filter o s ≠ []) → f.name ≠ [] → d ≠ []) := by
  -- past the first test a non-empty name is the system name
  have hsys (hc : ¬ (f.name ≠ [] ∧ f.systemName ≠ f.name)) (h : f.name ≠ []) : f.systemName ≠ [] :=
    have e : f.systemName = f.name := Decidable.byContradiction fun e => hc ⟨h, e⟩
    e ▸ h
  fun_cases demangleSingle filter opts f
  case case1 => exact ⟨f.name, rfl, fun _ h => h⟩
  case case2 hc _ _ => exact ⟨_, rfl, fun hf h => hf _ _ (hsys hc h)⟩
  case case3 t _ _ hd =>
    refine ⟨_, rfl, fun hf _ => ?_⟩
    by_cases e : t = []
    · exact fun h2 => hd (h2.trans e.symm)
    · exact hf _ _ e
  case case4 hc _ _ _ _ _ _ => exact ⟨_, rfl, fun _ h => heuristicName_ne_nil _ _ (hsys hc h)⟩
  case case5 hc _ _ _ => exact ⟨_, rfl, fun _ h => heuristicName_ne_nil _ _ (hsys hc h)⟩

theorem forceReset_spec (f : Function) :
    ∃ d, forceReset f = { f with name := d } ∧ (f.name ≠ [] → d ≠ []) := by
  fun_cases forceReset f
  case case1 hc => exact ⟨_, rfl, fun _ => hc.2⟩
  case case2 => exact ⟨f.name, rfl, fun h => h⟩

theorem demangleOne_spec (filter : List DOpt → Str → Str) (force : Bool) (dm : DMode) (f : Function) :
    ∃ d, demangleOne filter force dm f = { f with name := d } ∧
      ((∀ o s, s ≠ [] → filter o s ≠ []) → f.name ≠ [] → d ≠ []) := by
  obtain ⟨d1, e1, n1⟩ : ∃ d, (if force then forceReset f else f) = { f with name := d } ∧
      (f.name ≠ [] → d ≠ []) := by
    split
    · exact forceReset_spec f
    · exact ⟨f.name, rfl, fun h => h⟩
  unfold demangleOne
  simp only []
  rw [e1]
  split
  · exact ⟨d1, rfl, fun _ => n1⟩
  · rename_i o os _
    obtain ⟨d2, e2, n2⟩ := demangleSingle_spec filter (o :: os) { f with name := d1 }
    exact ⟨d2, e2, fun hf h => n2 hf (n1 h)⟩

theorem demangleOne_name_ne_nil (filter : List DOpt → Str → Str)
    (hf : ∀ o s, s ≠ [] → filter o s ≠ []) (force : Bool) (dm : DMode) (f : Function)
    (h : f.name ≠ []) : (demangleOne filter force dm f).name ≠ [] := by
  obtain ⟨d, e, n⟩ := demangleOne_spec filter force dm f
  rw [e]
  exact n hf h

theorem demangleOne_frame (filter : List DOpt → Str → Str) (force : Bool) (dm : DMode) (f : Function) :
    (demangleOne filter force dm f).id = f.id ∧ (demangleOne filter force dm f).systemName = f.systemName ∧
    (demangleOne filter force dm f).filename = f.filename ∧ (demangleOne filter force dm f).startLine = f.startLine := by
  obtain ⟨d, e, _⟩ := demangleOne_spec filter force dm f
  rw [e]
  exact ⟨rfl, rfl, rfl, rfl⟩

end PV.Sym
