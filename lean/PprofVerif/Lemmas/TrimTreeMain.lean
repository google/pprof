import PprofVerif.Lemmas.TrimTreeNew
/-!
TrimTree applied to the output of `newTree`: from the invariant relative to the tree's edge table
to the specification over samples (`GSpec.trimEdgeSpec`).
-/
namespace PV.TrimTree
open PV PV.GSpec PV.Graph
variable {κ : Type} [DecidableEq κ]

theorem specE_eq_trimEdgeSpec (ss : List (GSample κ)) (R : List κ → Bool) (a b : List κ) :
    (specE (newTree ss).edges R a b).map (fun e => (e.weight, e.residual)) = trimEdgeSpec R ss a b := by
  unfold specE trimEdgeSpec
  cases hr : R b with
  | true => simp
  | false =>
    simp only [Bool.false_eq_true, if_false]
    have hex : (tfind (newTree ss).edges (b.dropLast, b)).isSome = edgeExists (ss.map treeSample) b.dropLast b := by
      rw [← thas_eq_tfind, ← tree_edge_exists_eq_spec]; rfl
    cases he : tfind (newTree ss).edges (b.dropLast, b) with
    | none =>
      rw [he] at hex
      simp [← hex]
    | some e =>
      rw [he] at hex
      simp only [Option.isSome_some] at hex
      rw [← hex]
      have hw : e.weight = edgeSpec (ss.map treeSample) b.dropLast b := by
        rw [← tree_edge_eq_spec]
        unfold GState.weight
        rw [tget_eq_tfind, he]; rfl
      have hres : e.residual = false := (newTree_edgesOK ss).2 _ (mem_of_tfind he)
      by_cases hn : nearestKept R b = some a
      · simp [hn, hw, hres]
      · have : (nearestKept R b == some a) = false := by simpa using hn
        simp [hn, this]

/-- what the edge specification says, spelled out: `a` is an ancestor of `b` that survives, every
node strictly between them was removed, and the edge is residual iff there is such a node (iff `a`
is not `b`'s own parent); a non-residual edge is the original edge with its weight. -/
theorem trimEdgeSpec_some {R : List κ → Bool} {ss : List (GSample κ)} {a b : List κ} {w : WD} {r : Bool}
    (h : trimEdgeSpec R ss a b = some (w, r)) :
    R b = false ∧ R a = false ∧ a ∈ ancestors b ∧
    (∀ x ∈ ancestors b, a.length < x.length → R x = true) ∧
    (r = true ↔ a ≠ b.dropLast) ∧ (r = true → R b.dropLast = true) ∧
    w = edgeSpec (ss.map treeSample) b.dropLast b ∧ edgeExists (ss.map treeSample) b.dropLast b = true := by
  unfold trimEdgeSpec at h
  cases hr : R b with
  | true => simp [hr] at h
  | false =>
    simp only [hr, Bool.false_eq_true, if_false] at h
    split at h
    · rename_i hc
      simp only [Bool.and_eq_true, beq_iff_eq] at hc
      obtain ⟨hex, hn⟩ := hc
      simp only [Option.some.injEq, Prod.mk.injEq] at h
      obtain ⟨hw, hrr⟩ := h
      obtain ⟨hmem, hRa⟩ := nearestKept_some hn
      refine ⟨rfl, hRa, hmem, fun x hx hlen => nearestKept_between hn hx hlen, ?_, ?_, hw.symm, hex⟩
      · rw [← hrr]; simp
      · intro hrt
        rw [← hrr] at hrt
        simp only [decide_eq_true_eq] at hrt
        exact (nearestKept_ne_parent hn hrt).2
    · simp at h

/-- TrimTree on a `newTree` output whose listed nodes are given in any order -/
theorem trimNewTree_ok (sortIn : ETable (List κ) → ETable (List κ)) (hsort : ∀ l, (sortIn l).Perm l)
    (K : List κ → Bool) (ss : List (GSample κ)) (nodes : List (List κ × NodeAcc))
    (hperm : nodes.Perm (newTree ss).shownNodes) :
    ∃ st, trimNewTree sortIn K (newTree ss) nodes = .ok st ∧
      Inv (newTree ss).edges (removedOf K (nodes.map Prod.fst)) st ∧
      st.nodes = nodes.filter (fun c => K c.1) := by
  have hnd : (nodes.map Prod.fst).Nodup :=
    (hperm.map Prod.fst).nodup_iff.mpr (shownNodes_keys_nodup _ (newTree_nodesNodup ss))
  exact trimTree_forest (newTree_pathForest ss) sortIn hsort K nodes hnd

end PV.TrimTree
