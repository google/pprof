import PprofVerif.Lemmas.FilterName
import Mathlib.Data.List.Forall2
/-! C06: corollaries of the name-filter rule (no hide/show case, what hide/show leave of a sample, order and data
preservation, totals) and the `FilterSamplesByTag` loop. -/
namespace PV.Filter
open PV PV.FilterSpec

theorem locHidden_none (p : Profile) (l : Location) : locHidden p none none l = false := by
  simp [locHidden, hiddenByHide, hideHit, hiddenByShow]

theorem filter_noHideShow (p : Profile) (wf : WF p) (fo ig : Option Rx)
    (h : ¬ (fo.isNone && ig.isNone) = true) :
    (filterSamplesByName p fo ig none none).profile =
      { p with samples := p.samples.filter (nameKeeps p fo ig) } := by
  unfold filterSamplesByName
  have hloc : p.locations.map (locAfter p none none) = p.locations := List.map_id _
  have hany : p.locations.any (locHidden p none none) = false := by
    simp [List.any_eq_false, locHidden_none]
  simp only [Option.isNone_none, Bool.and_true, h, Bool.false_eq_true, ↓reduceIte, hloc]
  congr 1
  rw [← List.filterMap_eq_filter]
  refine filterMap_congr_mem fun s hs => ?_
  unfold sampleStep
  rw [keepTest_eq_nameKeeps p fo ig s (wf.sampleLocs s hs), hany]
  simp [Option.guard]

theorem nameSpecSample_some (p : Profile) (fo ig hi sh : Option Rx) (s : Sample) (fs : List Frame)
    (h : nameSpecSample p fo ig hi sh s = some fs) :
    nameKeeps p fo ig s = true ∧ fs = (frames p s).filter (visible p hi sh) := by
  unfold nameSpecSample at h
  split at h
  · rename_i hk
    refine ⟨hk, ?_⟩
    simp only at h
    split at h
    · rename_i he
      split at h
      · cases h; exact (List.isEmpty_iff.mp he).symm
      · cases h
    · cases h; rfl
  · cases h

theorem nameSpec_visible (p : Profile) (fo ig hi sh : Option Rx)
    (hc : (fo.isNone && ig.isNone && hi.isNone && sh.isNone) = false) :
    (∀ v ∈ nameSpec p fo ig hi sh, ∃ s ∈ p.samples, nameKeeps p fo ig s = true ∧
        v = specView s ((frames p s).filter (visible p hi sh))) ∧
    (∀ s ∈ p.samples, nameKeeps p fo ig s = true → (frames p s).filter (visible p hi sh) ≠ [] →
        specView s ((frames p s).filter (visible p hi sh)) ∈ nameSpec p fo ig hi sh) := by
  simp only [nameSpec, hc, Bool.false_eq_true, ↓reduceIte, List.mem_filterMap]
  constructor
  · rintro v ⟨s, hs, hvs⟩
    obtain ⟨fs, hfs, rfl⟩ := Option.map_eq_some_iff.mp hvs
    obtain ⟨hk, rfl⟩ := nameSpecSample_some p fo ig hi sh s fs hfs
    exact ⟨s, hs, hk, rfl⟩
  · intro s hs hk hne
    exact ⟨s, hs, by simp [nameSpecSample, hk, hne]⟩

theorem filterMap_forall₂_sublist {α β} {P : β → α → Prop} {g : α → Option β} {l : List α}
    (h : ∀ a ∈ l, ∀ b, g a = some b → P b a) :
    ∃ os : List α, os.Sublist l ∧ List.Forall₂ P (l.filterMap g) os := by
  induction l with
  | nil => exact ⟨[], List.Sublist.slnil, List.Forall₂.nil⟩
  | cons a r ih =>
    obtain ⟨os, hsub, hfa⟩ := ih (fun x hx => h x (by simp [hx]))
    simp only [List.filterMap_cons]
    cases hg : g a with
    | none => exact ⟨os, List.Sublist.cons a hsub, hfa⟩
    | some b => exact ⟨a :: os, List.Sublist.cons_cons a hsub, List.Forall₂.cons (h a (by simp) b hg) hfa⟩

theorem nameSpec_preserves (p : Profile) (fo ig hi sh : Option Rx) :
    ∃ os : List Sample, os.Sublist p.samples ∧
      List.Forall₂ (fun v s => v.values = s.values ∧ v.label = s.label ∧ v.numLabel = s.numLabel ∧
          v.numUnit = s.numUnit ∧ v.frames.Sublist (frames p s)) (nameSpec p fo ig hi sh) os := by
  unfold nameSpec
  split
  · exact ⟨p.samples, List.Sublist.refl _,
      List.forall₂_map_left_iff.mpr (List.forall₂_same.mpr fun s _ => ⟨rfl, rfl, rfl, rfl, List.Sublist.refl _⟩)⟩
  · refine filterMap_forall₂_sublist fun s _ v hv => ?_
    obtain ⟨fs, hfs, rfl⟩ := Option.map_eq_some_iff.mp hv
    exact ⟨rfl, rfl, rfl, rfl, (nameSpecSample_some p fo ig hi sh s fs hfs).2 ▸ List.filter_sublist⟩

theorem total_filter_add (i : Nat) (q : Sample → Bool) (f : Sample → View) (l : List Sample) :
    total i ((l.filter q).map f) + total i ((l.filter (fun s => !q s)).map f) = total i (l.map f) := by
  simp only [total]
  induction l with
  | nil => rfl
  | cons a r ih =>
    cases hq : q a <;>
      simp only [List.filter_cons, hq, Bool.false_eq_true, ↓reduceIte, Bool.not_false, Bool.not_true,
        List.map_cons, List.sum_cons]
    · rw [Int.add_left_comm, ih]
    · rw [Int.add_assoc, ih]

theorem filterByTagLoop_eq (fo ig : Option TagMatch) (l acc : List Sample) (fm im : Bool) :
    filterByTagLoop fo ig l acc fm im =
      (acc.reverse ++ l.filter (fun s => tagFocused fo s && !tagIgnored ig s),
       fm || l.any (tagFocused fo), im || l.any (tagIgnored ig)) := by
  induction l generalizing acc fm im with
  | nil => simp [filterByTagLoop]
  | cons a r ih =>
    unfold filterByTagLoop
    simp only [ih, List.filter_cons, List.any_cons]
    cases tagFocused fo a <;> cases tagIgnored ig a <;> simp

end PV.Filter
