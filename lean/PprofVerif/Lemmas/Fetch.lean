import PprofVerif.Model.Fetch
/-!
Lemmas for C16 (`Props/C16.lean`) about `Model/Fetch.lean`; core Lean only.  Under a complete schedule every
slot holds its goroutine's result, so `concurrentGrab` has a closed form in `failures`/`successes` that does not
mention the schedule (`concurrentGrab_complete`).  `GroupSpec outs k pr acc` (printed lines and accumulator
describe exactly the sources `[0, k)`) is the invariant of the chunk loop; the flat grab meets it too, and it
determines count, indices and the abstraction of the merged profile (`GroupSpec.agree`): that is how chunked
and flat fetch are compared.
-/
namespace PV.Fetch
variable {ε α β : Type}

theorem complete_comm (outs : Nat → Res ε α) (s : Slots ε α) (i j : Nat) :
    complete outs (complete outs s i) j = complete outs (complete outs s j) i := by
  unfold complete
  by_cases h : i = j
  · subst h; rfl
  · exact List.set_comm _ _ h

theorem runSchedule_perm (outs : Nat → Res ε α) {π σ : List Nat} (h : π.Perm σ) :
    ∀ s : Slots ε α, runSchedule outs π s = runSchedule outs σ s := by
  induction h with
  | nil => intro s; rfl
  | cons x _ ih => intro s; exact ih (complete outs s x)
  | swap x y l => intro s; simp only [runSchedule, List.foldl_cons]; rw [complete_comm]
  | trans _ _ ih1 ih2 => intro s; rw [ih1, ih2]

theorem runSchedule_length (outs : Nat → Res ε α) (π : List Nat) :
    ∀ s : Slots ε α, (runSchedule outs π s).length = s.length := by
  induction π with
  | nil => intro s; rfl
  | cons x π ih => intro s; exact (ih _).trans List.length_set

theorem runSchedule_getElem? (outs : Nat → Res ε α) (π : List Nat) :
    ∀ (s : Slots ε α) (i : Nat), i < s.length →
      (runSchedule outs π s)[i]? = if i ∈ π then some (some (outs i)) else s[i]? := by
  induction π with
  | nil => intro s i _; rfl
  | cons x π ih =>
    intro s i hi
    rw [show runSchedule outs (x :: π) s = runSchedule outs π (complete outs s x) from rfl,
      ih _ i (List.length_set.symm ▸ hi)]
    by_cases h1 : i ∈ π
    · rw [if_pos h1, if_pos (List.mem_cons_of_mem _ h1)]
    · rw [if_neg h1, complete, List.getElem?_set]
      by_cases h2 : x = i
      · subst h2; rw [if_pos rfl, if_pos hi, if_pos List.mem_cons_self]
      · rw [if_neg h2, if_neg fun h => (List.mem_cons.mp h).elim (fun e => h2 e.symm) h1]

theorem runSchedule_complete (outs : Nat → Res ε α) (π : List Nat) (len : Nat) (hc : Complete π len) :
    runSchedule outs π (initSlots len) = (List.range len).map (fun i => some (outs i)) := by
  apply List.ext_getElem?
  intro i
  have hl : (initSlots len : Slots ε α).length = len := List.length_replicate
  by_cases hi : i < len
  · rw [runSchedule_getElem? outs π _ i (hl.symm ▸ hi), if_pos (hc i hi), List.getElem?_map,
      List.getElem?_range hi]
    rfl
  · rw [List.getElem?_eq_none (by rw [runSchedule_length, hl]; exact Nat.le_of_not_lt hi),
      List.getElem?_eq_none (by rw [List.length_map, List.length_range]; exact Nat.le_of_not_lt hi)]

theorem chunkSched_complete (π : List Nat) (n start e : Nat) (hc : Complete π n) (he : e ≤ n) :
    Complete (chunkSched π start e) (e - start) := fun j hj =>
  have hlt : start + j < e := Nat.lt_sub_iff_add_lt'.mp hj
  List.mem_map.mpr ⟨start + j, List.mem_filter.mpr ⟨hc _ (Nat.lt_of_lt_of_le hlt he),
    by simp [hlt]⟩, Nat.add_sub_cancel_left ..⟩

theorem slots_range' (outs : Nat → Res ε α) (off len : Nat) :
    (List.range len).map (fun i => some (outs (off + i)))
      = (List.range' off len).map (fun j => some (outs j)) := by
  rw [List.range'_eq_map_range]; simp [List.map_map, Function.comp_def]

theorem scanFrom_written (outs : Nat → Res ε α) (len : Nat) : ∀ off,
    scanFrom off ((List.range' off len).map (fun j => some (outs j)))
      = ⟨failures outs off len, .ok (successes outs off len)⟩ := by
  induction len with
  | zero => intro off; rfl
  | succ len ih =>
    intro off
    simp only [List.range'_succ, List.map_cons, failures, successes, List.filterMap_cons]
    cases h : outs off <;> simp [scanFrom, ih (off + 1), okAt, failAt, h, failures, successes]

theorem concurrentGrab_complete (merge : List α → Outcome α) (outs : Nat → Res ε α) (off len : Nat)
    (π : List Nat) (hc : Complete π len) :
    concurrentGrab merge outs off len π
      = ⟨failures outs off len, mergeCollected merge (successes outs off len)⟩ := by
  unfold concurrentGrab
  rw [runSchedule_complete _ π len hc, slots_range', scanFrom_written]

theorem okAt_eq_some {outs : Nat → Res ε α} {j : Nat} {x : Nat × α} :
    okAt outs j = some x ↔ x.1 = j ∧ outs j = .ok x.2 := by
  unfold okAt; cases outs j <;> simp [Prod.ext_iff, eq_comm]

theorem failAt_eq_some {outs : Nat → Res ε α} {j : Nat} {x : Nat × ε} :
    failAt outs j = some x ↔ x.1 = j ∧ outs j = .fail x.2 := by
  unfold failAt; cases outs j <;> simp [Prod.ext_iff, eq_comm]

theorem okAt_eq_none {outs : Nat → Res ε α} {j : Nat} : okAt outs j = none ↔ (outs j).isFail = true := by
  unfold okAt; cases outs j <;> simp [Res.isFail]

theorem Res.isFail_eq_not_isOk (r : Res ε α) : r.isFail = !r.isOk := by cases r <;> rfl

theorem successes_append (outs : Nat → Res ε α) (off a b : Nat) :
    successes outs off (a + b) = successes outs off a ++ successes outs (off + a) b := by
  simp [successes, ← List.filterMap_append, List.range'_append_1]

theorem failures_append (outs : Nat → Res ε α) (off a b : Nat) :
    failures outs off (a + b) = failures outs off a ++ failures outs (off + a) b := by
  simp [failures, ← List.filterMap_append, List.range'_append_1]

theorem mem_successes {outs : Nat → Res ε α} {off len : Nat} {x : Nat × α}
    (h : x ∈ successes outs off len) : off ≤ x.1 ∧ x.1 < off + len ∧ outs x.1 = .ok x.2 := by
  obtain ⟨j, hj, h3⟩ := List.mem_filterMap.mp h
  obtain ⟨rfl, h4⟩ := okAt_eq_some.mp h3
  exact ⟨(List.mem_range'_1.mp hj).1, (List.mem_range'_1.mp hj).2, h4⟩

theorem mem_failures {outs : Nat → Res ε α} {off len : Nat} {x : Nat × ε}
    (h : x ∈ failures outs off len) : off ≤ x.1 ∧ x.1 < off + len ∧ outs x.1 = .fail x.2 := by
  obtain ⟨j, hj, h3⟩ := List.mem_filterMap.mp h
  obtain ⟨rfl, h4⟩ := failAt_eq_some.mp h3
  exact ⟨(List.mem_range'_1.mp hj).1, (List.mem_range'_1.mp hj).2, h4⟩

theorem successes_fst (outs : Nat → Res ε α) (off len : Nat) :
    (successes outs off len).map (·.1) = (List.range' off len).filter (fun i => (outs i).isOk) := by
  unfold successes
  induction List.range' off len with
  | nil => rfl
  | cons x l ih => cases h : outs x <;> simp [okAt, h, Res.isOk, ih]

theorem failures_fst (outs : Nat → Res ε α) (off len : Nat) :
    (failures outs off len).map (·.1) = (List.range' off len).filter (fun i => (outs i).isFail) := by
  unfold failures
  induction List.range' off len with
  | nil => rfl
  | cons x l ih => cases h : outs x <;> simp [failAt, h, Res.isFail, ih]

theorem successes_eq_nil (outs : Nat → Res ε α) (off len : Nat) :
    successes outs off len = [] ↔ ∀ i, off ≤ i → i < off + len → (outs i).isFail = true := by
  simp only [successes, List.filterMap_eq_nil_iff, List.mem_range'_1, okAt_eq_none, and_imp]

theorem absSum_eq_none (add : β → β → β) (l : List β) : absSum add l = none ↔ l = [] := by
  cases l <;> simp [absSum]

theorem eq_none_iff_of_absSum {add : β → β → β} {abs : α → β} {p : Option α} {l : List β}
    (h : p.map abs = absSum add l) : p = none ↔ l = [] := by
  rw [← absSum_eq_none add, ← h, Option.map_eq_none_iff]

theorem absSum_append (add : β → β → β) (h : ∀ a b c, add (add a b) c = add a (add b c))
    (xs ys : List β) :
    absSum add (xs ++ ys) = match absSum add xs, absSum add ys with
      | none, b => b
      | some a, none => some a
      | some a, some b => some (add a b) := by
  haveI : Std.Associative add := ⟨h⟩
  cases xs with
  | nil => rfl
  | cons x xs =>
    cases ys with
    | nil => rw [List.append_nil]; rfl
    | cons y ys =>
      -- by associativity the fold over `y :: ys` may start from `y` and be added afterwards
      simp only [absSum, List.cons_append, List.foldl_append, List.foldl_cons, List.foldl_assoc]

variable {merge : List α → Outcome α} {Good : α → Prop} {abs : α → β} {add : β → β → β}

theorem mergeCollected_spec (hm : MergeSpec merge Good abs add)
    (S : List (Nat × α)) (hg : ∀ x, x ∈ S → Good x.2) :
    ∃ g, mergeCollected merge S = .ok g ∧ g.idx = S.map (·.1) ∧ g.count = S.length ∧
      (∀ p, g.p = some p → Good p) ∧ g.p.map abs = absSum add (S.map (fun x => abs x.2)) := by
  cases S with
  | nil => exact ⟨⟨none, 0, []⟩, rfl, rfl, rfl, by simp, by simp [absSum]⟩
  | cons o os =>
    obtain ⟨r, h1, h2, h3⟩ := hm.merge_ok o.2 (os.map (·.2)) fun y hy => by
      obtain ⟨x, hx, rfl⟩ := List.mem_map.mp (show y ∈ (o :: os).map (·.2) from hy)
      exact hg x hx
    refine ⟨⟨some r, (o :: os).length, (o :: os).map (·.1)⟩, ?_, rfl, rfl, ?_, ?_⟩
    · simp only [mergeCollected, List.map_cons, h1]
    · intro p hp; simp at hp; subst hp; exact h2
    · simp [absSum, h3, List.map_map, Function.comp_def]

theorem concurrentGrab_spec (hm : MergeSpec merge Good abs add) (outs : Nat → Res ε α) (n : Nat)
    (π : List Nat) (hg : ∀ i p, i < n → outs i = .ok p → Good p) (hc : Complete π n) :
    ∃ g, concurrentGrab merge outs 0 n π = ⟨failures outs 0 n, .ok g⟩ ∧
      GroupSpec Good abs add outs n (failures outs 0 n) g := by
  obtain ⟨g, h1, h2, h3, h4, h5⟩ := mergeCollected_spec hm (successes outs 0 n) fun x hx =>
    have ⟨_, k2, k3⟩ := mem_successes hx
    hg x.1 x.2 (Nat.zero_add n ▸ k2) k3
  exact ⟨g, by rw [concurrentGrab_complete merge outs 0 n π hc, h1], rfl, h2, h3, h4, h5⟩

theorem GroupSpec.agree {outs : Nat → Res ε α} {k : Nat} {pr pr' : List (Nat × ε)} {g g' : Grab α}
    (h : GroupSpec Good abs add outs k pr g) (h' : GroupSpec Good abs add outs k pr' g') :
    g.p.map abs = g'.p.map abs ∧ g.count = g'.count ∧ g.idx = g'.idx :=
  ⟨h.abs_eq.trans h'.abs_eq.symm, h.count.trans h'.count.symm, h.idx.trans h'.idx.symm⟩

theorem GroupSpec.count_eq_zero_iff {outs : Nat → Res ε α} {k : Nat} {pr : List (Nat × ε)} {g : Grab α}
    (h : GroupSpec Good abs add outs k pr g) : g.count = 0 ↔ ∀ i, i < k → (outs i).isFail = true := by
  rw [h.count, List.length_eq_zero_iff, successes_eq_nil]
  exact ⟨fun H i hi => H i (Nat.zero_le i) (by rwa [Nat.zero_add]),
    fun H i _ hi => H i (by rwa [Nat.zero_add] at hi)⟩

theorem GroupSpec.p_eq_none_iff {outs : Nat → Res ε α} {k : Nat} {pr : List (Nat × ε)} {g : Grab α}
    (h : GroupSpec Good abs add outs k pr g) : g.p = none ↔ g.count = 0 := by
  rw [eq_none_iff_of_absSum h.abs_eq, List.map_eq_nil_iff, h.count, List.length_eq_zero_iff]

theorem GroupSpec.abs_of_some {outs : Nat → Res ε α} {k : Nat} {pr : List (Nat × ε)} {g : Grab α}
    (h : GroupSpec Good abs add outs k pr g) {r : α} (hr : g.p = some r) :
    ∃ x xs, successes outs 0 k = x :: xs ∧ abs r = (xs.map fun y => abs y.2).foldl add (abs x.2) := by
  have habs := h.abs_eq
  rw [hr] at habs
  cases hs : successes outs 0 k with
  | nil => rw [hs] at habs; cases habs
  | cons x xs => rw [hs] at habs; exact ⟨x, xs, rfl, Option.some.inj habs⟩

/-- One iteration of `chunkedGrab`, the `switch` of fetch.go:186: `acc` describes the sources `[0, a)`, `ch` is
what `mergeCollected` makes of `[a, a + b)`; the accumulator the switch produces describes `[0, a + b)`. -/
theorem GroupSpec.append (hm : MergeSpec merge Good abs add) {outs : Nat → Res ε α} {a b : Nat}
    {pr : List (Nat × ε)} {acc : Grab α} (hs : GroupSpec Good abs add outs a pr acc)
    (hg : ∀ i p, i < a + b → outs i = .ok p → Good p) :
    ∃ ch, mergeCollected merge (successes outs a b) = .ok ch ∧
      match ch.p, acc.p with
      | none, _ => GroupSpec Good abs add outs (a + b) (pr ++ failures outs a b) acc
      | some q, none =>
        GroupSpec Good abs add outs (a + b) (pr ++ failures outs a b) ⟨some q, ch.count, ch.idx⟩
      | some q, some p => ∃ r, merge [p, q] = .ok r ∧
        GroupSpec Good abs add outs (a + b) (pr ++ failures outs a b)
          ⟨some r, acc.count + ch.count, acc.idx ++ ch.idx⟩ := by
  obtain ⟨ch, hch, hidx, hcnt, hgood, habs⟩ := mergeCollected_spec hm (successes outs a b) fun x hx =>
    have ⟨_, h2, h3⟩ := mem_successes hx
    hg x.1 x.2 h2 h3
  refine ⟨ch, hch, ?_⟩
  have hpr : pr ++ failures outs a b = failures outs 0 (a + b) := by
    rw [failures_append, hs.printed, Nat.zero_add]
  have hsucc : successes outs 0 (a + b) = successes outs 0 a ++ successes outs a b := by
    rw [successes_append, Nat.zero_add]
  cases hq : ch.p with
  | none =>
    rw [List.map_eq_nil_iff.mp ((eq_none_iff_of_absSum habs).mp hq), List.append_nil] at hsucc
    exact ⟨hpr, hsucc ▸ hs.idx, hsucc ▸ hs.count, hs.good, hsucc ▸ hs.abs_eq⟩
  | some q =>
    cases hp : acc.p with
    | none =>
      rw [List.map_eq_nil_iff.mp ((eq_none_iff_of_absSum hs.abs_eq).mp hp), List.nil_append] at hsucc
      exact ⟨hpr, hsucc ▸ hidx, hsucc ▸ hcnt, fun p hp' => hgood p (hq ▸ hp'), hsucc ▸ hq ▸ habs⟩
    | some p =>
      obtain ⟨r, hr1, hr2, hr3⟩ := hm.merge_ok p [q]
        (List.forall_mem_cons.mpr ⟨hs.good _ hp, List.forall_mem_singleton.mpr (hgood _ hq)⟩)
      refine ⟨r, hr1, hpr, ?_, ?_, fun p' hp' => Option.some.inj hp' ▸ hr2, ?_⟩
      · rw [hsucc, List.map_append, hs.idx, hidx]
      · rw [hsucc, List.length_append, hs.count, hcnt]
      · rw [hsucc, List.map_append, absSum_append add hm.assoc, ← hs.abs_eq, ← habs, hp, hq]
        exact congrArg some hr3

theorem chunkLoop_done {merge : List α → Outcome α} {outs : Nat → Res ε α} {c n : Nat} {π : List Nat}
    {fuel start : Nat} {pr : List (Nat × ε)} {acc : Grab α} (h : ¬ start < n) :
    chunkLoop merge outs c n π fuel start pr acc = ⟨pr, .ok acc⟩ := by
  cases fuel <;> simp [chunkLoop, h]

/-- fetch.go:181 `end := start + chunkSize; if end > len(sources) { end = len(sources) }` -/
theorem chunkEnd_eq_min (a n : Nat) : (if a > n then n else a) = min a n := by
  by_cases h : a ≤ n
  · rw [if_neg (Nat.not_lt.mpr h), Nat.min_eq_left h]
  · rw [if_pos (Nat.lt_of_not_le h), Nat.min_eq_right (Nat.le_of_not_le h)]

theorem chunkLoop_spec (hm : MergeSpec merge Good abs add) (outs : Nat → Res ε α) (c n : Nat)
    (π : List Nat) (hg : ∀ i p, i < n → outs i = .ok p → Good p) (hc : Complete π n) (hc1 : 1 ≤ c) :
    ∀ (fuel start : Nat) (pr : List (Nat × ε)) (acc : Grab α), n ≤ start + fuel →
      GroupSpec Good abs add outs (min start n) pr acc →
      ∃ acc', chunkLoop merge outs c n π fuel start pr acc = ⟨failures outs 0 n, .ok acc'⟩ ∧
        GroupSpec Good abs add outs n (failures outs 0 n) acc' := by
  intro fuel
  induction fuel with
  | zero =>
    intro start pr acc hf hs
    have hn : ¬ start < n := Nat.not_lt.mpr hf
    rw [Nat.min_eq_right (Nat.le_of_not_lt hn)] at hs
    exact ⟨acc, by rw [chunkLoop_done hn, hs.printed], hs.printed ▸ hs⟩
  | succ fuel ih =>
    intro start pr acc hf hs
    have hf' : n ≤ start + c + fuel := by omega
    by_cases hn : start < n
    · rw [Nat.min_eq_left (Nat.le_of_lt hn)] at hs
      have he : start + (min (start + c) n - start) = min (start + c) n :=
        Nat.add_sub_cancel' (Nat.le_min.mpr ⟨Nat.le_add_right start c, Nat.le_of_lt hn⟩)
      obtain ⟨ch, hch, hstep⟩ := hs.append hm (b := min (start + c) n - start) fun i p hi =>
        hg i p (Nat.lt_of_lt_of_le hi (he.symm ▸ Nat.min_le_right (start + c) n))
      rw [he] at hstep
      unfold chunkLoop
      simp only [hn, if_true, chunkEnd_eq_min, hch, concurrentGrab_complete merge outs start _ _
        (chunkSched_complete π n start _ hc (Nat.min_le_right _ _))]
      obtain ⟨_ | q, cnt, idx⟩ := ch
      · exact ih _ _ _ hf' hstep
      · obtain ⟨_ | p, cnt', idx'⟩ := acc
        · exact ih _ _ _ hf' hstep
        · obtain ⟨r, hr, hstep⟩ := hstep
          simp only [hr]
          exact ih _ _ _ hf' hstep
    · rw [Nat.min_eq_right (Nat.le_of_not_lt hn)] at hs
      exact ⟨acc, by rw [chunkLoop_done hn, hs.printed], hs.printed ▸ hs⟩

theorem chunkedGrab_spec (hm : MergeSpec merge Good abs add) (outs : Nat → Res ε α) (c n : Nat)
    (hc1 : 1 ≤ c) (π : List Nat) (hg : ∀ i p, i < n → outs i = .ok p → Good p) (hc : Complete π n) :
    ∃ g, chunkedGrab merge outs c n π = ⟨failures outs 0 n, .ok g⟩ ∧
      GroupSpec Good abs add outs n (failures outs 0 n) g :=
  chunkLoop_spec hm outs c n π hg hc hc1 n 0 [] ⟨none, 0, []⟩ (Nat.le_of_eq (Nat.zero_add n).symm)
    ((Nat.zero_min n).symm ▸ ⟨rfl, rfl, rfl, (fun _ h => by cases h), rfl⟩)

theorem chunkLoop_sched_indep (merge : List α → Outcome α) (outs : Nat → Res ε α) (c n : Nat)
    (π σ : List Nat) (hπ : Complete π n) (hσ : Complete σ n) :
    ∀ (fuel start : Nat) (pr : List (Nat × ε)) (acc : Grab α),
      chunkLoop merge outs c n π fuel start pr acc = chunkLoop merge outs c n σ fuel start pr acc := by
  intro fuel
  induction fuel with
  | zero => intro start pr acc; rfl
  | succ fuel ih =>
    intro start pr acc
    unfold chunkLoop
    by_cases hn : start < n
    · simp only [hn, if_true, chunkEnd_eq_min, ih,
        concurrentGrab_complete merge outs start _ _ (chunkSched_complete π n start _ hπ (Nat.min_le_right _ _)),
        concurrentGrab_complete merge outs start _ _ (chunkSched_complete σ n start _ hσ (Nat.min_le_right _ _))]
    · simp [hn]

/-- the shape of the `countsrc == 0` / `countbase == 0` checks at the end of `grabSourcesAndBases`. -/
theorem guarded_result {γ : Type} (c1 c2 : Prop) [Decidable c1] [Decidable c2] (e1 e2 : String) (x : γ) :
    let r : Outcome γ := if c1 then .err e1 else if c2 then .err e2 else .ok x
    (∀ s, r ≠ .panic s) ∧ ((∃ e, r = .err e) ↔ c1 ∨ c2) ∧
      ∀ b, r = .ok b → ¬ c1 ∧ ¬ c2 ∧ b = x := by
  by_cases h1 : c1
  · simp [h1]
  · by_cases h2 : c2 <;> simp [h1, h2, eq_comm]

theorem flatten_eq_foldl (xs : List (List Nat)) : ∀ x : List Nat, (x :: xs).flatten = xs.foldl (· ++ ·) x := by
  induction xs with
  | nil => intro x; simp
  | cons y ys ih => intro x; rw [List.foldl_cons, ← ih (x ++ y)]; simp

theorem catMerge_spec : MergeSpec catMerge (fun _ => True) (fun x => x) (· ++ ·) where
  assoc := fun a b c => List.append_assoc a b c
  merge_ok := by
    intro x xs _
    exact ⟨(x :: xs).flatten, rfl, trivial, by rw [List.map_id']; exact flatten_eq_foldl xs x⟩

theorem outsOfDescs_isOk (tag : Nat) (ds : List SrcDesc) (i : Nat) :
    (outsOfDescs tag ds i).isOk = (ds[i]?.map SrcDesc.fetchable).getD false := by
  unfold outsOfDescs
  cases ds[i]? with
  | none => rfl
  | some d => cases h : d.fetchable <;> simp [h, Res.isOk]

theorem outsOfDescs_isFail (tag : Nat) (ds : List SrcDesc) (i : Nat) :
    (outsOfDescs tag ds i).isFail = !(ds[i]?.map SrcDesc.fetchable).getD false := by
  rw [Res.isFail_eq_not_isOk, outsOfDescs_isOk]

theorem mem_commonTypes {m : List (List Nat)} (hm : m ≠ []) (t : Nat) :
    t ∈ commonTypes m ↔ ∀ s, s ∈ m → t ∈ s := by
  cases m with
  | nil => exact absurd rfl hm
  | cons f rest =>
    simp only [commonTypes, List.mem_filter, List.all_eq_true, List.contains_iff_mem, List.mem_cons,
      forall_eq_or_imp]

theorem chunkFactsOk_spec (size step span : Option Nat) (h : chunkFactsOk size step span = true) :
    (∀ c, size = some c → 1 ≤ c) ∧
    (∀ a b, step = some a → span = some b → a = b ∧ 1 ≤ a ∧ ∀ c, size = some c → b ≤ c) := by
  unfold chunkFactsOk at h
  rw [Bool.and_eq_true] at h
  obtain ⟨h1, h2⟩ := h
  constructor
  · intro c hc; subst hc; simpa using h1
  · intro a b ha hb
    subst ha; subst hb
    simp only [Bool.and_eq_true, decide_eq_true_eq] at h2
    obtain ⟨⟨h3, h4⟩, h5⟩ := h2
    refine ⟨h3, h4, ?_⟩
    intro c hc; subst hc; simpa using h5

theorem minFactor_perm {l l' : List (Nat × Nat)} (h : l.Perm l') : minFactor l = minFactor l' := by
  induction h with
  | nil => rfl
  | cons x _ ih => simp only [minFactor, ih]
  | swap x y l =>
    simp only [minFactor]
    cases minFactor l with
    | none => exact congrArg some (Nat.min_comm _ _)
    | some m => exact congrArg some (Nat.min_left_comm _ _ _)
  | trans _ _ ih1 ih2 => rw [ih1, ih2]

theorem convertedSum_perm (m : Nat) {l l' : List (Nat × Nat)} (h : l.Perm l') :
    convertedSum m l = convertedSum m l' := by
  induction h with
  | nil => rfl
  | cons x _ ih => simp only [convertedSum, ih]
  | swap x y l => simp only [convertedSum]; exact Nat.add_left_comm _ _ _
  | trans _ _ ih1 ih2 => rw [ih1, ih2]

end PV.Fetch
