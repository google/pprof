import PprofVerif.Lemmas.TrimTreeLoop
/-!
Structure of the graph `newTree` builds.  Edges: the edge table is a path-keyed forest
(`PathForest`) — an edge into a node comes from the node its path names —, no edge is residual, and
an edge is present iff some counted sample walks it.  Nodes: unique keys, a listed row carries the
specification's figures, a node is present iff some counted sample passes through its path, and the
node set is closed under ancestors.  A tree is the graph of the path-keyed samples
(`newTree_eq_newGraph`), so what holds of every `newGraph` is taken from there.
-/
namespace PV.Graph
open PV PV.GSpec PV.TrimTree
variable {κ : Type}

/-- the (parent path, child path) pairs the tree builder links while walking `fs` below `par`. -/
def treePairs : Option (List κ) → List κ → List (List κ × List κ)
  | _, [] => []
  | none, f :: fs => treePairs (some [f]) fs
  | some p, f :: fs => (p, p ++ [f]) :: treePairs (some (p ++ [f])) fs

theorem treePairs_some_eq_zip (fs : List κ) : ∀ (q : List κ),
    treePairs (some q) fs = (q :: pathsFrom q fs).zip (pathsFrom q fs) := by
  induction fs with
  | nil => intro q; simp [treePairs, pathsFrom_nil]
  | cons f fs ih =>
    intro q
    rw [pathsFrom_cons]
    simp only [treePairs, List.zip_cons_cons, ih]

theorem treePairs_none_eq_zip (fs : List κ) :
    treePairs none fs = (prefixes fs).zip (prefixes fs).tail := by
  cases fs with
  | nil => simp [treePairs, prefixes]
  | cons f r =>
    rw [prefixes_eq_pathsFrom, pathsFrom_cons]
    simp only [treePairs, List.nil_append, List.tail_cons]
    exact treePairs_some_eq_zip r [f]

theorem treePairs_some_shape (fs : List κ) : ∀ (q x y : List κ), q ≠ [] →
    (x, y) ∈ treePairs (some q) fs → 2 ≤ y.length ∧ x = y.dropLast := by
  induction fs with
  | nil => intro q x y _ h; simp [treePairs] at h
  | cons f fs ih =>
    intro q x y hq h
    simp only [treePairs, List.mem_cons, Prod.mk.injEq] at h
    rcases h with ⟨rfl, rfl⟩ | h
    · have : 0 < x.length := List.length_pos_iff.mpr hq
      simp; omega
    · exact ih (q ++ [f]) x y (by simp) h

theorem treePairs_none_shape {fs : List κ} {x y : List κ} (h : (x, y) ∈ treePairs none fs) :
    2 ≤ y.length ∧ x = y.dropLast := by
  cases fs with
  | nil => simp [treePairs] at h
  | cons f r => simp only [treePairs] at h; exact treePairs_some_shape r [f] x y (by simp) h

theorem treePairs_none_ne {fs : List κ} {x y : List κ} (h : (x, y) ∈ treePairs none fs) : x ≠ y := by
  obtain ⟨h2, rfl⟩ := treePairs_none_shape h
  intro e
  have := congrArg List.length e
  rw [List.length_dropLast] at this
  omega

theorem treePairs_some_closed (fs : List κ) : ∀ (q x y : List κ),
    (x, y) ∈ treePairs (some q) fs → x = q ∨ (x.dropLast, x) ∈ treePairs (some q) fs := by
  induction fs with
  | nil => intro q x y h; simp [treePairs] at h
  | cons f fs ih =>
    intro q x y h
    simp only [treePairs, List.mem_cons, Prod.mk.injEq] at h ⊢
    rcases h with ⟨rfl, _⟩ | h
    · exact Or.inl rfl
    · rcases ih (q ++ [f]) x y h with rfl | h'
      · right; left; simp
      · right; right; exact h'

theorem treePairs_none_closed {fs : List κ} {x y : List κ} (h : (x, y) ∈ treePairs none fs)
    (h2 : 2 ≤ x.length) : (x.dropLast, x) ∈ treePairs none fs := by
  cases fs with
  | nil => simp [treePairs] at h
  | cons f r =>
    simp only [treePairs] at h ⊢
    rcases treePairs_some_closed r [f] x y h with rfl | h'
    · simp at h2
    · exact h'

variable [DecidableEq κ]

/-- an edge of the call tree is present iff some counted sample has that adjacency on path keys -/
theorem tree_edge_exists_eq_spec (ss : List (GSample κ)) (a b : List κ) :
    (newTree ss).hasEdge a b = edgeExists (ss.map treeSample) a b := by
  rw [newTree_eq_newGraph, newGraph_hasEdge, edgeExistsK_allKept]

theorem newTree_hasEdge_iff (ss : List (GSample κ)) (x y : List κ) :
    (newTree ss).hasEdge x y = true ↔ ∃ s ∈ ss, counted s = true ∧ (x, y) ∈ treePairs none s.frames := by
  rw [tree_edge_exists_eq_spec, edgeExists, List.any_map, List.any_eq_true]
  refine exists_congr fun s => and_congr_right fun _ => ?_
  show (counted s && decide (x ≠ y) && adjacent x y (prefixes s.frames)) = true ↔ _
  rw [adjacent, ← treePairs_none_eq_zip]
  simp only [Bool.and_eq_true, decide_eq_true_eq, and_assoc]
  exact and_congr_right fun _ => ⟨fun h => h.2, fun h => ⟨treePairs_none_ne h, h⟩⟩

theorem forall_tupd {κ' α : Type} [DecidableEq κ'] (Q : α → Prop) (t : List (κ' × α)) (k : κ') (f : α → α) (d : α)
    (ht : ∀ x ∈ t, Q x.2) (hf : ∀ v, Q v → Q (f v)) (hd : Q (f d)) : ∀ x ∈ tupd t k f d, Q x.2 := by
  induction t with
  | nil => intro x hx; simp [tupd] at hx; subst hx; exact hd
  | cons hd' tl ih =>
    obtain ⟨k0, v0⟩ := hd'
    intro x hx
    by_cases h0 : k0 = k
    · simp only [tupd, h0, if_true, List.mem_cons] at hx
      rcases hx with rfl | hx
      · exact hf _ (ht (k0, v0) List.mem_cons_self)
      · exact ht x (List.mem_cons_of_mem _ hx)
    · simp only [tupd, h0, if_false, List.mem_cons] at hx
      rcases hx with rfl | hx
      · exact ht (k0, v0) List.mem_cons_self
      · exact ih (fun y hy => ht y (List.mem_cons_of_mem _ hy)) x hx

/-- edge-table facts preserved by every mutation the tree builder performs -/
def EdgesOK (g : GState (List κ)) : Prop := KeysNodup g.edges ∧ ∀ x ∈ g.edges, x.2.residual = false

theorem EdgesOK.addEdge {g : GState (List κ)} (h : EdgesOK g) (p n : List κ) (v : WD) :
    EdgesOK (g.addEdge p n v false) := by
  refine ⟨h.1.tupd _ _ _, ?_⟩
  unfold GState.addEdge
  apply forall_tupd (fun e : EdgeAcc => e.residual = false)
  · exact h.2
  · intro e he; simp [he]
  · simp [EdgeAcc.zero]

theorem newTree_edgesOK (ss : List (GSample κ)) : EdgesOK (newTree ss) := by
  rw [newTree_eq_newGraph]
  have hn := newGraph_edgesNodup allKept (ss.map treeSample)
  refine ⟨hn, fun ⟨⟨a, b⟩, e⟩ he => ?_⟩
  rw [← tget_of_mem _ hn (a, b) e EdgeAcc.zero he]
  exact (newGraph_residual allKept _ a b).trans (edgeResidualSpecK_allKept _ a b)

theorem newTree_pathForest (ss : List (GSample κ)) : PathForest (newTree ss).edges := by
  have hmem := fun a b e (he : ((a, b), e) ∈ (newTree ss).edges) =>
    (newTree_hasEdge_iff ss a b).mp (thas_of_mem he)
  refine ⟨(newTree_edgesOK ss).1, fun a b e he => ?_, fun a b e he h2 => ?_⟩
  · obtain ⟨s, _, _, hp⟩ := hmem a b e he
    exact treePairs_none_shape hp
  · obtain ⟨s, hs, hc, hp⟩ := hmem a b e he
    rw [← thas_eq_tfind]
    exact (newTree_hasEdge_iff ss _ _).mpr ⟨s, hs, hc, treePairs_none_closed hp h2⟩

def GState.hasNode (g : GState κ) (n : κ) : Bool := thas g.nodes n

@[simp] theorem addCum_hasNode (g : GState κ) (n m : κ) (v : WD) :
    (g.addCum n v).hasNode m = (g.hasNode m || decide (n = m)) := by
  unfold GState.addCum GState.hasNode; simp [thas_tupd]
@[simp] theorem addFlat_hasNode (g : GState κ) (n m : κ) (v : WD) :
    (g.addFlat n v).hasNode m = (g.hasNode m || decide (n = m)) := by
  unfold GState.addFlat GState.hasNode; simp [thas_tupd]
@[simp] theorem addEdge_hasNode (g : GState κ) (p n m : κ) (v : WD) (r : Bool) :
    (g.addEdge p n v r).hasNode m = g.hasNode m := rfl

theorem treeStep_hasNode (v : WD) (a : TInner κ) (f : κ) (m pp : List κ) (hpp : ppOf a.parent = pp) :
    (treeStep v a f).g.hasNode m = (a.g.hasNode m || decide (pp ++ [f] = m)) := by
  subst hpp
  unfold treeStep ppOf; cases a.parent <;> simp

theorem foldTree_hasNode (v : WD) (m : List κ) (fs : List κ) : ∀ (a : TInner κ) (pp : List κ), ppOf a.parent = pp →
    (fs.foldl (treeStep v) a).g.hasNode m = (a.g.hasNode m || decide (m ∈ pathsFrom pp fs)) := by
  induction fs with
  | nil => intro a pp _; simp [pathsFrom_nil]
  | cons f fs ih =>
    intro a pp hpp
    have hpar : ppOf (treeStep v a f).parent = pp ++ [f] := by rw [treeStep_parent, hpp]; rfl
    rw [List.foldl_cons, ih _ _ hpar, treeStep_hasNode v a f m pp hpp, pathsFrom_cons, Bool.or_assoc]
    simp only [List.mem_cons, Bool.decide_or, eq_comm]

theorem treeSampleStep_eq (g : GState (List κ)) (s : GSample κ) :
    treeSampleStep g s = if counted s = true then
      (match (s.frames.foldl (treeStep s.wd) ⟨g, none⟩).parent with
       | some p => (s.frames.foldl (treeStep s.wd) ⟨g, none⟩).g.addFlat p s.wd
       | none => (s.frames.foldl (treeStep s.wd) ⟨g, none⟩).g)
    else g := by
  rw [counted_eq, treeSampleStep]
  cases (s.d == 0 && s.w == 0) <;> rfl

theorem treeSampleStep_hasNode (g : GState (List κ)) (s : GSample κ) (m : List κ) :
    (treeSampleStep g s).hasNode m = (g.hasNode m || (counted s && decide (m ∈ prefixes s.frames))) := by
  rw [treeSampleStep_eq]
  cases counted s with
  | false => exact (Bool.or_false _).symm
  | true =>
    rw [if_pos rfl, Bool.true_and, foldTree_parent]
    by_cases hnil : s.frames = []
    · rw [if_pos hnil, foldTree_hasNode s.wd m s.frames ⟨g, none⟩ [] rfl, ← prefixes_eq_pathsFrom]
    · -- the leaf, which receives the flat value, is one of the nodes the walk has created
      simp only [if_neg hnil, ppOf, List.nil_append, addFlat_hasNode]
      rw [foldTree_hasNode s.wd m s.frames ⟨g, none⟩ [] rfl, ← prefixes_eq_pathsFrom, Bool.or_assoc]
      congr 1
      by_cases hm : s.frames = m
      · subst hm; simp [mem_prefixes_self hnil]
      · simp [hm]

theorem newTree_hasNode_iff (ss : List (GSample κ)) (m : List κ) :
    (newTree ss).hasNode m = true ↔ ∃ s ∈ ss, counted s = true ∧ m ∈ prefixes s.frames := by
  rw [newTree, foldl_any _ (·.hasNode m) _ (fun g s => treeSampleStep_hasNode g s m),
    show (GState.empty : GState (List κ)).hasNode m = false from rfl, Bool.false_or, List.any_eq_true]
  simp only [Bool.and_eq_true, decide_eq_true_eq]

theorem newTree_hasNode_ancestor (ss : List (GSample κ)) (b x : List κ)
    (hb : (newTree ss).hasNode b = true) (hx : x ∈ ancestors b) : (newTree ss).hasNode x = true := by
  obtain ⟨s, hs, hc, hm⟩ := (newTree_hasNode_iff ss b).mp hb
  exact (newTree_hasNode_iff ss x).mpr ⟨s, hs, hc, mem_prefixes_of_ancestor hm hx⟩

theorem newTree_hasNode_of_edge (ss : List (GSample κ)) (a b : List κ) (h : (newTree ss).hasEdge a b = true) :
    (newTree ss).hasNode b = true := by
  obtain ⟨s, hs, hc, hm⟩ := (newTree_hasEdge_iff ss a b).mp h
  rw [treePairs_none_eq_zip] at hm
  exact (newTree_hasNode_iff ss b).mpr ⟨s, hs, hc, (mem_zip_tail_mem hm).2⟩

theorem newTree_nodesNodup (ss : List (GSample κ)) : NodesNodup (newTree ss) :=
  newTree_eq_newGraph ss ▸ newGraph_nodesNodup allKept _

theorem tree_shownNodes_spec (ss : List (GSample κ)) (n : List κ) (a : NodeAcc)
    (h : (n, a) ∈ (newTree ss).shownNodes) :
    a.flat = flatSpec (ss.map treeSample) n ∧ a.cum = cumSpec (ss.map treeSample) n := by
  rw [newTree_eq_newGraph] at h
  exact (shownNodes_spec allKept _ n a h).2

omit [DecidableEq κ] in
theorem shownNodes_keys_nodup (g : GState κ) (h : NodesNodup g) : (g.shownNodes.map Prod.fst).Nodup := by
  unfold GState.shownNodes
  exact keysNodup_filter h _

end PV.Graph
