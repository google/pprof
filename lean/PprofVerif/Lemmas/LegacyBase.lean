import PprofVerif.Model.LegacyBase
/-!
Helper lemmas for C14 on the text machinery all formats share: where a span scanner halts (`Stops`),
byte classes, prefixes, lines without terminators (`LineOK`) and `bufio.ScanLines` on their renderings,
`trimSpace`, filler lines, unanchored search, lines starting with `---`.  Printed numbers and address
lists are in `LegacyNum`.
-/
namespace PV.Legacy
open PV

/-- `r` is empty or starts with a byte not satisfying `p`: where a span scanner over `p` halts -/
def Stops (p : UInt8 → Bool) (r : Str) : Prop := ∀ c t, r = c :: t → p c = false

@[simp] theorem Stops_nil (p : UInt8 → Bool) : Stops p [] := by intro c t h; cases h
@[simp] theorem Stops_cons (p : UInt8 → Bool) (c : UInt8) (t : Str) : Stops p (c :: t) ↔ p c = false := by
  constructor
  · intro h; exact h c t rfl
  · intro h c' t' e; cases e; exact h

theorem takeWhile_append_stops {p : UInt8 → Bool} {a r : Str} (ha : ∀ b ∈ a, p b = true) (hr : Stops p r) :
    (a ++ r).takeWhile p = a := by
  rw [List.takeWhile_append_of_pos ha]
  cases r with
  | nil => simp
  | cons c t => simp [(Stops_cons p c t).1 hr]

theorem dropWhile_append_stops {p : UInt8 → Bool} {a r : Str} (ha : ∀ b ∈ a, p b = true) (hr : Stops p r) :
    (a ++ r).dropWhile p = r := by
  rw [List.dropWhile_append_of_pos ha]
  cases r with
  | nil => simp
  | cons c t => simp [(Stops_cons p c t).1 hr]

theorem dropWhile_stops {p : UInt8 → Bool} {r : Str} (hr : Stops p r) : r.dropWhile p = r := by
  simpa using dropWhile_append_stops (a := []) (by simp) hr

theorem takeWhile_stops {p : UInt8 → Bool} {r : Str} (hr : Stops p r) : r.takeWhile p = [] := by
  simpa using takeWhile_append_stops (a := []) (by simp) hr

theorem takeWhile_of_all {p : UInt8 → Bool} {a : Str} (ha : ∀ b ∈ a, p b = true) : a.takeWhile p = a := by
  simpa using takeWhile_append_stops ha (Stops_nil p)

theorem dropWhile_of_all {p : UInt8 → Bool} {a : Str} (ha : ∀ b ∈ a, p b = true) : a.dropWhile p = [] := by
  simpa using dropWhile_append_stops ha (Stops_nil p)

theorem Stops_append_of_ne_nil {p : UInt8 → Bool} {a r : Str} (ha : a ≠ []) (h : Stops p a) : Stops p (a ++ r) := by
  cases a with
  | nil => exact absurd rfl ha
  | cons c t => simpa using h

theorem Stops_reverse_append {p : UInt8 → Bool} {a b : Str} (hb : b ≠ []) (h : Stops p b.reverse) :
    Stops p (a ++ b).reverse := by
  rw [List.reverse_append]
  exact Stops_append_of_ne_nil (by simpa using hb) h

theorem Stops_of_all {p : UInt8 → Bool} {s : Str} (h : ∀ b ∈ s, p b = false) : Stops p s ∧ Stops p s.reverse :=
  ⟨fun c t e => h c (by simp [e]), fun c t e => h c (List.mem_reverse.1 (by simp [e]))⟩

theorem Stops_of_class {p q : UInt8 → Bool} (hpq : ∀ b, p b = true → q b = false) {s : Str} (hne : s ≠ [])
    (hs : ∀ b ∈ s, p b = true) (r : Str) : Stops q (s ++ r) := by
  cases s with
  | nil => exact absurd rfl hne
  | cons c t => simpa using hpq c (hs c (by simp))

/-- `Stops` as a test, for literals -/
def stopsB (p : UInt8 → Bool) : Str → Bool
  | [] => true
  | c :: _ => !p c

theorem Stops_of_stopsB {p : UInt8 → Bool} {s : Str} (h : stopsB p s = true) : Stops p s := by
  cases s with
  | nil => simp
  | cons c t => simpa [stopsB] using h

/-!
`isDigit ⊆ isHexLower ⊆ isXDigit ⊆ isWord`; word bytes are printable and not blanks, and a byte of a
class differs from every byte outside it (`ne_of_class`), which is how the punctuation the formats
use (`$ [ ] = : # - (`) is kept apart from names and numbers. -/
theorem ne_of_class {p : UInt8 → Bool} {b c : UInt8} (hb : p b = true) (hc : p c = false) : b ≠ c :=
  fun e => by rw [e, hc] at hb; cases hb

theorem toNat_ne_of_class {p : UInt8 → Bool} {b c : UInt8} (hb : p b = true) (hc : p c = false) :
    b.toNat ≠ c.toNat := fun e => ne_of_class hb hc (UInt8.toNat_inj.1 e)

theorem isHexLower_of_isDigit {b : UInt8} (h : isDigit b = true) : isHexLower b = true := by simp [isHexLower, h]
theorem isXDigit_of_isHexLower {b : UInt8} (h : isHexLower b = true) : isXDigit b = true := by simp [isXDigit, h]
theorem isXDigit_of_isDigit {b : UInt8} (h : isDigit b = true) : isXDigit b = true :=
  isXDigit_of_isHexLower (isHexLower_of_isDigit h)

theorem isWord_toNat {b : UInt8} (h : isWord b = true) :
    (48 ≤ b.toNat ∧ b.toNat ≤ 57) ∨ (97 ≤ b.toNat ∧ b.toNat ≤ 122) ∨ (65 ≤ b.toNat ∧ b.toNat ≤ 90) ∨ b.toNat = 95 := by
  simpa [isWord, isDigit, or_assoc] using h

theorem isWord_of_isXDigit {b : UInt8} (h : isXDigit b = true) : isWord b = true := by
  simp only [isXDigit, isHexLower, Bool.or_eq_true, decide_eq_true_eq] at h
  rcases h with (h | h) | h
  · simp [isWord, h]
  · have : 97 ≤ b.toNat ∧ b.toNat ≤ 122 := ⟨h.1, by omega⟩
    simp [isWord, this]
  · have : 65 ≤ b.toNat ∧ b.toNat ≤ 90 := ⟨h.1, by omega⟩
    simp [isWord, this]

theorem isPrint_of_isWord {b : UInt8} (h : isWord b = true) : isPrint b = true := by
  have := isWord_toNat h
  simp only [isPrint, decide_eq_true_eq]; omega

/-- printable bytes are not the zero byte (`Stops (· == 0) l`: the text `l` does not start with one) -/
theorem isPrint_ne_zero {b : UInt8} (h : isPrint b = true) : (b == 0) = false :=
  beq_eq_false_iff_ne.2 (ne_of_class h (by decide))

theorem isSpace_false_of_isPrint {b : UInt8} (h : isPrint b = true) (h32 : b.toNat ≠ 32) : isSpace b = false := by
  simp only [isPrint, decide_eq_true_eq] at h
  simp only [isSpace, isReSpace, Bool.or_eq_false_iff, beq_eq_false_iff_ne]; omega

theorem isSpace_eq_false_of_isWord {b : UInt8} (h : isWord b = true) : isSpace b = false :=
  isSpace_false_of_isPrint (isPrint_of_isWord h) (toNat_ne_of_class h (c := 32) (by decide))

theorem isSpace_false_of_isHexLower {b : UInt8} (h : isHexLower b = true) : isSpace b = false :=
  isSpace_eq_false_of_isWord (isWord_of_isXDigit (isXDigit_of_isHexLower h))

theorem isSpace_false_of_isDigit {b : UInt8} (h : isDigit b = true) : isSpace b = false :=
  isSpace_false_of_isHexLower (isHexLower_of_isDigit h)

theorem isReSpace_false_of_isSpace {b : UInt8} (h : isSpace b = false) : isReSpace b = false := by
  simp only [isSpace, Bool.or_eq_false_iff] at h; exact h.1

theorem ne35_of_isDigit {b : UInt8} (h : isDigit b = true) : b.toNat ≠ 35 := toNat_ne_of_class h (c := 35) (by decide)
theorem ne45_of_isDigit {b : UInt8} (h : isDigit b = true) : b ≠ 45 := ne_of_class h (by decide)
theorem isHexLower_toNat {b : UInt8} (h : isHexLower b = false) : b.toNat ≠ 48 :=
  toNat_ne_of_class (p := fun b => !isHexLower b) (c := 48) (by simp [h]) (by decide)

theorem isSpace_32 : isSpace 32 = true := by decide

theorem isXDigit_32 : isXDigit 32 = false := by decide
theorem isXDigit_58 : isXDigit 58 = false := by decide
theorem isDigit_32 : isDigit 32 = false := by decide
theorem isDigit_58 : isDigit 58 = false := by decide
theorem isDigit_91 : isDigit 91 = false := by decide
theorem isDigit_93 : isDigit 93 = false := by decide

theorem isEmpty_false_of_ne_nil {s : Str} (h : s ≠ []) : s.isEmpty = false := List.isEmpty_eq_false_iff.2 h

@[simp] theorem stripPrefix_nil (s : Str) : stripPrefix [] s = some s := by cases s <;> rfl

theorem stripPrefix_append (l r : Str) : stripPrefix l (l ++ r) = some r := by
  induction l with
  | nil => simp
  | cons a l ih => simp [stripPrefix, ih]

theorem stripPrefix_self (l : Str) : stripPrefix l l = some [] := by
  have := stripPrefix_append l []
  rwa [List.append_nil] at this

theorem stripPrefix_eq_some {l s r : Str} (h : stripPrefix l s = some r) : s = l ++ r := by
  induction l generalizing s with
  | nil => simp at h; simp [h]
  | cons a l ih =>
    cases s with
    | nil => simp [stripPrefix] at h
    | cons b s =>
      simp only [stripPrefix] at h
      split at h
      · rename_i hab
        have : a = b := by simpa using hab
        subst this
        simp [ih h]
      · cases h

theorem stripPrefix_none_of_not_mem {l s : Str} {c : UInt8} (hc : c ∈ l) (h : c ∉ s) : stripPrefix l s = none := by
  cases hq : stripPrefix l s with
  | none => rfl
  | some r => exact absurd (stripPrefix_eq_some hq ▸ List.mem_append_left _ hc) h

theorem stripPrefix_cons_self (a : UInt8) (l s : Str) : stripPrefix (a :: l) (a :: s) = stripPrefix l s := by
  simp [stripPrefix]

theorem stripPrefix_cons_ne {a b : UInt8} (l s : Str) (h : a ≠ b) : stripPrefix (a :: l) (b :: s) = none := by
  simp [stripPrefix, h]

theorem stripPrefix_append_append (p k s : Str) : stripPrefix (p ++ k) (p ++ s) = stripPrefix k s := by
  induction p with
  | nil => rfl
  | cons a p ih => simpa [stripPrefix] using ih

theorem hasPrefix_append (l r : Str) : hasPrefix l (l ++ r) = true := by simp [hasPrefix, stripPrefix_append]

theorem hasPrefix_self (l : Str) : hasPrefix l l = true := by rw [hasPrefix, stripPrefix_self]; rfl

theorem hasPrefix_eq_append {l s : Str} (h : hasPrefix l s = true) : ∃ r, s = l ++ r := by
  unfold hasPrefix at h
  cases hq : stripPrefix l s with
  | none => rw [hq] at h; cases h
  | some r => exact ⟨r, stripPrefix_eq_some hq⟩

theorem hasPrefix_mem {l s : Str} (h : hasPrefix l s = true) : ∀ c ∈ l, c ∈ s := by
  obtain ⟨r, rfl⟩ := hasPrefix_eq_append h
  exact fun c hc => List.mem_append_left _ hc

theorem hasPrefix_append_of {p a : Str} (h : hasPrefix p a = true) (r : Str) : hasPrefix p (a ++ r) = true := by
  obtain ⟨t, rfl⟩ := hasPrefix_eq_append h
  rw [List.append_assoc]; exact hasPrefix_append _ _

theorem hasPrefix_dashes_ne {c : UInt8} (t : Str) (h : c ≠ 45) : hasPrefix (asc "---") (c :: t) = false := by
  have : asc "---" = 45 :: asc "--" := by decide +kernel
  rw [hasPrefix, this, stripPrefix_cons_ne _ _ (Ne.symm h)]; rfl

theorem mem_of_containsSub {l s : Str} (h : containsSub l s = true) : ∀ c ∈ l, c ∈ s := by
  induction s with
  | nil =>
    cases l with
    | nil => intro c hc; cases hc
    | cons _ _ => simp [containsSub] at h
  | cons b s ih =>
    simp only [containsSub, Bool.or_eq_true] at h
    rcases h with h | h
    · exact hasPrefix_mem h
    · intro c hc; exact List.mem_cons_of_mem _ (ih h c hc)

theorem containsSub_middle (m pre post : Str) : containsSub m (pre ++ (m ++ post)) = true := by
  induction pre with
  | nil =>
    cases hq : m ++ post with
    | nil =>
      have : m = [] := by cases m <;> simp_all
      subst this; simp [containsSub]
    | cons c r =>
      have hp : hasPrefix m (c :: r) = true := by rw [← hq]; exact hasPrefix_append m post
      simp [containsSub, hp]
  | cons b pre ih => simp [containsSub, ih]

theorem containsSub_self (l : Str) : containsSub l l = true := by
  simpa using containsSub_middle l [] []

/-- a line the printers may emit: no newline, no carriage return. -/
def LineOK (l : Str) : Prop := ∀ b ∈ l, b.toNat ≠ 10 ∧ b.toNat ≠ 13

instance (l : Str) : Decidable (LineOK l) := by unfold LineOK; infer_instance

theorem LineOK_append {a b : Str} (ha : LineOK a) (hb : LineOK b) : LineOK (a ++ b) :=
  List.forall_mem_append.2 ⟨ha, hb⟩
theorem LineOK_nil : LineOK [] := by intro b hb; cases hb
theorem LineOK_append_iff (a b : Str) : LineOK (a ++ b) ↔ LineOK a ∧ LineOK b := List.forall_mem_append
theorem LineOK_cons_iff (c : UInt8) (l : Str) : LineOK (c :: l) ↔ (c.toNat ≠ 10 ∧ c.toNat ≠ 13) ∧ LineOK l :=
  List.forall_mem_cons

theorem ne_of_not_mem {c : UInt8} {s : Str} (h : c ∉ s) : ∀ b ∈ s, b.toNat ≠ c.toNat :=
  fun b hb e => h (by rwa [← UInt8.toNat_inj.1 e])

theorem LineOK_of_not_mem {l : Str} (h10 : (10 : UInt8) ∉ l) (h13 : (13 : UInt8) ∉ l) : LineOK l :=
  fun b hb => ⟨ne_of_not_mem h10 b hb, ne_of_not_mem h13 b hb⟩

theorem LineOK_of_isPrint {l : Str} (h : ∀ b ∈ l, isPrint b = true) : LineOK l := by
  intro b hb
  have := h b hb
  simp only [isPrint, decide_eq_true_eq] at this
  omega

theorem LineOK_of_all_isPrint {l : Str} (h : l.all isPrint = true) : LineOK l :=
  LineOK_of_isPrint (by simpa [List.all_eq_true] using h)

theorem LineOK_of_isWord {n : Str} (h : ∀ b ∈ n, isWord b = true) : LineOK n :=
  LineOK_of_isPrint (fun b hb => isPrint_of_isWord (h b hb))

theorem dropCR_of_ok {l : Str} (h : LineOK l) : dropCR l = l := by
  unfold dropCR
  split
  · rename_i hl
    have : l.getLast? = some 13 := by simpa using hl
    have hm := List.mem_of_getLast? this
    exact absurd rfl (h 13 hm).2
  · rfl

theorem splitLinesAux_line (l rest acc : Str) (h : ∀ b ∈ l, b.toNat ≠ 10) :
    splitLinesAux (l ++ 10 :: rest) acc = dropCR (acc.reverse ++ l) :: splitLinesAux rest [] := by
  induction l generalizing acc with
  | nil => simp [splitLinesAux]
  | cons b l ih =>
    obtain ⟨hb, hl⟩ := List.forall_mem_cons.1 h
    simp only [List.cons_append, splitLinesAux, beq_iff_eq, hb, if_false]
    rw [ih (b :: acc) hl]
    simp

theorem splitLinesAux_last (l acc : Str) (h : ∀ b ∈ l, b.toNat ≠ 10) :
    splitLinesAux l acc = if (acc.reverse ++ l).isEmpty then [] else [dropCR (acc.reverse ++ l)] := by
  induction l generalizing acc with
  | nil => simp [splitLinesAux]
  | cons b l ih =>
    have hb : b.toNat ≠ 10 := h b (by simp)
    simp only [splitLinesAux, beq_iff_eq, hb, if_false]
    rw [ih (b :: acc) (fun x hx => h x (by simp [hx]))]
    simp

theorem splitLinesAux_eol (c : Bool) (l rest : Str) (h : LineOK l) :
    splitLinesAux (l ++ eol c ++ rest) [] = l :: splitLinesAux rest [] := by
  cases c with
  | false =>
    simp only [eol, Bool.false_eq_true, if_false, List.append_assoc, List.singleton_append]
    rw [splitLinesAux_line l rest [] (fun b hb => (h b hb).1)]
    simp [dropCR_of_ok h]
  | true =>
    have e : l ++ eol true ++ rest = (l ++ [13]) ++ 10 :: rest := by simp [eol]
    rw [e, splitLinesAux_line (l ++ [13]) rest [] (by
      intro b hb
      rcases List.mem_append.1 hb with hb | hb
      · exact (h b hb).1
      · simp at hb; subst hb; decide)]
    simp [dropCR]

/-- `bufio.ScanLines` reads the lines back whatever mixture of `\n` / `\r\n` terminates them, and
whether or not the last line is terminated (an unterminated EMPTY last line is no line). -/
theorem splitLines_renderLines (cs : List Bool) (noFinal : Bool) (ls : List Str) (h : ∀ l ∈ ls, LineOK l)
    (hlast : noFinal = true → ls.getLast? ≠ some []) : splitLines (renderLines cs noFinal ls) = ls := by
  unfold splitLines
  induction ls generalizing cs with
  | nil => simp [renderLines, splitLinesAux]
  | cons l r ih =>
    cases r with
    | nil =>
      have hl := h l (by simp)
      cases noFinal with
      | true =>
        have hne : l ≠ [] := by
          intro e; apply hlast rfl; simp [e]
        simp only [renderLines, if_true, List.append_nil]
        rw [splitLinesAux_last l [] (fun b hb => (hl b hb).1)]
        simp [hne, dropCR_of_ok hl]
      | false =>
        simp only [renderLines, Bool.false_eq_true, if_false]
        have := splitLinesAux_eol (cs.headD false) l [] hl
        simpa [splitLinesAux] using this
    | cons l2 r2 =>
      simp only [renderLines]
      rw [splitLinesAux_eol _ l _ (h l (by simp))]
      congr 1
      exact ih cs.tail (fun x hx => h x (by simp [hx])) (by
        intro hn; have := hlast hn; simpa [List.getLast?_cons_cons] using this)

theorem renderLines_unlines (ls : List Str) : renderLines [] false ls = unlines ls := by
  induction ls with
  | nil => rfl
  | cons l r ih =>
    cases r with
    | nil => simp [renderLines, unlines, eol]
    | cons l2 r2 =>
      simp only [renderLines, List.headD_nil, List.tail_nil]
      rw [ih]; simp [unlines, eol]

theorem splitLines_unlines (ls : List Str) (h : ∀ l ∈ ls, LineOK l) : splitLines (unlines ls) = ls := by
  rw [← renderLines_unlines]; exact splitLines_renderLines [] false ls h (fun hn => by cases hn)

theorem trimLeft_replicate (n : Nat) (body : Str) (h : Stops isSpace body) :
    trimLeft (List.replicate n 32 ++ body) = body := by
  unfold trimLeft
  exact dropWhile_append_stops (by intro b hb; rw [List.mem_replicate] at hb; rw [hb.2]; exact isSpace_32) h

theorem trimRight_of_stops {s : Str} (h : Stops isSpace s.reverse) : trimRight s = s := by
  unfold trimRight; rw [dropWhile_stops h]; simp

theorem trimSpace_replicate (n : Nat) (body : Str) (h1 : Stops isSpace body) (h2 : Stops isSpace body.reverse) :
    trimSpace (List.replicate n 32 ++ body) = body := by
  unfold trimSpace; rw [trimLeft_replicate n body h1, trimRight_of_stops h2]

theorem trimSpace_of_stops {body : Str} (h1 : Stops isSpace body) (h2 : Stops isSpace body.reverse) :
    trimSpace body = body := by
  simpa using trimSpace_replicate 0 body h1 h2

theorem trimSpace_blank (n : Nat) : trimSpace (List.replicate n 32) = [] := by
  simpa using trimSpace_replicate n [] (Stops_nil _) (Stops_nil _)

theorem trimRight_cons {c : UInt8} (t : Str) (hc : isSpace c = false) : ∃ t', trimRight (c :: t) = c :: t' := by
  have : ∃ l', (t.reverse ++ [c]).dropWhile isSpace = l' ++ [c] := by
    induction t.reverse with
    | nil => exact ⟨[], by simp [hc]⟩
    | cons b l ih =>
      obtain ⟨l', hl'⟩ := ih
      by_cases hb : isSpace b = true
      · exact ⟨l', by simp [hb, hl']⟩
      · exact ⟨b :: l, by simp [hb]⟩
  obtain ⟨l', hl'⟩ := this
  exact ⟨l'.reverse, by simp [trimRight, hl']⟩

theorem mem_of_mem_dropWhile {p : UInt8 → Bool} {b : UInt8} {s : Str} (h : b ∈ s.dropWhile p) : b ∈ s :=
  (List.dropWhile_sublist p).subset h

theorem trimSpace_mem {b : UInt8} {s : Str} (h : b ∈ trimSpace s) : b ∈ s := by
  unfold trimSpace trimRight trimLeft at h
  exact mem_of_mem_dropWhile (List.mem_reverse.1 (mem_of_mem_dropWhile (List.mem_reverse.1 h)))

theorem mem_takeWhile_sat {p : UInt8 → Bool} {b : UInt8} {s : Str} (h : b ∈ s.takeWhile p) : p b = true := by
  induction s with
  | nil => simp at h
  | cons c s ih =>
    simp only [List.takeWhile_cons] at h
    split at h
    · rcases List.mem_cons.1 h with rfl | h
      · assumption
      · exact ih h
    · simp at h

theorem trimSpace_decomp (s : Str) :
    ∃ pre suf, s = pre ++ (trimSpace s ++ suf) ∧ (∀ b ∈ pre, isSpace b = true) ∧ (∀ b ∈ suf, isSpace b = true) := by
  refine ⟨s.takeWhile isSpace, ((s.dropWhile isSpace).reverse.takeWhile isSpace).reverse, ?_,
    fun b hb => mem_takeWhile_sat hb, fun b hb => mem_takeWhile_sat (List.mem_reverse.1 hb)⟩
  have h3 : s.dropWhile isSpace =
      ((s.dropWhile isSpace).reverse.dropWhile isSpace).reverse ++ ((s.dropWhile isSpace).reverse.takeWhile isSpace).reverse := by
    rw [← List.reverse_append, List.takeWhile_append_dropWhile, List.reverse_reverse]
  conv => lhs; rw [← List.takeWhile_append_dropWhile (p := isSpace) (l := s), h3]
  rfl

theorem trimSpace_head_mem (A B : Str) (h : ∃ b ∈ A, isSpace b = false) : ∃ c t, trimSpace (A ++ B) = c :: t ∧ c ∈ A := by
  induction A with
  | nil => obtain ⟨b, hb, _⟩ := h; cases hb
  | cons a A ih =>
    cases ha : isSpace a with
    | true =>
      obtain ⟨b, hb, hs⟩ := h
      have hbA : b ∈ A := by
        rcases List.mem_cons.1 hb with rfl | hb
        · rw [ha] at hs; cases hs
        · exact hb
      obtain ⟨c, t, hct, hc⟩ := ih ⟨b, hbA, hs⟩
      refine ⟨c, t, ?_, List.mem_cons_of_mem _ hc⟩
      rw [← hct, trimSpace, trimSpace, trimLeft, trimLeft, List.cons_append, List.dropWhile_cons_of_pos ha]
    | false =>
      obtain ⟨t', ht'⟩ := trimRight_cons (A ++ B) ha
      exact ⟨a, t', by rw [trimSpace, trimLeft, List.cons_append, dropWhile_stops (by simpa using ha), ht'],
        List.mem_cons_self ..⟩

theorem isSpaceOrComment_head (n : Nat) {c : UInt8} (t : Str) (h1 : isSpace c = false) (h2 : c.toNat ≠ 35) :
    isSpaceOrComment (List.replicate n 32 ++ c :: t) = false := by
  unfold isSpaceOrComment trimSpace
  rw [trimLeft_replicate _ _ (by simpa using h1)]
  obtain ⟨t', ht'⟩ := trimRight_cons t h1
  rw [ht']; simp [h2]

theorem isSpaceOrComment_body (n : Nat) (c : UInt8) (t : Str) (hc : c.toNat ≠ 35) (h1 : isSpace c = false)
    (h2 : Stops isSpace (c :: t).reverse) : isSpaceOrComment (List.replicate n 32 ++ c :: t) = false :=
  isSpaceOrComment_head n t h1 hc

theorem Filler.trim (f : Filler) : trimSpace f.print = [] ∨ ∃ t, trimSpace f.print = 35 :: t := by
  unfold Filler.print
  cases f.comment with
  | none => exact Or.inl (by simpa using trimSpace_blank f.indent)
  | some t =>
    obtain ⟨t', ht'⟩ := trimRight_cons (c := 35) t (by decide)
    exact Or.inr ⟨t', by rw [trimSpace, trimLeft_replicate _ _ (by simp; decide), ht']⟩

theorem isSpaceOrComment_hash (t : Str) : isSpaceOrComment (35 :: t) = true := by
  obtain ⟨t', ht'⟩ := trimRight_cons (c := 35) t (by decide)
  rw [isSpaceOrComment, trimSpace, trimLeft, dropWhile_stops (by simp; decide), ht']; rfl

theorem isSpaceOrComment_filler (f : Filler) : isSpaceOrComment f.print = true := by
  unfold isSpaceOrComment
  rcases f.trim with h | ⟨t, h⟩ <;> rw [h] <;> rfl

/-- the loops that trim a line before they test it skip filler lines too -/
theorem trimSpace_filler (f : Filler) : isSpaceOrComment (trimSpace f.print) = true := by
  rcases f.trim with h | ⟨t, h⟩ <;> rw [h]
  · decide
  · exact isSpaceOrComment_hash t

theorem skipLeadingFillers_fillers {fs : List Filler} {l : Str} {rest : List Str} (hl : isSpaceOrComment l = false) :
    skipLeadingFillers (printFillers fs ++ l :: rest) = (l, rest) := by
  induction fs with
  | nil => simp [printFillers, skipLeadingFillers, hl]
  | cons f fs ih => simpa [printFillers, skipLeadingFillers, isSpaceOrComment_filler] using ih

theorem Filler.print_bytes {f : Filler} (h : f.wf = true) :
    ∀ b ∈ f.print, isPrint b = true ∧ b.toNat ≠ 58 ∧ b.toNat ≠ 61 ∧ b.toNat ≠ 36 := by
  intro b hb
  unfold Filler.print at hb
  rcases List.mem_append.1 hb with hb | hb
  · rw [(List.mem_replicate.1 hb).2]; decide
  · cases hc : f.comment with
    | none => simp [hc] at hb
    | some t =>
      rw [hc, List.mem_cons] at hb
      rcases hb with rfl | hb
      · decide
      · simp only [Filler.wf, hc, commentOK, List.all_eq_true] at h
        simpa [and_assoc] using h b hb

theorem LineOK_filler {f : Filler} (h : f.wf = true) : LineOK f.print :=
  LineOK_of_isPrint (fun b hb => (Filler.print_bytes h b hb).1)

theorem skipSp_stops {r : Str} (h : Stops (fun b => b.toNat == 32) r) : skipSp r = r := dropWhile_stops h

theorem Stops_sp32_cons {c : UInt8} (r : Str) (hc : c.toNat ≠ 32) : Stops (fun b => b.toNat == 32) (c :: r) := by
  simp [hc]

theorem searchRe_of_some {α} {m : Str → Option α} {s : Str} {a : α} (h : m s = some a) : searchRe m s = some a := by
  cases s with
  | nil => simpa [searchRe] using h
  | cons b t => simp [searchRe, h]

theorem searchRe_none_of_all {α} (m : Str → Option α) (P : Str → Prop)
    (hm : ∀ t, P t → m t = none) (htail : ∀ c t, P (c :: t) → P t) (s : Str) (hs : P s) : searchRe m s = none := by
  induction s with
  | nil => simpa [searchRe] using hm [] hs
  | cons c t ih =>
    simp only [searchRe, hm _ hs]
    exact ih (htail c t hs)

theorem searchRe_none_of_not_mem {α} (m : Str → Option α) (c : UInt8) (hm : ∀ t, c ∉ t → m t = none) (s : Str) (hs : c ∉ s) :
    searchRe m s = none :=
  searchRe_none_of_all m (c ∉ ·) hm (fun _ _ h hm => h (List.mem_cons_of_mem _ hm)) s hs

theorem searchRe_skip {α} (m : Str → Option α) {c0 : UInt8} (hm : ∀ c t, c ≠ c0 → m (c :: t) = none)
    (A B : Str) (hA : ∀ b ∈ A, b ≠ c0) : searchRe m (A ++ B) = searchRe m B := by
  induction A with
  | nil => rfl
  | cons c A ih =>
    simp only [List.cons_append, searchRe, hm c _ (hA c (by simp))]
    exact ih (fun b hb => hA b (by simp [hb]))

theorem searchRe_isSome_append {α} (m : Str → Option α) (a b : Str) (h : (m b).isSome = true) :
    (searchRe m (a ++ b)).isSome = true := by
  induction a with
  | nil =>
    cases hq : m b with
    | none => rw [hq] at h; cases h
    | some r => rw [List.nil_append, searchRe_of_some hq]; rfl
  | cons x a ih =>
    simp only [List.cons_append, searchRe]
    cases m (x :: (a ++ b)) with
    | none => exact ih
    | some r => rfl

/-- a line on which the contention and threadz record loops stop: already trimmed and starting with `---` -/
def IsBoundary (l : Str) : Prop := trimSpace l = l ∧ hasPrefix (asc "---") l = true

theorem dash_of_hasPrefix {l : Str} (h : hasPrefix (asc "---") l = true) : ∃ t, l = 45 :: t := by
  obtain ⟨r, rfl⟩ := hasPrefix_eq_append h
  exact ⟨45 :: 45 :: r, rfl⟩

theorem not_filler_of_dashes {l : Str} (h : hasPrefix (asc "---") l = true) : isSpaceOrComment l = false := by
  obtain ⟨t, rfl⟩ := dash_of_hasPrefix h
  exact isSpaceOrComment_head 0 _ (by decide) (by decide)

theorem IsBoundary.dash {l : Str} (h : IsBoundary l) : ∃ t, l = 45 :: t := dash_of_hasPrefix h.2

theorem IsBoundary.not_filler {l : Str} (h : IsBoundary l) : isSpaceOrComment l = false := not_filler_of_dashes h.2

theorem IsBoundary.intro {l : Str} (hp : hasPrefix (asc "---") l = true) (hr : Stops isSpace l.reverse) : IsBoundary l := by
  refine ⟨trimSpace_of_stops ?_ hr, hp⟩
  obtain ⟨t, rfl⟩ := dash_of_hasPrefix hp
  simp; decide

theorem not_filler_nor_dashes {s : Str} (hne : s ≠ []) (h1 : Stops isSpace s) (h35 : (35 : UInt8) ∉ s) (h45 : (45 : UInt8) ∉ s)
    (r : Str) : isSpaceOrComment (s ++ r) = false ∧ hasPrefix (asc "---") (s ++ r) = false := by
  cases s with
  | nil => exact absurd rfl hne
  | cons c t =>
    exact ⟨isSpaceOrComment_head 0 _ (by simpa using h1) (ne_of_not_mem h35 c (List.mem_cons_self ..)),
      hasPrefix_dashes_ne _ fun e => h45 (e ▸ List.mem_cons_self ..)⟩

theorem digit_line {c : UInt8} (t : Str) (hc : isDigit c = true) :
    isSpaceOrComment (c :: t) = false ∧ hasPrefix (asc "---") (c :: t) = false :=
  ⟨isSpaceOrComment_head 0 _ (isSpace_false_of_isDigit hc) (ne35_of_isDigit hc), hasPrefix_dashes_ne _ (ne45_of_isDigit hc)⟩

end PV.Legacy
