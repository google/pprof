import PprofVerif.Lemmas.Messages
/-!
Wire round trips of the nested messages `Sample`, `Location` and `Profile`
(`unmarshal (encode x) = ok x`), built from the flat-message round trips.
-/
namespace PV.Codec
open PV.Wire

def SampleX.WF (p : SampleX) : Prop :=
  (∀ x ∈ p.locationIDX, x < two64) ∧ (∀ v ∈ p.value, InI64 v) ∧ (∀ l ∈ p.labelX, l.WF) ∧
  (p.locationIDX.flatMap encodeVarint).length < two64 ∧
  ((p.value.map toU64).flatMap encodeVarint).length < two64 ∧
  (∀ l ∈ p.labelX, l.encode.length < two64)

def SampleX.fields (p : SampleX) : List Field :=
  fUint64s 1 p.locationIDX ++ fInt64s 2 p.value ++ p.labelX.map (fun l => fLen 3 l.encode)

theorem SampleX.decodes (p : SampleX) (h : p.WF) : Decodes p.encode (SampleX.fields p) :=
  Decodes.append (Decodes.append (Decodes.uint64s (smallTag 1) h.1 h.2.2.2.1) (Decodes.int64s (smallTag 2) h.2.2.2.2.1))
    (Decodes.messages LabelX.encode (smallTag 3) h.2.2.2.2.2)

theorem SampleX.applyAll_fields (p : SampleX) (h : p.WF) :
    applyAll SampleX.apply {} (SampleX.fields p) = .ok p :=
  applyAll_append_ok _ (applyAll_append_ok _
    (applyAll_uint64s SampleX.apply ⟨(·.locationIDX), fun m x => { m with locationIDX := x },
      fun _ _ => rfl, fun _ _ _ => rfl, fun _ => rfl⟩ (fun _ _ _ _ => rfl) h.1)
    (applyAll_int64s SampleX.apply ⟨(·.value), fun m x => { m with value := x },
      fun _ _ => rfl, fun _ _ _ => rfl, fun _ => rfl⟩ (fun _ _ _ _ => rfl) h.2.1))
    (applyAll_messages SampleX.apply ⟨(·.labelX), fun m x => { m with labelX := x },
      fun _ _ => rfl, fun _ _ _ => rfl, fun _ => rfl⟩ LabelX.apply {} LabelX.encode
      (fun _ _ => rfl) fun l hl => l.roundtrip (h.2.2.1 l hl))

theorem SampleX.roundtrip (p : SampleX) (h : p.WF) : decodeAll SampleX.apply {} p.encode = .ok p :=
  ((SampleX.decodes p h).decodeAll_eq _ _).trans (SampleX.applyAll_fields p h)

def LocationX.WF (p : LocationX) : Prop :=
  p.id < two64 ∧ p.mappingIDX < two64 ∧ p.address < two64 ∧ (∀ l ∈ p.line, l.WF) ∧
  (∀ l ∈ p.line, l.encode.length < two64)

def LocationX.fields (p : LocationX) : List Field :=
  fUint64Opt 1 p.id ++ fUint64Opt 2 p.mappingIDX ++ fUint64Opt 3 p.address ++
  p.line.map (fun l => fLen 4 l.encode) ++ fBoolOpt 5 p.isFolded

theorem LocationX.decodes (p : LocationX) (h : p.WF) : Decodes p.encode (LocationX.fields p) :=
  Decodes.append (Decodes.append (Decodes.append (Decodes.append
    (Decodes.uint64Opt (smallTag 1) h.1) (Decodes.uint64Opt (smallTag 2) h.2.1)) (Decodes.uint64Opt (smallTag 3) h.2.2.1))
    (Decodes.messages LineX.encode (smallTag 4) h.2.2.2.2)) (Decodes.boolOpt (smallTag 5))

theorem LocationX.applyAll_fields (p : LocationX) (h : p.WF) :
    applyAll LocationX.apply {} (LocationX.fields p) = .ok p :=
  applyAll_append_ok _ (applyAll_append_ok _ (applyAll_append_ok _ (applyAll_append_ok _
    (applyAll_uint64Opt LocationX.apply (fun m x => { m with id := x }) (fun _ => rfl) rfl)
    (applyAll_uint64Opt LocationX.apply (fun m x => { m with mappingIDX := x }) (fun _ => rfl) rfl))
    (applyAll_uint64Opt LocationX.apply (fun m x => { m with address := x }) (fun _ => rfl) rfl))
    (applyAll_messages LocationX.apply ⟨(·.line), fun m x => { m with line := x },
      fun _ _ => rfl, fun _ _ _ => rfl, fun _ => rfl⟩ LineX.apply {} LineX.encode
      (fun _ _ => rfl) fun l hl => l.roundtrip (h.2.2.2.1 l hl)))
    (applyAll_boolOpt LocationX.apply (fun m x => { m with isFolded := x }) (fun _ => rfl) rfl)

theorem LocationX.roundtrip (p : LocationX) (h : p.WF) : decodeAll LocationX.apply {} p.encode = .ok p :=
  ((LocationX.decodes p h).decodeAll_eq _ _).trans (LocationX.applyAll_fields p h)

/-- what survives of `PeriodType` on the wire: a nil pointer and an all-zero value are both
elided by `encode`, and the decoder then leaves the pointer nil. -/
def normPT : Option ValueTypeX → Option ValueTypeX
  | some pt => if pt.typeX ≠ 0 ∨ pt.unitX ≠ 0 then some pt else none
  | none => none

def fPeriodType : Option ValueTypeX → List Field
  | some pt => if pt.typeX ≠ 0 ∨ pt.unitX ≠ 0 then [fLen 11 pt.encode] else []
  | none => []

def ProfileX.WF (p : ProfileX) : Prop :=
  (∀ x ∈ p.sampleType, x.WF) ∧ (∀ x ∈ p.sample, x.WF) ∧ (∀ x ∈ p.mapping, x.WF) ∧
  (∀ x ∈ p.location, x.WF) ∧ (∀ x ∈ p.function, x.WF) ∧
  (p.stringTable = [] ∨ p.stringTable.head? = some []) ∧
  InI64 p.dropFramesX ∧ InI64 p.keepFramesX ∧ InI64 p.timeNanos ∧ InI64 p.durationNanos ∧
  (∀ pt, p.periodType = some pt → pt.WF) ∧ InI64 p.period ∧ (∀ c ∈ p.commentX, InI64 c) ∧
  InI64 p.defaultSampleTypeX ∧ InI64 p.docURLX

/-- size side conditions: every length-delimited body is shorter than 2^64 bytes -/
def ProfileX.Sized (p : ProfileX) : Prop :=
  (∀ x ∈ p.sampleType, x.encode.length < two64) ∧ (∀ x ∈ p.sample, x.encode.length < two64) ∧
  (∀ x ∈ p.mapping, x.encode.length < two64) ∧ (∀ x ∈ p.location, x.encode.length < two64) ∧
  (∀ x ∈ p.function, x.encode.length < two64) ∧ (∀ s ∈ p.stringTable, s.length < two64) ∧
  (∀ pt, p.periodType = some pt → pt.encode.length < two64) ∧
  ((p.commentX.map toU64).flatMap encodeVarint).length < two64

def ProfileX.fields (p : ProfileX) : List Field :=
  p.sampleType.map (fun x => fLen 1 x.encode) ++
  p.sample.map (fun x => fLen 2 x.encode) ++
  p.mapping.map (fun x => fLen 3 x.encode) ++
  p.location.map (fun x => fLen 4 x.encode) ++
  p.function.map (fun x => fLen 5 x.encode) ++
  p.stringTable.map (fLen 6) ++
  fInt64Opt 7 p.dropFramesX ++ fInt64Opt 8 p.keepFramesX ++
  fInt64Opt 9 p.timeNanos ++ fInt64Opt 10 p.durationNanos ++
  fPeriodType p.periodType ++
  fInt64Opt 12 p.period ++ fInt64s 13 p.commentX ++
  fInt64 14 p.defaultSampleTypeX ++ fInt64Opt 15 p.docURLX

def encPT : Option ValueTypeX → Bytes
  | some pt => if pt.typeX ≠ 0 ∨ pt.unitX ≠ 0 then encodeMessage 11 pt.encode else []
  | none => []

theorem decodes_periodType (o : Option ValueTypeX) (h : ∀ pt, o = some pt → pt.encode.length < two64) :
    Decodes (encPT o) (fPeriodType o) := by
  cases o with
  | none => exact Decodes.nil
  | some pt =>
    simp only [fPeriodType, encPT]
    split
    · exact Decodes.message (smallTag 11) (h pt rfl)
    · exact Decodes.nil

theorem ProfileX.decodes (p : ProfileX) (hs : p.Sized) : Decodes p.encode (ProfileX.fields p) := by
  obtain ⟨s1, s2, s3, s4, s5, s6, s7, s8⟩ := hs
  unfold ProfileX.encode ProfileX.fields
  exact Decodes.append (Decodes.append (Decodes.append (Decodes.append (Decodes.append (Decodes.append
    (Decodes.append (Decodes.append (Decodes.append (Decodes.append (Decodes.append (Decodes.append
    (Decodes.append (Decodes.append
      (Decodes.messages ValueTypeX.encode (smallTag 1) s1)
      (Decodes.messages SampleX.encode (smallTag 2) s2))
      (Decodes.messages MappingX.encode (smallTag 3) s3))
      (Decodes.messages LocationX.encode (smallTag 4) s4))
      (Decodes.messages FunctionX.encode (smallTag 5) s5))
      (Decodes.strings (smallTag 6) s6))
      (Decodes.int64Opt (smallTag 7))) (Decodes.int64Opt (smallTag 8)))
      (Decodes.int64Opt (smallTag 9))) (Decodes.int64Opt (smallTag 10)))
      (decodes_periodType p.periodType s7))
      (Decodes.int64Opt (smallTag 12))) (Decodes.int64s (smallTag 13) s8))
      (Decodes.int64 (smallTag 14))) (Decodes.int64Opt (smallTag 15))

/-- the decoder's rule for the string table: after every append, entry 0 must be empty -/
theorem ProfileX.apply_string (m : ProfileX) (s : Str) (h : ∀ s0 t, m.stringTable ++ [s] = s0 :: t → s0 = []) :
    ProfileX.apply m (fLen 6 s) = .ok { m with stringTable := m.stringTable ++ [s] } := by
  show (match m.stringTable ++ [s] with
    | [] => Outcome.panic "stringTable[0]: index out of range"
    | s0 :: _ => if s0 ≠ [] then Outcome.err "string_table[0] must be ''"
        else pure { m with stringTable := m.stringTable ++ [s] }) = _
  split
  · next ht => cases hm : m.stringTable <;> rw [hm] at ht <;> cases ht
  · next s0 t ht => cases h s0 t ht; rfl

theorem ProfileX.applyAll_strings (ss : List Str) (m : ProfileX)
    (h : ∀ s0 t, m.stringTable ++ ss = s0 :: t → s0 = []) :
    applyAll ProfileX.apply m (ss.map (fLen 6)) = .ok { m with stringTable := m.stringTable ++ ss } := by
  induction ss generalizing m with
  | nil => rw [List.append_nil]; rfl
  | cons s ss ih =>
    have hs : ∀ s0 t, m.stringTable ++ [s] = s0 :: t → s0 = [] := fun s0 t e =>
      h s0 (t ++ ss) (by rw [← List.cons_append, ← e, List.append_assoc]; rfl)
    rw [List.map_cons, applyAll_cons_ok _ (ProfileX.apply_string m s hs),
      ih _ (by rw [List.append_assoc]; exact h), List.append_assoc]
    rfl

theorem ProfileX.applyAll_periodType (m : ProfileX) (o : Option ValueTypeX) (hm : m.periodType = none)
    (h : ∀ pt, o = some pt → pt.WF) :
    applyAll ProfileX.apply m (fPeriodType o) = .ok { m with periodType := normPT o } := by
  have hnone : applyAll ProfileX.apply m [] = .ok { m with periodType := none } := by rw [← hm]; rfl
  cases o with
  | none => exact hnone
  | some pt =>
    simp only [fPeriodType, normPT]
    split
    · exact applyAll_single _ (by
        show (decodeMessage ValueTypeX.apply {} (fLen 11 pt.encode) >>= fun x => pure { m with periodType := some x }) = _
        rw [decodeMessage_fLen, pt.roundtrip (h pt rfl)]; rfl)
    · exact hnone

theorem ProfileX.applyAll_fields (p : ProfileX) (h : p.WF) :
    applyAll ProfileX.apply {} (ProfileX.fields p) = .ok { p with periodType := normPT p.periodType } := by
  obtain ⟨w1, w2, w3, w4, w5, w6, w7, w8, w9, w10, w11, w12, w13, w14, w15⟩ := h
  exact
  applyAll_append_ok _ (applyAll_append_ok _ (applyAll_append_ok _ (applyAll_append_ok _ (applyAll_append_ok _
  (applyAll_append_ok _ (applyAll_append_ok _ (applyAll_append_ok _ (applyAll_append_ok _ (applyAll_append_ok _
  (applyAll_append_ok _ (applyAll_append_ok _ (applyAll_append_ok _ (applyAll_append_ok _
    (applyAll_messages ProfileX.apply ⟨(·.sampleType), fun m x => { m with sampleType := x },
      fun _ _ => rfl, fun _ _ _ => rfl, fun _ => rfl⟩ ValueTypeX.apply {} ValueTypeX.encode
      (fun _ _ => rfl) fun x hx => x.roundtrip (w1 x hx))
    (applyAll_messages ProfileX.apply ⟨(·.sample), fun m x => { m with sample := x },
      fun _ _ => rfl, fun _ _ _ => rfl, fun _ => rfl⟩ SampleX.apply {} SampleX.encode
      (fun _ _ => rfl) fun x hx => x.roundtrip (w2 x hx)))
    (applyAll_messages ProfileX.apply ⟨(·.mapping), fun m x => { m with mapping := x },
      fun _ _ => rfl, fun _ _ _ => rfl, fun _ => rfl⟩ MappingX.apply {} MappingX.encode
      (fun _ _ => rfl) fun x hx => x.roundtrip (w3 x hx)))
    (applyAll_messages ProfileX.apply ⟨(·.location), fun m x => { m with location := x },
      fun _ _ => rfl, fun _ _ _ => rfl, fun _ => rfl⟩ LocationX.apply {} LocationX.encode
      (fun _ _ => rfl) fun x hx => x.roundtrip (w4 x hx)))
    (applyAll_messages ProfileX.apply ⟨(·.function), fun m x => { m with function := x },
      fun _ _ => rfl, fun _ _ _ => rfl, fun _ => rfl⟩ FunctionX.apply {} FunctionX.encode
      (fun _ _ => rfl) fun x hx => x.roundtrip (w5 x hx)))
    (ProfileX.applyAll_strings p.stringTable _ fun s0 t (e : p.stringTable = s0 :: t) => by
      rcases w6 with h0 | h0 <;> rw [e] at h0 <;> cases h0; rfl))
    (applyAll_int64Opt ProfileX.apply (fun m x => { m with dropFramesX := x }) (fun _ => rfl) w7 rfl))
    (applyAll_int64Opt ProfileX.apply (fun m x => { m with keepFramesX := x }) (fun _ => rfl) w8 rfl))
    (applyAll_int64Opt ProfileX.apply (fun m x => { m with timeNanos := x }) (fun _ => rfl) w9 rfl))
    (applyAll_int64Opt ProfileX.apply (fun m x => { m with durationNanos := x }) (fun _ => rfl) w10 rfl))
    (ProfileX.applyAll_periodType _ p.periodType rfl w11))
    (applyAll_int64Opt ProfileX.apply (fun m x => { m with period := x }) (fun _ => rfl) w12 rfl))
    (applyAll_int64s ProfileX.apply ⟨(·.commentX), fun m x => { m with commentX := x },
      fun _ _ => rfl, fun _ _ _ => rfl, fun _ => rfl⟩ (fun _ _ _ _ => rfl) w13))
    (applyAll_int64 ProfileX.apply (fun m x => { m with defaultSampleTypeX := x }) (fun _ => rfl) w14))
    (applyAll_int64Opt ProfileX.apply (fun m x => { m with docURLX := x }) (fun _ => rfl) w15 rfl)

/-- **Wire round trip of a whole profile message**: `unmarshal (encode x) = x`, up to the
elision of an all-zero `PeriodType`. -/
theorem unmarshal_encode (p : ProfileX) (h : p.WF) (hs : p.Sized) :
    unmarshal p.encode = .ok { p with periodType := normPT p.periodType } :=
  ((ProfileX.decodes p hs).decodeAll_eq ProfileX.apply {}).trans (ProfileX.applyAll_fields p h)

end PV.Codec
