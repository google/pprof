import PprofVerif.Model.Settings
/-! JSON round trip of saved fields and the frame property of save/delete (C19).  `keys`, the names
a codec stores a table under, also serves the URL codec (`SettingsURL`). -/
namespace PV.Settings

/-- a configuration that has one value of the right Go type per table row. -/
def Typed : List FieldSpec → Config → Prop
  | [], [] => True
  | f :: fs, v :: vs => hasKind f.kind v = true ∧ Typed fs vs
  | _, _ => False

instance Typed.dec : (fs : List FieldSpec) → (c : Config) → Decidable (Typed fs c)
  | [], [] => isTrue trivial
  | _ :: fs, _ :: vs => by
    unfold Typed
    exact @instDecidableAnd _ _ _ (Typed.dec fs vs)
  | [], _ :: _ => isFalse (by simp [Typed])
  | _ :: _, [] => isFalse (by simp [Typed])

theorem Typed.length : ∀ {fs : List FieldSpec} {c : Config}, Typed fs c → c.length = fs.length := by
  intro fs
  induction fs with
  | nil => exact fun {c} h => match c, h with | [], _ => rfl
  | cons f fs ih => exact fun {c} h => match c, h with | _ :: _, h => congrArg (· + 1) (ih h.2)

/-! The defining equations on cons cells, by `rfl`: the generated ones carry side conditions for the
overlapping catch-all pattern and are slow to use. -/

theorem toObj_cons (f : FieldSpec) (fs : List FieldSpec) (v : Val) (vs : Config) :
    toObj (f :: fs) (v :: vs) =
      if f.saved && !(f.omitempty && isZero v) then (f.name, v) :: toObj fs vs else toObj fs vs := rfl

theorem fromObj_cons (f : FieldSpec) (fs : List FieldSpec) (c : Val) (cs : Config) (o : Obj) :
    fromObj (f :: fs) (c :: cs) o =
      if f.saved then
        match olookup o f.name with
        | none => (fromObj fs cs o).map (zeroOf f.kind :: ·)
        | some v => if hasKind f.kind v then (fromObj fs cs o).map (v :: ·) else none
      else (fromObj fs cs o).map (c :: ·) := rfl

theorem restore_cons (f : FieldSpec) (fs : List FieldSpec) (c v : Val) (cs vs : Config) :
    restore (f :: fs) (c :: cs) (v :: vs) = (if f.saved then v else c) :: restore fs cs vs := rfl

theorem allDistinct_cons (x : Str) (r : List Str) :
    allDistinct (x :: r) = true ↔ x ∉ r ∧ allDistinct r = true := by
  simp [allDistinct]

/-- the keys under which a codec stores a table: `key` of the rows that `sel` selects (`jsonTableOK`
and `urlTableOK` ask for them to be distinct). -/
def keys (sel : FieldSpec → Bool) (key : FieldSpec → Str) (fs : List FieldSpec) : List Str :=
  (fs.filter sel).map key

section keys
variable {sel : FieldSpec → Bool} {key : FieldSpec → Str} {f : FieldSpec} {fs : List FieldSpec}

theorem keys_cons : keys sel key (f :: fs) = if sel f then key f :: keys sel key fs else keys sel key fs := by
  cases h : sel f <;> simp [keys, h]

theorem keys_sub (f : FieldSpec) {n : Str} (h : n ∈ keys sel key fs) : n ∈ keys sel key (f :: fs) := by
  rw [keys_cons]; split <;> simp [h]

theorem mem_keys (hf : f ∈ fs) (hs : sel f = true) : key f ∈ keys sel key fs :=
  List.mem_map.2 ⟨f, List.mem_filter.2 ⟨hf, hs⟩, rfl⟩

theorem distinct_keys_cons (h : allDistinct (keys sel key (f :: fs)) = true) :
    (sel f = true → key f ∉ keys sel key fs) ∧ allDistinct (keys sel key fs) = true := by
  rw [keys_cons] at h
  split at h
  · exact ⟨fun _ => ((allDistinct_cons _ _).1 h).1, ((allDistinct_cons _ _).1 h).2⟩
  · exact ⟨fun hs => absurd hs ‹_›, h⟩

end keys

abbrev savedNames : List FieldSpec → List Str := keys (·.saved) (·.name)

/-- the only value of a kind that `omitempty` drops is the one decoding puts back. -/
theorem isZero_zeroOf {k : Kind} {v : Val} (hk : hasKind k v = true) (hz : isZero v = true) :
    v = zeroOf k := by
  revert hk
  fun_cases hasKind k v <;> intro hk <;>
    first | exact Bool.noConfusion hk | simpa [isZero, zeroOf] using hz

theorem olookup_toObj_none (n : Str) (fs : List FieldSpec) (c : Config) (hn : n ∉ savedNames fs) :
    olookup (toObj fs c) n = none := by
  fun_induction toObj fs c with
  | case1 f fs v vs h ih =>
    simp only [Bool.and_eq_true] at h
    simp only [keys_cons, h.1, if_true, List.mem_cons, not_or] at hn
    simp [olookup, Ne.symm hn.1, ih hn.2]
  | case2 f fs v vs h ih => exact ih fun hm => hn (keys_sub f hm)
  | case3 => rfl

theorem fromObj_congr {o o' : Obj} (fs : List FieldSpec) (cur : Config)
    (h : ∀ n ∈ savedNames fs, olookup o n = olookup o' n) : fromObj fs cur o = fromObj fs cur o' := by
  induction fs generalizing cur with
  | nil => cases cur <;> rfl
  | cons f fs ih =>
    cases cur with
    | nil => rfl
    | cons c cs =>
      have ih := ih cs fun n hn => h n (keys_sub f hn)
      cases hs : f.saved
      · simp [fromObj_cons, hs, ih]
      · simp [fromObj_cons, hs, ih, ← h f.name (mem_keys List.mem_cons_self hs)]

/-- A saved row's entry, when kept, is at the head of the object and no later row reads it (distinct names); when
`omitempty` drops it, no later row has written under that name and the zero value decoding supplies is the value
dropped. -/
theorem fromObj_toObj_distinct (fs : List FieldSpec) (cur c : Config)
    (hd : allDistinct (savedNames fs) = true) (ht : Typed fs c) (hl : cur.length = fs.length) :
    fromObj fs cur (toObj fs c) = some (restore fs cur c) := by
  induction fs generalizing cur c with
  | nil => match cur, c, hl, ht with | [], [], _, _ => rfl
  | cons f fs ih =>
    match cur, c, hl, ht with
    | c0 :: cs, v :: vs, hl, ht =>
      obtain ⟨hfr, hd⟩ := distinct_keys_cons hd
      have ih := ih cs vs hd ht.2 (Nat.succ.inj hl)
      rw [fromObj_cons, toObj_cons, restore_cons]
      cases hs : f.saved
      · simp [ih]
      · by_cases hz : (f.omitempty && isZero v) = true
        · simp only [Bool.and_eq_true] at hz
          simp [hz, olookup_toObj_none f.name fs vs (hfr hs), ih, ← isZero_zeroOf ht.1 hz.2]
        · have : fromObj fs cs ((f.name, v) :: toObj fs vs) = fromObj fs cs (toObj fs vs) :=
            fromObj_congr fs cs fun n hn => by
              have : f.name ≠ n := fun e => hfr hs (e ▸ hn)
              simp [olookup, this]
          simp [hz, olookup, ht.1, this, ih]

theorem fromObj_toObj (fs : List FieldSpec) (hT : jsonTableOK fs = true) (cur c : Config)
    (ht : Typed fs c) (hl : cur.length = fs.length) :
    fromObj fs cur (toObj fs c) = some (restore fs cur c) := by
  simp only [jsonTableOK, Bool.and_eq_true] at hT
  exact fromObj_toObj_distinct fs cur c hT.1 ht hl

theorem toObj_restore (fs : List FieldSpec) (cur c : Config) (h1 : cur.length = fs.length)
    (h2 : c.length = fs.length) : toObj fs (restore fs cur c) = toObj fs c := by
  induction fs generalizing cur c with
  | nil => rfl
  | cons f fs ih =>
    match cur, c, h1, h2 with
    | _ :: cs, v :: vs, h1, h2 =>
      rw [restore_cons, toObj_cons, toObj_cons, ih cs vs (Nat.succ.inj h1) (Nat.succ.inj h2)]
      cases f.saved <;> rfl

theorem restore_typed : ∀ (fs : List FieldSpec) (cur c : Config), Typed fs cur → Typed fs c →
    Typed fs (restore fs cur c) := by
  intro fs
  induction fs with
  | nil => exact fun cur c h1 h2 => match cur, c, h1, h2 with | [], [], _, _ => trivial
  | cons f fs ih =>
    intro cur c h1 h2
    match cur, c, h1, h2 with
    | _ :: cs, _ :: vs, h1, h2 =>
      refine ⟨?_, ih cs vs h1.2 h2.2⟩
      cases f.saved
      · exact h1.1
      · exact h2.1

theorem decS_encS (fs : List FieldSpec) (hT : jsonTableOK fs = true) (cur : Config)
    (hl : cur.length = fs.length) (s : Settings) (h : ∀ p ∈ s, Typed fs p.2) :
    decS fs cur (encS fs s) = some (s.map (fun p => (p.1, restore fs cur p.2))) := by
  induction s with
  | nil => rfl
  | cons p r ih =>
    show (match fromObj fs cur (toObj fs p.2) with
      | none => none
      | some c => (decS fs cur (encS fs r)).map ((p.1, c) :: ·)) = _
    rw [fromObj_toObj fs hT cur p.2 (h p List.mem_cons_self) hl,
      ih fun q hq => h q (List.mem_cons_of_mem _ hq)]
    rfl

theorem encS_restore (fs : List FieldSpec) (cur : Config) (hl : cur.length = fs.length)
    (s : Settings) (h : ∀ p ∈ s, p.2.length = fs.length) :
    encS fs (s.map (fun p => (p.1, restore fs cur p.2))) = encS fs s := by
  unfold encS
  rw [List.map_map]
  exact List.map_congr_left fun p hp => by simp [toObj_restore fs cur p.2 hl (h p hp)]

theorem setEntry_others (a : Str) (cfg : Config) (s : Settings) :
    (setEntry a cfg s).filter (fun p => decide (p.1 ≠ a)) = s.filter (fun p => decide (p.1 ≠ a)) := by
  fun_induction setEntry a cfg s with
  | case1 => simp
  | case2 c r => simp
  | case3 n c r h ih => simp only [List.filter_cons, ih]

theorem removeEntry_others (a : Str) (s s' : Settings) (h : removeEntry a s = some s') :
    s'.filter (fun p => decide (p.1 ≠ a)) = s.filter (fun p => decide (p.1 ≠ a)) := by
  fun_induction removeEntry a s generalizing s' with
  | case1 => cases h
  | case2 c r => cases h; simp
  | case3 n c r hn ih =>
    obtain ⟨r', hr, rfl⟩ := Option.map_eq_some_iff.1 h
    simp only [List.filter_cons, ih r' hr]

theorem setEntry_find (a : Str) (cfg : Config) (s : Settings) :
    (setEntry a cfg s).find? (fun p => decide (p.1 = a)) = some (a, cfg) := by
  fun_induction setEntry a cfg s with
  | case1 => simp
  | case2 c r => simp
  | case3 n c r h ih => simp [h, ih]

theorem removeEntry_length (a : Str) (s s' : Settings) (h : removeEntry a s = some s') :
    s'.length + 1 = s.length ∧ (s'.filter (fun p => decide (p.1 = a))).length + 1 = (s.filter (fun p => decide (p.1 = a))).length := by
  fun_induction removeEntry a s generalizing s' with
  | case1 => cases h
  | case2 c r => cases h; simp
  | case3 n c r hn ih =>
    obtain ⟨r', hr, rfl⟩ := Option.map_eq_some_iff.1 h
    simp [hn, ih r' hr]

/-- name a request is about. -/
def Req.name : Req → Str
  | .save q => qget q b!"config"
  | .delete n => n

theorem edit_others (fo : FloatOps) (fs : List FieldSpec) (cur : Config) (r : Req) (s s' : Settings)
    (h : r.edit fo fs cur s = some s') :
    s'.filter (fun p => decide (p.1 ≠ r.name)) = s.filter (fun p => decide (p.1 ≠ r.name)) := by
  cases r with
  | save q =>
    simp only [Req.edit] at h
    split at h
    · cases h
    · split at h
      · cases h
      · cases h; exact setEntry_others _ _ s
  | delete n => exact removeEntry_others n s s' h

/-- lists that agree on the entries not named `a` agree on the entries named `b ≠ a`: these are among
the former. -/
theorem filter_name_of_ne {α : Type} {a b : Str} (hb : b ≠ a) {l l' : List (Str × α)}
    (h : l'.filter (fun p => decide (p.1 ≠ a)) = l.filter (fun p => decide (p.1 ≠ a))) :
    l'.filter (fun p => decide (p.1 = b)) = l.filter (fun p => decide (p.1 = b)) := by
  have e : (fun p : Str × α => decide (p.1 = b) && decide (p.1 ≠ a)) = fun p => decide (p.1 = b) :=
    funext fun p => by by_cases h : p.1 = b <;> simp [h, hb]
  simpa only [List.filter_filter, e] using congrArg (List.filter fun p => decide (p.1 = b)) h

theorem encS_filter (fs : List FieldSpec) (P : Str → Bool) (s : Settings) :
    (encS fs s).filter (fun p => P p.1) = encS fs (s.filter (fun p => P p.1)) := by
  simp [encS, List.filter_map, Function.comp_def]

theorem handleObj_fail (fo : FloatOps) (fs : List FieldSpec) (cur : Config) (file : Option FileObj) (r : Req)
    (h : (handleObj fo fs cur file r).2 = false) : (handleObj fo fs cur file r).1 = file := by
  unfold handleObj at h ⊢
  split <;> try rfl
  split <;> try rfl
  split
  · simp_all
  · rfl

theorem handleObj_frame (fo : FloatOps) (fs : List FieldSpec) (hT : jsonTableOK fs = true) (cur : Config)
    (hl : cur.length = fs.length) (s : Settings) (hs : ∀ p ∈ s, Typed fs p.2) (r : Req) (b : Str)
    (hb : b ≠ r.name) (h : (handleObj fo fs cur (some (encS fs s)) r).2 = true) :
    ∃ d', (handleObj fo fs cur (some (encS fs s)) r).1 = some d' ∧
      d'.filter (fun p => decide (p.1 = b)) = (encS fs s).filter (fun p => decide (p.1 = b)) := by
  unfold handleObj at h ⊢
  simp only [decS_encS fs hT cur hl s hs] at h ⊢
  cases he : r.edit fo fs cur (s.map (fun p => (p.1, restore fs cur p.2))) with
  | none => simp [he] at h
  | some s' =>
    simp only [he] at h ⊢
    split at h
    · rw [if_pos ‹_›]
      refine ⟨_, rfl, filter_name_of_ne hb ?_⟩
      rw [encS_filter fs (fun n => decide (n ≠ r.name)) s', edit_others fo fs cur r _ s' he,
        ← encS_filter fs (fun n => decide (n ≠ r.name)),
        encS_restore fs cur hl s (fun p hp => (hs p hp).length)]
    · cases h

end PV.Settings
