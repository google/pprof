import PprofVerif.Model.SymIds
/-! Lemmas about first-come numbering (C08, local symbolization). -/
namespace PV.SymIds

theorem assign_keys (start : Nat) : ∀ (ks seen : List Str), (assign start seen ks).map Prod.fst = ks
  | [], _ => rfl
  | k :: ks, seen => by
    unfold assign
    cases h : indexOf k seen <;> simp [assign_keys start ks]

theorem indexOf_lt : ∀ (k : Str) (l : List Str) (i : Nat), indexOf k l = some i → i < l.length
  | _, [], _, h => by simp [indexOf] at h
  | k, x :: xs, i, h => by
    unfold indexOf at h
    by_cases hx : x = k
    · simp [hx] at h; subst h; simp
    · simp only [hx, if_false, Option.map_eq_some_iff] at h
      obtain ⟨j, hj, rfl⟩ := h
      have := indexOf_lt k xs j hj
      simp; omega

theorem indexOf_append (k : Str) (r : List Str) : ∀ l : List Str,
    indexOf k (l ++ r) = match indexOf k l with
      | some i => some i
      | none => (indexOf k r).map (· + l.length)
  | [] => by simp [indexOf]
  | x :: xs => by
    by_cases hx : x = k
    · simp [indexOf, hx]
    · simp only [List.cons_append, indexOf, hx, if_false, indexOf_append k r xs, List.length_cons]
      cases indexOf k xs with
      | some i => rfl
      | none => simp [Option.map_map, Function.comp_def, Nat.add_assoc]

theorem indexOf_append_self (k : Str) : ∀ (l : List Str), indexOf k l = none → indexOf k (l ++ [k]) = some l.length
  | l, h => by rw [indexOf_append, h]; simp [indexOf]

theorem indexOf_append_of_some (k x : Str) : ∀ (l : List Str) (i : Nat), indexOf k l = some i → indexOf k (l ++ [x]) = some i
  | l, i, h => by rw [indexOf_append, h]

theorem length_le_added (ks seen : List Str) : seen.length ≤ (added seen ks).length := by
  induction ks generalizing seen with
  | nil => exact Nat.le_refl _
  | cons k ks ih =>
    unfold added
    cases indexOf k seen with
    | some i => exact ih seen
    | none =>
      refine Nat.le_trans ?_ (ih (seen ++ [k]))
      rw [List.length_append]; exact Nat.le_add_right _ _

theorem assign_ids_in_range (start : Nat) (ks seen : List Str) (p : Str × Nat)
    (h : p ∈ assign start seen ks) : start < p.2 ∧ p.2 ≤ start + (added seen ks).length := by
  induction ks generalizing seen with
  | nil => exact nomatch h
  | cons k ks ih =>
    -- the id of `k` is `start + 1 + i` for a position `i` in the list `seen'` the walk goes on with
    have head : ∀ (seen' : List Str) (i : Nat), i < seen'.length →
        start < start + 1 + i ∧ start + 1 + i ≤ start + (added seen' ks).length := fun seen' i hi => by
      have := length_le_added ks seen'
      omega
    unfold assign at h
    unfold added
    cases hk : indexOf k seen with
    | some i =>
      rw [hk] at h
      rcases List.mem_cons.mp h with rfl | h
      · exact head seen i (indexOf_lt k seen i hk)
      · exact ih seen h
    | none =>
      rw [hk] at h
      rcases List.mem_cons.mp h with rfl | h
      · exact head (seen ++ [k]) seen.length (by simp)
      · exact ih (seen ++ [k]) h

end PV.SymIds
