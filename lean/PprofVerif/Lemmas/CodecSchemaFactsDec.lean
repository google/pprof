import PprofVerif.Lemmas.CodecSchemaInterp
import PprofVerif.Spec.CodecSchemaExpected
import PprofVerif.Model.IdTables
/-!
The DECODER side of the regenerated wire schema (`Gen/CodecSchema.lean`) against the model: what
parsing (C02) depends on.  A change that touches only the encoders, the packed threshold or
preEncode breaks nothing in this file (it breaks `Lemmas/CodecSchemaFacts.lean`, which C01 uses).
-/
namespace PV.CodecSchema.Facts
open PV PV.Wire PV.Codec PV.CodecSchema PV.Spec.CodecSchemaExpected

/-- The decoder tables, interpreted generically (`dec[b.field]`, out of range ⇒ skipped), are the
model's `apply` functions — for every wire field, including field numbers outside the tables. -/
theorem schema_decoders_are_model :
    (∀ (m : ProfileX) (f : Field), applyBy ProfileX.dict m f ProfileX.decTable = ProfileX.apply m f) ∧
    (∀ (m : ValueTypeX) (f : Field), applyBy ValueTypeX.dict m f ValueTypeX.decTable = ValueTypeX.apply m f) ∧
    (∀ (m : SampleX) (f : Field), applyBy SampleX.dict m f SampleX.decTable = SampleX.apply m f) ∧
    (∀ (m : LabelX) (f : Field), applyBy LabelX.dict m f LabelX.decTable = LabelX.apply m f) ∧
    (∀ (m : MappingX) (f : Field), applyBy MappingX.dict m f MappingX.decTable = MappingX.apply m f) ∧
    (∀ (m : LocationX) (f : Field), applyBy LocationX.dict m f LocationX.decTable = LocationX.apply m f) ∧
    (∀ (m : LineX) (f : Field), applyBy LineX.dict m f LineX.decTable = LineX.apply m f) ∧
    (∀ (m : FunctionX) (f : Field), applyBy FunctionX.dict m f FunctionX.decTable = FunctionX.apply m f) :=
  ⟨ProfileX.apply_eq, ValueTypeX.apply_eq, SampleX.apply_eq, LabelX.apply_eq, MappingX.apply_eq,
   LocationX.apply_eq, LineX.apply_eq, FunctionX.apply_eq⟩

/-- The decoder tables regenerated from profile/encode.go are the decoder tables of the model: same
message types in the same order, same closure (decode function, receiver type, field, nested
message type, attachment, extra checks) at every table index. -/
theorem decoder_schema_matches :
    Gen.CodecSchema.all.map decoderPart = expectedSchema.map decoderPart := by
  first
  | decide +kernel
  | fail "OBLIGATION decoder_schema_matches no longer holds: the []decoder tables of profile/encode.go are not the decoder tables of the model (diff lean/PprofVerif/Gen/CodecSchema.lean against Model/CodecSchema.lean)"

/-- Every regenerated decoder table lists its entries at their own index (the Go code indexes the
table by the field number; the model's tables carry the index explicitly). -/
theorem decoder_indexes_are_positions : Gen.CodecSchema.all.all indexesArePositions = true := by
  first
  | decide +kernel
  | fail "OBLIGATION decoder_indexes_are_positions no longer holds"

/-- proto.go `decodeVarint` gives up at the byte index at which the model does. -/
theorem varint_limit_matches (i u : Nat) (b : UInt8) (rest : Bytes) :
    decodeVarintGo i u (b :: rest) =
      if i ≥ Gen.CodecSchema.proto.varintLimit then .err "bad varint" else
      let u' := (u + (b.toNat % 128) * 2 ^ (7 * i)) % two64
      if b.toNat < 128 then .ok (u', rest) else decodeVarintGo (i + 1) u' rest := by
  first
  | rfl
  | fail "OBLIGATION varint_limit_matches no longer holds: the byte limit of proto.go decodeVarint is not the model's (Model/Wire.lean: i ≥ 10)"

/-- proto.go `decodeField` splits the key, accepts exactly the wire types and reads exactly the
fixed widths the model does: for any input whose key varint decodes to `x`. -/
theorem wire_types_match (data rest : Bytes) (x : Nat) (h : decodeVarint data = .ok (x, rest)) :
    (x % (Gen.CodecSchema.proto.typeMask + 1) ∉ Gen.CodecSchema.proto.wireTypes →
      decodeField data = .err "unknown wire type") ∧
    (∀ t n, (t, n) ∈ Gen.CodecSchema.proto.fixedSizes → x % (Gen.CodecSchema.proto.typeMask + 1) = t →
      decodeField data =
        if rest.length < n then .err "not enough data"
        else .ok ({ num := x / 2 ^ Gen.CodecSchema.proto.fieldShift, typ := t, u64 := le (rest.take n), data := [] },
                  rest.drop n)) := by
  first
  | (unfold decodeField
     rw [h]
     simp only [Outcome.bind_ok, Gen.CodecSchema.proto, List.mem_cons, List.not_mem_nil, or_false, not_or,
       Prod.mk.injEq]
     constructor
     · rintro ⟨h0, h1, h2, h5⟩
       split
       · exact absurd ‹_› h0
       · exact absurd ‹_› h1
       · exact absurd ‹_› h2
       · exact absurd ‹_› h5
       · rfl
     · rintro t n (⟨rfl, rfl⟩ | ⟨rfl, rfl⟩) ht <;> simp only [ht] <;> rfl)
  | fail "OBLIGATION wire_types_match no longer holds: proto.go decodeField does not split the key / accept the wire types / read the fixed widths the model does (Model/Wire.lean: x>>3, x&7, types 0 1 2 5, 8 and 4 bytes)"

/-- the hypothesis of `wire_types_match` is satisfiable: a fixed64 field (key 9 = field 1, type 1) -/
example : decodeVarint [9, 1, 2, 3, 4, 5, 6, 7, 8] = .ok (9, [1, 2, 3, 4, 5, 6, 7, 8]) := by decide

/-- `switch b.typ` of proto.go decodeField ends in a `default:` branch that returns an error (the
model's `| _ => .err "unknown wire type"`). -/
theorem unknown_wire_type_is_error : Gen.CodecSchema.proto.defaultRejects = true := by
  first
  | decide +kernel
  | fail "OBLIGATION unknown_wire_type_is_error no longer holds: the default branch of `switch b.typ` in proto.go decodeField does not return an error"

/-- postDecode's dense id tables, WHEN the translator recognises the id-table code (inline slices or
one generic helper type): at most one per entity table (Mapping, Function, Location), each of the
length the model (`IdTables.build`) uses, and no index expression on them outside
`if id < uint64(len(table))`.  (`denseTables = none`: the code has another shape; then only the dynamic
correspondence and C02's `postDecode_id_tables_total` speak.) -/
theorem dense_tables_match (ts : List Gen.CodecSchema.DenseTable)
    (h : Gen.CodecSchema.denseTables = some ts) :
    ∃ extra, ts.all (denseTableOK extra) = true ∧
      ∀ ids : List Nat, IdTables.build ids =
        IdTables.buildGo { dense := List.replicate (ids.length + extra) none, sparse := [] } 0 ids := by
  unfold Gen.CodecSchema.denseTables at h
  first
  | (cases h <;> exact ⟨1, by decide, fun _ => rfl⟩)
  | fail "OBLIGATION dense_tables_match no longer holds: the dense id tables of postDecode are not `make([]*T, len(p.T)+1)` for T among Mapping, Function, Location, or an index expression on them is not under `id < uint64(len(table))`"

end PV.CodecSchema.Facts
