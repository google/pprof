import PprofVerif.Model.Trim
import PprofVerif.Lemmas.GraphKept
import PprofVerif.Lemmas.Order
import Mathlib.Tactic.Ring
/-!
Lemmas for `Model/Trim.lean`.  Text reports: the node cutoff removes exactly the entries below it;
the model's sort is the generic insertion sort of `Model/Order.lean`; `topN` is a prefix.  Rebuilt
graphs: the node table of `newGraph K ss` has unique keys, so a listed row is the node's accumulator
and carries the specification's sums, and `graphTotal` adds up exactly those.
(The Mathlib import decides which `Zero Int` instance the `List.sum` in these statements and in those
of Props/C05 elaborates to.)
-/
namespace PV.Trim
open PV.GSpec

theorem mem_aboveCutoff (c : Int) (es : List Entry) (e : Entry) :
    e ∈ aboveCutoff c es ↔ e ∈ es ∧ c ≤ absI e.cum := by
  unfold aboveCutoff
  rw [List.mem_filter]
  simp

theorem mem_afterCutoff (o : TrimOpts) (es : List Entry) (e : Entry) :
    e ∈ afterCutoff o es ↔
      e ∈ es ∧ (0 < cutoffOf ((es.map (·.flat)).sum) o.fracNum o.fracDen →
                cutoffOf ((es.map (·.flat)).sum) o.fracNum o.fracDen ≤ absI e.cum) := by
  unfold afterCutoff
  simp only
  by_cases hc : cutoffOf ((es.map (·.flat)).sum) o.fracNum o.fracDen > 0
  · simp [hc, mem_aboveCutoff]
  · simp [hc]

theorem afterCutoff_sublist (o : TrimOpts) (es : List Entry) : (afterCutoff o es).Sublist es := by
  unfold afterCutoff aboveCutoff
  simp only
  split
  · exact List.filter_sublist
  · exact List.Sublist.refl _

theorem insertBy_eq (lt : Entry → Entry → Bool) (x : Entry) (l : List Entry) :
    insertBy lt x l = PV.Order.insertBy lt x l := by
  induction l with
  | nil => rfl
  | cons y r ih => rw [insertBy, PV.Order.insertBy, ih]

theorem sortBy_eq (lt : Entry → Entry → Bool) (l : List Entry) : sortBy lt l = PV.Order.sortBy lt l := by
  induction l with
  | nil => rfl
  | cons x r ih => rw [sortBy, ih, insertBy_eq]; rfl

theorem sortBy_perm (lt : Entry → Entry → Bool) (l : List Entry) : (sortBy lt l).Perm l :=
  sortBy_eq lt l ▸ PV.Order.perm_sortBy lt l

/-- `lt` is a strict total order on entries.  The comparators of graph.go are not (`order o` does not read the
entry id: `Props.C05.strictTotal_unsatisfiable`); sortedness without this hypothesis is `sortBy_order_sorted`. -/
structure StrictTotal (lt : Entry → Entry → Bool) : Prop where
  trans : ∀ a b c, lt a b = true → lt b c = true → lt a c = true
  asymm : ∀ a b, lt a b = true → lt b a = false
  total : ∀ a b, lt a b = true ∨ lt b a = true ∨ a = b

theorem StrictTotal.strictWeak {lt : Entry → Entry → Bool} (h : StrictTotal lt) : PV.Order.StrictWeak lt where
  irrefl a := by
    cases haa : lt a a with
    | false => rfl
    | true => exact haa.symm.trans (h.asymm a a haa)
  trans := h.trans
  negTrans a b c hba hcb := by
    cases hca : lt c a with
    | false => rfl
    | true =>
      -- `a` is above or equal to `b`, so `c < a` would put `c` below `b`
      rcases h.total b a with h1 | h1 | h1
      · exact absurd (hba.symm.trans h1) (by decide)
      · exact absurd (hcb.symm.trans (h.trans c a b hca h1)) (by decide)
      · exact absurd (hcb.symm.trans (h1 ▸ hca)) (by decide)

theorem sortBy_sorted (lt : Entry → Entry → Bool) (h : StrictTotal lt) (l : List Entry) :
    (sortBy lt l).Pairwise (fun a b => lt b a = false) :=
  sortBy_eq lt l ▸ PV.Order.noInv_sortBy h.strictWeak l

theorem topN_prefix (n : Nat) (l : List Entry) : topN n l <+: l := by
  unfold topN
  split
  · exact List.take_prefix n l
  · exact List.prefix_refl l

theorem topN_length (n : Nat) (l : List Entry) (hn : 0 < n) : (topN n l).length = min n l.length := by
  unfold topN
  simp [hn]
end PV.Trim

namespace PV.Graph
open PV.GSpec
variable {κ : Type} [DecidableEq κ]

def NodesNodup (g : GState κ) : Prop := KeysNodup g.nodes

theorem newGraph_nodesNodup (K : κ → Bool) (ss : List (GSample κ)) : NodesNodup (newGraph K ss) :=
  newGraph_induction K (P := NodesNodup) List.nodup_nil (fun _ _ _ _ h => KeysNodup.tupd h _ _ _) (fun _ _ _ _ _ h => h)
    (fun _ _ _ _ h => KeysNodup.tupd h _ _ _) ss

theorem newGraph_edgesNodup (K : κ → Bool) (ss : List (GSample κ)) : KeysNodup (newGraph K ss).edges :=
  newGraph_induction K (P := fun g => KeysNodup g.edges) List.nodup_nil (fun _ _ _ _ h => h)
    (fun _ _ _ _ _ h => KeysNodup.tupd h _ _ _) (fun _ _ _ _ h => h) ss

theorem shownNodes_spec (K : κ → Bool) (ss : List (GSample κ)) (n : κ) (a : NodeAcc)
    (h : (n, a) ∈ (newGraph K ss).shownNodes) :
    K n = true ∧ a.flat = flatSpec ss n ∧ a.cum = cumSpec ss n := by
  unfold GState.shownNodes at h
  have hm : (n, a) ∈ (newGraph K ss).nodes := (List.mem_filter.mp h).1
  have hk : K n = true := newGraph_nodes_kept K ss n (thas_of_mem hm)
  have hget := tget_of_mem _ (newGraph_nodesNodup K ss) n a NodeAcc.zero hm
  refine ⟨hk, ?_, ?_⟩
  · have := newGraph_flat K ss n
    unfold GState.flat at this
    rw [hget] at this
    rw [this, flatSpecK_of_kept K ss n hk]
  · have := newGraph_cum K ss n
    unfold GState.cum at this
    rw [hget] at this
    rw [this, cumSpecK_of_kept K ss n hk]
end PV.Graph

namespace PV.Trim
open PV.GSpec PV.Graph
variable {κ : Type} [DecidableEq κ]

theorem graphTotal_eq (K : κ → Bool) (ss : List (GSample κ)) :
    graphTotal (newGraph K ss) = ((newGraph K ss).shownNodes.map (fun p => (flatSpec ss p.1).value)).sum := by
  unfold graphTotal
  congr 1
  apply List.map_congr_left
  rintro ⟨n, a⟩ h
  simp only
  rw [(shownNodes_spec K ss n a h).2.1]
end PV.Trim
