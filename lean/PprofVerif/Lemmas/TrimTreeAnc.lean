import PprofVerif.Spec.TrimTree
import PprofVerif.Lemmas.GraphTree
import PprofVerif.Lemmas.ListFacts
/-!
Prefixes of a stack, ancestors of a call-tree node (proper non-empty prefixes of its path, nearest first) and the
"nearest ancestor that is not removed" function of `Spec/TrimTree.lean`: how it changes when one
more node is removed.  Everything goes by induction on the last frame of the path: the ancestors of
`l ++ [a]` are `l` and the ancestors of `l`.
-/
namespace PV.GSpec
open PV.Graph
variable {κ : Type}

theorem prefixes_append (a t : List κ) : prefixes (a ++ t) = prefixes a ++ pathsFrom a t := by
  induction a with
  | nil => simp [prefixes, pathsFrom]
  | cons x a ih => simp [prefixes, ih, pathsFrom, List.map_map, Function.comp_def]

theorem prefixes_concat (l : List κ) (a : κ) : prefixes (l ++ [a]) = prefixes l ++ [l ++ [a]] :=
  prefixes_append l [a]

theorem ancestors_concat (l : List κ) (a : κ) :
    ancestors (l ++ [a]) = if l = [] then [] else l :: ancestors l := by
  have h : ∀ (l : List κ) a, ancestors (l ++ [a]) = (prefixes l).reverse := fun l a => by
    simp [ancestors, prefixes_concat]
  rw [h]
  induction l using ListFacts.concat_induction with
  | nil => rfl
  | concat l' c _ => simp [h, prefixes_concat]

theorem ancestors_dropLast {b : List κ} (h : 2 ≤ b.length) :
    ancestors b = b.dropLast :: ancestors b.dropLast := by
  induction b using ListFacts.concat_induction with
  | nil => simp at h
  | concat l c _ =>
    have hl : l ≠ [] := by rintro rfl; simp at h
    rw [List.dropLast_concat, ancestors_concat, if_neg hl]

theorem mem_ancestors {b x : List κ} (h : x ∈ ancestors b) : x ≠ [] ∧ ∃ t, t ≠ [] ∧ b = x ++ t := by
  induction b using ListFacts.concat_induction with
  | nil => simp [ancestors, prefixes] at h
  | concat l a ih =>
    rw [ancestors_concat] at h
    split at h
    · simp at h
    · rcases List.mem_cons.mp h with rfl | h'
      · exact ⟨‹_›, [a], by simp, rfl⟩
      · obtain ⟨hx, t, _, rfl⟩ := ih h'
        exact ⟨hx, t ++ [a], by simp, by simp⟩

theorem mem_ancestors_length {b x : List κ} (h : x ∈ ancestors b) : x ≠ [] ∧ x.length < b.length := by
  obtain ⟨hx, t, ht, rfl⟩ := mem_ancestors h
  exact ⟨hx, by simpa using List.length_pos_iff.mpr ht⟩

theorem not_mem_ancestors_self (b : List κ) : b ∉ ancestors b := fun h =>
  Nat.lt_irrefl _ (mem_ancestors_length h).2

theorem mem_prefixes_self {fs : List κ} (h : fs ≠ []) : fs ∈ prefixes fs := by
  have := prefixes_getLast fs
  simp only [h, if_false] at this
  exact List.mem_of_getLast? this

theorem mem_prefixes_iff (fs x : List κ) : x ∈ prefixes fs ↔ x ≠ [] ∧ ∃ t, fs = x ++ t := by
  constructor
  · intro h
    induction fs generalizing x with
    | nil => exact nomatch h
    | cons y r ih =>
      rcases List.mem_cons.mp h with rfl | h'
      · exact ⟨List.cons_ne_nil _ _, r, rfl⟩
      · obtain ⟨z, hz, rfl⟩ := List.mem_map.mp h'
        obtain ⟨_, t, rfl⟩ := ih z hz
        exact ⟨List.cons_ne_nil _ _, t, rfl⟩
  · rintro ⟨hx, t, rfl⟩
    rw [prefixes_append]
    exact List.mem_append_left _ (mem_prefixes_self hx)

theorem mem_prefixes_of_ancestor {fs b x : List κ} (hb : b ∈ prefixes fs) (hx : x ∈ ancestors b) :
    x ∈ prefixes fs := by
  obtain ⟨_, t, rfl⟩ := (mem_prefixes_iff fs b).mp hb
  obtain ⟨hx0, t', _, rfl⟩ := mem_ancestors hx
  exact (mem_prefixes_iff _ x).mpr ⟨hx0, t' ++ t, by simp⟩

theorem nearestKept_concat (R : List κ → Bool) (l : List κ) (a : κ) :
    nearestKept R (l ++ [a]) = if l = [] then none else if R l = true then nearestKept R l else some l := by
  rw [nearestKept, ancestors_concat]
  by_cases hl : l = []
  · simp [hl]
  · cases hR : R l <;> simp [hl, hR, nearestKept]

theorem nearestKept_some {R : List κ → Bool} {b a : List κ} (h : nearestKept R b = some a) :
    a ∈ ancestors b ∧ R a = false :=
  ⟨List.mem_of_find?_eq_some h, by simpa using List.find?_some h⟩

theorem nearestKept_between {R : List κ → Bool} {b a x : List κ} (h : nearestKept R b = some a)
    (hx : x ∈ ancestors b) (hlen : a.length < x.length) : R x = true := by
  induction b using ListFacts.concat_induction with
  | nil => simp [ancestors, prefixes] at hx
  | concat l c ih =>
    rw [nearestKept_concat] at h
    rw [ancestors_concat] at hx
    by_cases hl : l = []
    · simp [hl] at hx
    · rw [if_neg hl] at h hx
      cases hR : R l with
      | false =>
        obtain rfl : l = a := by simpa [hR] using h
        rcases List.mem_cons.mp hx with rfl | hx'
        · exact absurd hlen (Nat.lt_irrefl _)
        · exact absurd (mem_ancestors_length hx').2 (Nat.lt_asymm hlen)
      | true =>
        rcases List.mem_cons.mp hx with rfl | hx'
        · exact hR
        · exact ih (by simpa [hR] using h) hx'

theorem nearestKept_ne_parent {R : List κ → Bool} {b a : List κ} (h : nearestKept R b = some a)
    (hne : a ≠ b.dropLast) : 2 ≤ b.length ∧ R b.dropLast = true := by
  induction b using ListFacts.concat_induction with
  | nil => simp [nearestKept, ancestors, prefixes] at h
  | concat l c _ =>
    rw [List.dropLast_concat] at hne ⊢
    rw [nearestKept_concat] at h
    by_cases hl : l = []
    · simp [hl] at h
    · refine ⟨by have := List.length_pos_iff.mpr hl; simp; omega, ?_⟩
      cases hR : R l with
      | true => rfl
      | false => exact absurd (by simpa [hl, hR] using h) (Ne.symm hne)

theorem nearestKept_parent {R : List κ → Bool} {b : List κ} (h2 : 2 ≤ b.length) (hr : R b.dropLast = false) :
    nearestKept R b = some b.dropLast := by
  rw [nearestKept, ancestors_dropLast h2, List.find?_cons, hr]
  rfl

variable [DecidableEq κ]

/-- removal of one more node -/
def alsoRemoved (R : List κ → Bool) (cur : List κ) : List κ → Bool := fun x => R x || decide (x = cur)

theorem nearestKept_step (R : List κ → Bool) (cur b : List κ) :
    nearestKept (alsoRemoved R cur) b =
      if nearestKept R b = some cur then nearestKept R cur else nearestKept R b := by
  induction b using ListFacts.concat_induction with
  | nil => simp [nearestKept, ancestors, prefixes]
  | concat l a ih =>
    rw [nearestKept_concat, nearestKept_concat]
    by_cases hl : l = []
    · simp [hl]
    · cases hR : R l with
      | true => simp [hl, alsoRemoved, hR, ih]
      | false =>
        by_cases hc : l = cur
        · subst hc; simp [hl, alsoRemoved, hR, ih]
        · simp [hl, alsoRemoved, hR, hc]

end PV.GSpec
