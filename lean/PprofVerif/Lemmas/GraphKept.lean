import PprofVerif.Lemmas.GraphEdges
/-!
A graph rebuilt with a kept set `K` against the untrimmed one: figures of kept entries are unchanged, every key of
the rebuilt graph is kept (`newGraph_induction` is the general principle), an edge not marked residual keeps
its weight, and under the all-true set nothing changes at all.
-/
namespace PV.Graph
open PV.GSpec
variable {κ : Type} [DecidableEq κ]

theorem cumSpecK_of_kept (K : κ → Bool) (ss : List (GSample κ)) (n : κ) (h : K n = true) :
    cumSpecK K ss n = cumSpec ss n := by
  unfold cumSpecK cumSpec
  rw [sumOver_map_restrict]
  congr 1
  funext s
  simp [restrict, List.mem_filter, h]

theorem flatSpecK_of_kept (K : κ → Bool) (ss : List (GSample κ)) (n : κ) (h : K n = true) :
    flatSpecK K ss n = flatSpec ss n := by
  unfold flatSpecK flatSpec
  simp [h]

theorem cumSpecK_allKept (ss : List (GSample κ)) (n : κ) : cumSpecK allKept ss n = cumSpec ss n :=
  cumSpecK_of_kept allKept ss n rfl
theorem flatSpecK_allKept (ss : List (GSample κ)) (n : κ) : flatSpecK allKept ss n = flatSpec ss n :=
  flatSpecK_of_kept allKept ss n rfl

omit [DecidableEq κ] in
theorem restrict_allKept (s : GSample κ) : restrict allKept s = s := by
  cases s
  simp [restrict, allKept]
omit [DecidableEq κ] in
theorem map_restrict_allKept (ss : List (GSample κ)) : ss.map (restrict allKept) = ss := by
  induction ss with
  | nil => rfl
  | cons s ss ih => rw [List.map_cons, ih, restrict_allKept]

theorem edgeSpecK_allKept (ss : List (GSample κ)) (a b : κ) : edgeSpecK allKept ss a b = edgeSpec ss a b := by
  unfold edgeSpecK; rw [map_restrict_allKept]
theorem edgeExistsK_allKept (ss : List (GSample κ)) (a b : κ) : edgeExistsK allKept ss a b = edgeExists ss a b := by
  unfold edgeExistsK; rw [map_restrict_allKept]

omit [DecidableEq κ] in
theorem mem_zip_tail_mem {l : List κ} {x y : κ} (h : (x, y) ∈ l.zip l.tail) : x ∈ l ∧ y ∈ l := by
  have := List.of_mem_zip h
  exact ⟨this.1, List.mem_of_mem_tail this.2⟩

theorem newGraph_edges_kept (K : κ → Bool) (ss : List (GSample κ)) (a b : κ)
    (h : (newGraph K ss).hasEdge a b = true) : K a = true ∧ K b = true := by
  rw [newGraph_hasEdge] at h
  unfold edgeExistsK edgeExists at h
  rw [List.any_map, List.any_eq_true] at h
  obtain ⟨s, _, hs⟩ := h
  simp only [Function.comp, Bool.and_eq_true, adjacent, decide_eq_true_eq, restrict] at hs
  obtain ⟨ha, hb⟩ := mem_zip_tail_mem (of_decide_eq_true hs.2)
  rw [List.mem_filter] at ha hb
  exact ⟨ha.2, hb.2⟩

/-- `newGraph` builds its state from the empty one by `addCum` and `addFlat` at kept keys and by `addEdge`:
whatever these preserve holds of the result. -/
theorem newGraph_induction (K : κ → Bool) {P : GState κ → Prop} (h0 : P GState.empty)
    (hcum : ∀ g n v, K n = true → P g → P (g.addCum n v))
    (hedge : ∀ g p n v r, P g → P (g.addEdge p n v r))
    (hflat : ∀ g n v, K n = true → P g → P (g.addFlat n v)) (ss : List (GSample κ)) : P (newGraph K ss) := by
  -- within a sample: the parent, which gets the flat value at the end, is a kept frame
  let Q (a : Inner κ) : Prop := P a.g ∧ ∀ p, a.parent = some p → K p = true
  have hstep : ∀ v (a : Inner κ) f, Q a → Q (stepFrame K v a f) := fun v a f h => by
    rw [stepFrame_eq]
    split
    · rename_i hk
      refine ⟨?_, fun p hp => Option.some.inj hp ▸ hk⟩
      have hv : P (visit v a f).g := by
        unfold visit
        split
        · exact h.1
        · exact hcum _ _ _ hk h.1
      show P (link v (visit v a f) f).g
      unfold link
      split
      · split
        · exact hedge _ _ _ _ _ hv
        · exact hv
      · exact hv
    · exact h
  have hfold : ∀ v (fs : List κ) (a : Inner κ), Q a → Q (fs.foldl (stepFrame K v) a) := fun v fs => by
    induction fs with
    | nil => exact fun a h => h
    | cons f fs ih => exact fun a h => ih _ (hstep v a f h)
  have hsample : ∀ g (s : GSample κ), P g → P (sampleStep K g s) := fun g s h => by
    rw [sampleStep_eq]
    split
    · exact h
    · have hi := hfold s.wd s.frames ⟨g, [], [], none, false⟩ ⟨h, fun _ hp => nomatch hp⟩
      unfold finish
      split
      · split
        · exact hflat _ _ _ (hi.2 _ ‹_›) hi.1
        · exact hi.1
      · exact hi.1
  unfold newGraph
  generalize GState.empty = g at h0
  induction ss generalizing g with
  | nil => exact h0
  | cons s ss ih => exact ih _ (hsample g s h0)

def NodesKept (K : κ → Bool) (g : GState κ) : Prop := ∀ n, thas g.nodes n = true → K n = true

theorem NodesKept.tupd {K : κ → Bool} {g g' : GState κ} (h : NodesKept K g) {n : κ} (hn : K n = true)
    (f : NodeAcc → NodeAcc) (e : g'.nodes = tupd g.nodes n f NodeAcc.zero) : NodesKept K g' := by
  intro m hm
  rw [e, thas_tupd, Bool.or_eq_true, decide_eq_true_eq] at hm
  exact hm.elim (h m) (fun e => e ▸ hn)

theorem newGraph_nodes_kept (K : κ → Bool) (ss : List (GSample κ)) : NodesKept K (newGraph K ss) :=
  newGraph_induction K (fun _ hn => nomatch hn) (fun _ _ _ hn h => h.tupd hn _ rfl) (fun _ _ _ _ _ h => h)
    (fun _ _ _ hn h => h.tupd hn _ rfl) ss

theorem newGraph_keys_kept (K : κ → Bool) (ss : List (GSample κ)) :
    (∀ n, thas (newGraph K ss).nodes n = true → K n = true) ∧
    (∀ a b, (newGraph K ss).hasEdge a b = true → K a = true ∧ K b = true) :=
  ⟨newGraph_nodes_kept K ss, newGraph_edges_kept K ss⟩

omit [DecidableEq κ] in
theorem zip_tail_sub (f : κ) {l : List κ} {m : κ × κ} (h : m ∈ l.zip l.tail) : m ∈ (f :: l).zip l := by
  cases l with
  | nil => simp at h
  | cons g r => simp only [List.zip_cons_cons, List.tail_cons] at h ⊢; exact List.mem_cons_of_mem _ h

theorem firstFlag_some_mem {x y : κ} {r : Bool} {l : List (κ × κ × Bool)} (h : firstFlag x y l = some r) :
    (x, y, r) ∈ l := by
  induction l with
  | nil => simp [firstFlag] at h
  | cons hd tl ih =>
    obtain ⟨a, b, r'⟩ := hd
    unfold firstFlag at h
    by_cases hc : a = x ∧ b = y
    · simp only [hc, and_self, if_true, Option.some.injEq] at h
      obtain ⟨rfl, rfl⟩ := hc
      simp [h]
    · simp only [hc, if_false] at h
      exact List.mem_cons_of_mem _ (ih h)

omit [DecidableEq κ] in
/-- a pair flagged "direct" is adjacent in the unfiltered stack (`par` counts as its head unless a dropped frame
lies in between) -/
theorem pairsK_false_adjacent (K : κ → Bool) (x y : κ) (fs : List κ) : ∀ (par : Option κ) (res : Bool),
    (x, y, false) ∈ pairsK K par res fs → (x, y) ∈ adjP (if res then none else par) fs := by
  induction fs with
  | nil => intro par res h; cases par <;> exact nomatch h
  | cons f fs ih =>
    intro par res h
    by_cases hk : K f = true
    · cases par with
      | none =>
        rw [pairsK, if_pos hk] at h
        have := ih (some f) false h
        cases res <;> exact this
      | some p =>
        rw [pairsK, if_pos hk] at h
        rcases List.mem_cons.mp h with e | h'
        · cases e; exact List.mem_cons_self
        · have := ih (some f) false h'
          cases res
          · exact List.mem_cons_of_mem _ this
          · exact this
    · have h4 : (x, y) ∈ (f :: fs).zip fs := by
        cases par <;> rw [pairsK, if_neg hk] at h <;> exact zip_tail_sub f (ih _ true h)
      cases res
      · cases par
        · exact h4
        · exact List.mem_cons_of_mem _ h4
      · exact h4

omit [DecidableEq κ] in
theorem adjacent_filter_of_adjacent {K : κ → Bool} {x y : κ} (hx : K x = true) (hy : K y = true) {fs : List κ}
    (h : (x, y) ∈ fs.zip fs.tail) : (x, y) ∈ (fs.filter K).zip (fs.filter K).tail := by
  induction fs with
  | nil => simp at h
  | cons f fs ih =>
    cases fs with
    | nil => simp at h
    | cons g r =>
      simp only [List.tail_cons, List.zip_cons_cons, List.mem_cons, Prod.mk.injEq] at h
      rcases h with ⟨rfl, rfl⟩ | h
      · simp [hx, hy]
      · have h2 := ih (by simpa using h)
        by_cases hf : K f = true
        · rw [List.filter_cons, if_pos hf]
          exact zip_tail_sub f h2
        · rw [List.filter_cons, if_neg hf]
          exact h2

theorem edgeSpecK_of_nonresidual (K : κ → Bool) (ss : List (GSample κ)) (a b : κ)
    (ha : K a = true) (hb : K b = true)
    (hr : edgeResidualSpecK K ss a b = false) : edgeSpecK K ss a b = edgeSpec ss a b := by
  unfold edgeSpecK edgeSpec
  rw [sumOver_map_restrict]
  apply sumOver_congr
  intro s hs hwd
  have hcnt : counted s = true := by
    rw [counted_eq]
    cases h0 : (s.d == 0 && s.w == 0)
    · rfl
    · exact absurd (wd_zero_of_skip s h0) hwd
  by_cases hab : a = b
  · simp [hab]
  · simp only [ne_eq, hab, not_false_eq_true, decide_true, Bool.true_and, restrict]
    unfold edgeResidualSpecK at hr
    have hr' := (List.any_eq_false.mp hr) s hs
    simp only [hcnt, ne_eq, hab, not_false_eq_true, decide_true, Bool.true_and, beq_iff_eq] at hr'
    rw [Bool.eq_iff_iff]
    unfold adjacent
    simp only [decide_eq_true_eq]
    constructor
    · intro h
      have h1 : (firstFlag a b (pairsK K none false s.frames)).isSome = true := by
        rw [firstFlag_isSome, pairsK_map_pair]; exact h
      cases hff : firstFlag a b (pairsK K none false s.frames) with
      | none => simp [hff] at h1
      | some r =>
        cases r
        · exact pairsK_false_adjacent K a b s.frames none false (firstFlag_some_mem hff)
        · exact absurd hff hr'
    · intro h
      exact adjacent_filter_of_adjacent ha hb h

omit [DecidableEq κ] in
theorem pairsK_allKept_flag (x y : κ) (r : Bool) (fs : List κ) : ∀ (par : Option κ),
    (x, y, r) ∈ pairsK allKept par false fs → r = false := by
  induction fs with
  | nil => intro par h; simp [pairsK] at h
  | cons f fs ih =>
    intro par h
    cases par with
    | none =>
      simp only [pairsK, allKept, if_true] at h
      exact ih _ h
    | some p =>
      simp only [pairsK, allKept, if_true, List.mem_cons, Prod.mk.injEq] at h
      rcases h with ⟨_, _, h⟩ | h
      · exact h
      · exact ih _ h

theorem edgeResidualSpecK_allKept (ss : List (GSample κ)) (a b : κ) : edgeResidualSpecK allKept ss a b = false := by
  unfold edgeResidualSpecK
  rw [List.any_eq_false]
  intro s _
  simp only [Bool.and_eq_true, beq_iff_eq, not_and]
  intro _ hff
  have := pairsK_allKept_flag a b true s.frames none (firstFlag_some_mem hff)
  simp at this
end PV.Graph
