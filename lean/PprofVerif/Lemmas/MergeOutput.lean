import PprofVerif.Lemmas.MergeTables
import PprofVerif.Lemmas.MergeAccum
/-!
Resolving the *output* of the staged merge: the id given to a traversed location `x` resolves,
through the renumbered tables, to `Tables.out x`, built from the table entries its mapping and
functions were mapped to (`outEnt`); it has the frame identity of `x` (DESIGN A.2: "entity
fields are those of the first entity seen with that identity").
-/
namespace PV.Merge
open PV.Spec
open PV.Wire (InI64)

def setMappingId (m : Mapping) (i : Nat) : Mapping := { m with id := i }
def setLocationId (l : Location) (i : Nat) : Location := { l with id := i }
def setFunctionId (f : Function) (i : Nat) : Function := { f with id := i }

/-- a profile whose tables are those built by the merge. -/
structure HasTables (r : Profile) (t : Tables) : Prop where
  functions : r.functions = renum setFunctionId 1 t.ftab
  mappings : r.mappings = renum setMappingId 1 t.mtab
  locations : r.locations = renum setLocationId 1 (t.ltab.map (·.2))

theorem functionKey_setId (f : Function) (i : Nat) : functionKey (setFunctionId f i) = functionKey f := rfl
theorem mappingKey_setId (m : Mapping) (i : Nat) : mappingKey (setMappingId m i) = mappingKey m := rfl

/-- the `Function` of the merged profile that `f` was mapped to. -/
abbrev outFn (ftab : List Function) (f : Function) : Function := outEnt functionKey setFunctionId ftab f

/-- the `Mapping` of the merged profile that `m` was mapped to. -/
abbrev outMap (mtab : List Mapping) (m : Mapping) : Mapping := outEnt mappingKey setMappingId mtab m

def outLine (ftab : List Function) (ln : RLine) : RLine :=
  { fn := ln.fn.map (outFn ftab), line := ln.line, column := ln.column }

/-- the resolved `Location` of the merged profile built from `l`, carrying id `i`. -/
def outLoc (ftab : List Function) (mtab : List Mapping) (i : Nat) (l : RLocation) : RLocation :=
  { id := i, mapping := l.mapping.map (outMap mtab), address := (remapLoc ftab mtab l).address,
    lines := l.lines.map (outLine ftab), isFolded := l.isFolded }

theorem firstSeen_eq (mtab : List Mapping) (m : Mapping) :
    firstSeen mtab m = (entryOf mappingKey mtab (mappingKey m)).getD m := by
  unfold firstSeen; cases entryOf mappingKey mtab (mappingKey m) <;> rfl

theorem outMap_start (mtab : List Mapping) (m : Mapping) : (outMap mtab m).start = (firstSeen mtab m).start := by
  rw [firstSeen_eq]; rfl

theorem resolveLine_out {r : Profile} {t : Tables} (h : HasTables r t) (ln : RLine)
    (hf : ∀ f, ln.fn = some f → functionKey f ∈ t.ftab.map functionKey) :
    resolveLine r (remapLine t.ftab ln) = some (outLine t.ftab ln) := by
  rw [remapLine_eq]
  unfold resolveLine outLine Profile.findFunction
  cases hfn : ln.fn with
  | none => rfl
  | some f =>
    have hne := Nat.ne_of_gt (idOf_pos functionKey t.ftab (functionKey f))
    simp only [idOpt, hne, if_false, h.functions, Option.map_some,
      find?_outEnt (setId := setFunctionId) (·.id) (fun _ _ => rfl) (hf f hfn)]

theorem remapLoc_fields (ftab : List Function) (mtab : List Mapping) (l : RLocation) :
    (remapLoc ftab mtab l).mappingID = idOpt mappingKey mtab l.mapping ∧
    (remapLoc ftab mtab l).lines = l.lines.map (remapLine ftab) ∧
    (remapLoc ftab mtab l).isFolded = l.isFolded := by
  unfold remapLoc idOpt; cases l.mapping <;> exact ⟨rfl, rfl, rfl⟩

theorem resolveLoc_out {r : Profile} {t : Tables} (h : HasTables r t) (l : RLocation) (i : Nat)
    (hin : LocIn t.ftab t.mtab l) :
    resolveLoc r (setLocationId (remapLoc t.ftab t.mtab l) i) = some (outLoc t.ftab t.mtab i l) := by
  obtain ⟨e1, e2, e3⟩ := remapLoc_fields t.ftab t.mtab l
  have hmap : resolveMappingRef r (idOpt mappingKey t.mtab l.mapping) = some (l.mapping.map (outMap t.mtab)) := by
    unfold resolveMappingRef idOpt Profile.findMapping
    cases hm : l.mapping with
    | none => rfl
    | some m =>
      have hne := Nat.ne_of_gt (idOf_pos mappingKey t.mtab (mappingKey m))
      simp only [hne, if_false, h.mappings, Option.map_some,
        find?_outEnt (setId := setMappingId) (·.id) (fun _ _ => rfl) (hin.1 m hm)]
  unfold resolveLoc
  simp only [setLocationId, e1, e2, e3, hmap,
    optMap_map_eq _ _ _ _ fun ln hln => resolveLine_out h ln (hin.2 ln hln)]
  rfl

theorem frameIdent_outLoc {ftab : List Function} {mtab : List Mapping} (i : Nat) {l : RLocation}
    (hin : LocIn ftab mtab l) : frameIdent (outLoc ftab mtab i l) = frameIdent l := by
  have hlines : (l.lines.map (outLine ftab)).map lineIdent = l.lines.map lineIdent := by
    rw [List.map_map]
    refine List.map_congr_left fun ln hln => ?_
    show lineIdent (outLine ftab ln) = lineIdent ln
    unfold lineIdent outLine
    cases hfn : ln.fn with
    | none => rfl
    | some f =>
      simp only [Option.map_some,
        (functionKey_eq_iff _ f).mp (outEnt_key functionKey_setId (hin.2 ln hln f hfn))]
  unfold frameIdent outLoc remapLoc
  cases hm : l.mapping with
  | none => simp only [Option.map_none, hlines]
  | some m =>
    have hk := hin.1 m hm
    simp only [Option.map_some, hlines, (mappingKey_eq_iff _ m).mp (outEnt_key mappingKey_setId hk),
      outMap_start, subU64_rebase]

/-- the resolved location of the output behind the id of the traversed location `x`. -/
def Tables.out (t : Tables) (x : RLocation) : RLocation := outLoc t.ftab t.mtab (t.lid x) x

theorem Tables.Over.resolveLocID_out {t : Tables} {X : List RLocation} (h : t.Over X) {r : Profile}
    (hT : HasTables r t) {x : RLocation} (hx : x ∈ X) : resolveLocID r (t.lid x) = some (t.out x) := by
  have hpos : 1 ≤ t.lid x := idOf_pos _ _ _
  have hget : (t.ltab.map (·.2))[t.lid x - 1]? = some (remapLoc t.ftab t.mtab x) := by
    rw [List.getElem?_map, h.ltab_getElem? hx]; rfl
  unfold resolveLocID Profile.findLocation
  rw [if_neg (Nat.ne_of_gt hpos), hT.locations, find?_renum_one setLocationId (·.id) (fun _ _ => rfl) _ hpos hget]
  exact resolveLoc_out hT x _ (h.locIn hx)

theorem Tables.Over.resolveSample_out {t : Tables} {X : List RLocation} (h : t.Over X) {r : Profile}
    (hT : HasTables r t) {s : RSample} (hs : ∀ l ∈ s.locs, l ∈ X) {e : Sample}
    (hshape : SameShape e (remapSample t.lid s)) :
    ∃ rs, resolveSample r e = some rs ∧ stackKey rs = stackKey s ∧ rs.values = e.values := by
  obtain ⟨h1, h2, h3, h4⟩ := hshape
  have hl : optMap (resolveLocID r) e.locationIDs = some (s.locs.map t.out) := by
    rw [h1]; exact optMap_map_eq _ _ _ _ fun l hl => h.resolveLocID_out hT (hs l hl)
  refine ⟨⟨s.locs.map t.out, e.values, e.label, e.numLabel, e.numUnit⟩, by simp only [resolveSample, hl], ?_, rfl⟩
  unfold stackKey numLabelIdent
  simp only [StackKey.mk.injEq]
  refine ⟨?_, by rw [h2]; rfl, ?_⟩
  · rw [List.map_map]
    exact List.map_congr_left fun l hl => frameIdent_outLoc _ (h.locIn (hs l hl))
  · rw [h3, h4]
    exact labelsWithUnits_remap s.numLabel s.numUnit

end PV.Merge
