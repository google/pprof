import PprofVerif.Lemmas.LegacyMapSection
import PprofVerif.Model.LegacyHeap
/-!
Helper lemmas for C14: heap profiles — `parseHeap (printHeap d) = ok (expectedHeap d)`.

The four numbers of a header or record line and their scanners; the three header regexps on a printed
header line (they can match only at its start; the kind names are a table); record lines; the loop.
-/
namespace PV.Legacy
open PV

theorem reNumColon_print (k a : Nat) (r : Str) : reNumColon (sp k ++ (dec a ++ 58 :: r)) = some (dec a, r) := by
  unfold reNumColon
  rw [skipSp_sp k _ (Stops_sp32_dec _ _), reDigits_dec (by simp [isDigit_58])]
  exact congrArg (Option.map (Prod.mk (dec a))) (stripPrefix_append [58] r)

theorem reNumThen_print (c : UInt8) (hc : isDigit c = false) (hc32 : c.toNat ≠ 32) (k j a : Nat) (r : Str) :
    reNumThen c (sp k ++ (dec a ++ (sp j ++ c :: r))) = some (dec a, r) := by
  unfold reNumThen
  rw [skipSp_sp k _ (Stops_sp32_dec _ _), reDigits_dec (Stops_isDigit_sp _ _ _ hc)]
  simp only [Option.bind_eq_bind, Option.bind_some]
  rw [skipSp_sp j _ (Stops_sp32_cons _ hc32), show (c :: r) = [c] ++ r from rfl, stripPrefix_append]; rfl

theorem reSNumColon_print (k : Nat) (a : Int) (r : Str) : reSNumColon (sp k ++ (intStr a ++ 58 :: r)) = some (intStr a, r) := by
  unfold reSNumColon
  rw [skipSp_sp k _ (Stops_sp32_intStr _ _), reSDigits_intStr a _ (by simp [isDigit_58])]
  exact congrArg (Option.map (Prod.mk (intStr a))) (stripPrefix_append [58] r)

theorem reSNumThen_print (c : UInt8) (hc : isDigit c = false) (hc32 : c.toNat ≠ 32) (k j : Nat) (a : Int) (r : Str) :
    reSNumThen c (sp k ++ (intStr a ++ (sp j ++ c :: r))) = some (intStr a, r) := by
  unfold reSNumThen
  rw [skipSp_sp k _ (Stops_sp32_intStr _ _), reSDigits_intStr a _ (Stops_isDigit_sp _ _ _ hc)]
  simp only [Option.bind_eq_bind, Option.bind_some]
  rw [skipSp_sp j _ (Stops_sp32_cons _ hc32), show (c :: r) = [c] ++ r from rfl, stripPrefix_append]; rfl

/-- the four numbers of a record without the leading blanks, followed by `rest` -/
def heapNumsCoreZ (pad : Nat) (a b : Int) (c d : Nat) (rest : Str) : Str :=
  intStr a ++ (58 :: (sp (pad+1) ++ (intStr b ++ (sp (pad+1) ++ (91 :: (sp pad ++ (dec c ++ (58 :: (sp (pad+1) ++
    (dec d ++ (sp pad ++ (93 :: rest))))))))))))

theorem heapNumbersZ_core (pad : Nat) (a b : Int) (c d : Nat) (rest : Str) :
    heapNumbersZ pad a b c d ++ rest = sp pad ++ heapNumsCoreZ pad a b c d rest := by
  simp only [heapNumbersZ, heapNumsCoreZ, List.append_assoc, List.cons_append, List.nil_append]

theorem heapNumsCoreZ_append (pad : Nat) (a b : Int) (c d : Nat) (x y : Str) :
    heapNumsCoreZ pad a b c d (x ++ y) = heapNumsCoreZ pad a b c d x ++ y := by
  simp only [heapNumsCoreZ, List.append_assoc, List.cons_append]

theorem reFourNumbersZ_core (k pad : Nat) (a b : Int) (c d : Nat) (rest : Str) :
    reFourNumbersZ (sp k ++ heapNumsCoreZ pad a b c d rest) = some (intStr a, intStr b, dec c, dec d, rest) := by
  unfold reFourNumbersZ heapNumsCoreZ
  rw [reSNumColon_print]
  simp only [Option.bind_eq_bind, Option.bind_some]
  rw [reSNumThen_print 91 isDigit_91 (by decide), Option.bind_some, reNumColon_print, Option.bind_some,
    reNumThen_print 93 isDigit_93 (by decide)]
  rfl

theorem not_mem_heapNumbersZ {x : UInt8} (hd : isDigit x = false) (h : x ≠ 45 ∧ x ≠ 32 ∧ x ≠ 58 ∧ x ≠ 91 ∧ x ≠ 93)
    (pad : Nat) (a b : Int) (c d : Nat) : x ∉ heapNumbersZ pad a b c d := by
  simp only [heapNumbersZ, List.mem_append, List.mem_singleton, not_mem_sp h.2.1, not_mem_intStr hd h.1, not_mem_dec hd,
    h.2.2.1, h.2.2.2.1, h.2.2.2.2, or_self, not_false_eq_true]

theorem heapNumbers_eq_Z (pad a b c d : Nat) : heapNumbers pad a b c d = heapNumbersZ pad a b c d := by
  simp only [heapNumbers, heapNumbersZ, intStr_natCast]

/-- the four numbers without the leading blanks, followed by `rest` -/
def heapNumsCore (pad a b c d : Nat) (rest : Str) : Str :=
  dec a ++ (58 :: (sp (pad+1) ++ (dec b ++ (sp (pad+1) ++ (91 :: (sp pad ++ (dec c ++ (58 :: (sp (pad+1) ++
    (dec d ++ (sp pad ++ (93 :: rest))))))))))))

theorem heapNumbers_core (pad a b c d : Nat) (rest : Str) :
    heapNumbers pad a b c d ++ rest = sp pad ++ heapNumsCore pad a b c d rest := by
  rw [heapNumbers_eq_Z, heapNumbersZ_core, heapNumsCoreZ, heapNumsCore, intStr_natCast, intStr_natCast]

theorem heapNumsCore_append (pad a b c d : Nat) (x y : Str) :
    heapNumsCore pad a b c d (x ++ y) = heapNumsCore pad a b c d x ++ y := by
  simp [heapNumsCore, List.append_assoc]

/-- ` *(\d+): *(\d+) *\[ *(\d+): *(\d+) *\]` on printed numbers (after `k` leading blanks) -/
theorem reFourNumbers_print (k pad a b c d : Nat) (rest : Str) :
    reFourNumbers (sp k ++ (heapNumbers pad a b c d ++ rest)) = some (dec a, dec b, dec c, dec d, rest) := by
  rw [heapNumbers_core, sp_add]
  unfold reFourNumbers heapNumsCore
  rw [reNumColon_print]
  simp only [Option.bind_eq_bind, Option.bind_some]
  rw [reNumThen_print 91 isDigit_91 (by decide), Option.bind_some, reNumColon_print, Option.bind_some,
    reNumThen_print 93 isDigit_93 (by decide)]
  rfl

theorem heapHeader_pieces :
    (asc "heap profile: " = asc "heap profile:" ++ sp 1 ∧ asc "heap profile:" = 104 :: asc "eap profile:" ∧
      (58 : UInt8) ∈ asc "heap profile:" ∧ (104 : UInt8) ∉ asc "eap profile:" ∧ LineOK (asc "heap profile:")) ∧
    asc " @ " = sp 1 ++ 64 :: sp 1 ∧ (104 : UInt8) ∉ asc " @ " ∧ LineOK (asc " @ ") := by
  decide +kernel

/-- the header line with an arbitrary text in the place of kind and rate -/
def headerText (pad a b c d : Nat) (name : Str) : Str :=
  asc "heap profile:" ++ (sp 1 ++ (heapNumbers pad a b c d ++ (asc " @ " ++ name)))

def HeapDoc.rateSuffix (d : HeapDoc) : Str :=
  match d.rate with | some r => if d.kind.isHeap then 47 :: dec r else [] | none => []

theorem HeapDoc.headerLine_eq (d : HeapDoc) :
    d.headerLine = headerText d.pad d.totInuseN d.totInuseB d.totAllocN d.totAllocB (d.kind.print ++ d.rateSuffix) := by
  unfold HeapDoc.headerLine HeapDoc.rateSuffix headerText
  rw [heapHeader_pieces.1.1]
  simp only [List.append_assoc]
  cases d.rate <;> rfl

/-- the three header regexps of `parseHeap`: each needs the literal `heap profile:` followed by
the four numbers ` a: b [ c: d]` -/
def HeapHeaderRe {α} (m : Str → Option α) : Prop :=
  ∀ t, (∀ r, stripPrefix (asc "heap profile:") t = some r → reFourNumbers r = none) → m t = none

theorem matchHeapHeaderAt_re : HeapHeaderRe matchHeapHeaderAt := by
  intro t h
  unfold matchHeapHeaderAt
  cases hs : stripPrefix (asc "heap profile:") t with
  | none => rfl
  | some r => simp [h r hs]

theorem matchOtherHeaderAt_re (k : Str) : HeapHeaderRe (matchOtherHeaderAt k) := by
  intro t h
  unfold matchOtherHeaderAt
  cases hs : stripPrefix (asc "heap profile:") t with
  | none => rfl
  | some r => simp [h r hs]

theorem HeapHeaderRe.of_strip {α} {m : Str → Option α} (hm : HeapHeaderRe m) {t : Str} (h : stripPrefix (asc "heap profile:") t = none) :
    m t = none :=
  hm t (fun r hr => by rw [h] at hr; cases hr)

theorem stripHeapProfile_ne_h (c : UInt8) (t : Str) (h : c ≠ 104) : stripPrefix (asc "heap profile:") (c :: t) = none := by
  rw [heapHeader_pieces.1.2.1]; exact stripPrefix_cons_ne _ _ (Ne.symm h)

theorem stripHeapProfile_no_h {t : Str} (h : (104 : UInt8) ∉ t) : stripPrefix (asc "heap profile:") t = none := by
  cases t with
  | nil => rfl
  | cons c t => exact stripHeapProfile_ne_h c t (fun e => h (by simp [e]))

theorem stripHeapProfile_no_colon {t : Str} (h : (58 : UInt8) ∉ t) : stripPrefix (asc "heap profile:") t = none :=
  stripPrefix_none_of_not_mem heapHeader_pieces.1.2.2.1 h

/-- a header regexp finds nothing in a text without `h`, and nothing in a text without a colon -/
theorem HeapHeaderRe.none_of_no_h {α} {m : Str → Option α} (hm : HeapHeaderRe m) {l : Str} (h : (104 : UInt8) ∉ l) :
    searchRe m l = none :=
  searchRe_none_of_not_mem m 104 (fun _ ht => hm.of_strip (stripHeapProfile_no_h ht)) l h

theorem HeapHeaderRe.none_of_no_colon {α} {m : Str → Option α} (hm : HeapHeaderRe m) {l : Str} (h : (58 : UInt8) ∉ l) :
    searchRe m l = none :=
  searchRe_none_of_not_mem m 58 (fun _ ht => hm.of_strip (stripHeapProfile_no_colon ht)) l h

/-- The header regexps can match a header line only at its start: between the leading `h` and the
kind there is no other `h`, and from the kind on there is no colon. -/
theorem searchRe_headerText {α} {m : Str → Option α} (hm : HeapHeaderRe m)
    (pad a b c d : Nat) (name : Str) (hn : (58 : UInt8) ∉ name) :
    searchRe m (headerText pad a b c d name) = m (headerText pad a b c d name) := by
  obtain ⟨⟨_, hcons, _, hnoh, _⟩, _, hnoh', _⟩ := heapHeader_pieces
  have e : headerText pad a b c d name =
      104 :: ((asc "eap profile:" ++ (sp 1 ++ (heapNumbers pad a b c d ++ asc " @ "))) ++ name) := by
    simp only [headerText, hcons, List.cons_append, List.append_assoc]
  have hA : ∀ x ∈ asc "eap profile:" ++ (sp 1 ++ (heapNumbers pad a b c d ++ asc " @ ")), x ≠ (104 : UInt8) := by
    rintro x hx rfl
    simp only [List.mem_append] at hx
    rcases hx with h | h | h | h
    · exact hnoh h
    · exact not_mem_sp (by decide) _ h
    · rw [heapNumbers_eq_Z] at h; exact not_mem_heapNumbersZ (by decide) (by decide) _ _ _ _ _ h
    · exact hnoh' h
  rw [e]
  simp only [searchRe]
  rw [searchRe_skip m (fun c t h => hm.of_strip (stripHeapProfile_ne_h c t h)) _ _ hA,
    hm.none_of_no_colon hn]
  cases m _ <;> rfl

theorem matchHeapHeaderAt_headerText (pad a b c d : Nat) (name : Str) (hn : Stops (fun b => b.toNat == 32) name) :
    matchHeapHeaderAt (headerText pad a b c d name) =
      (stripPrefix (asc "heap") name).map fun s =>
        (dec a, dec b, dec c, dec d, asc "heap" ++ s.takeWhile isHeapNameByte,
          ((stripPrefix [47] (s.dropWhile isHeapNameByte)).getD (s.dropWhile isHeapNameByte)).takeWhile isDigit) := by
  have e : asc " @ " ++ name = sp 1 ++ (64 :: (sp 1 ++ name)) := by
    rw [heapHeader_pieces.2.1]; rfl
  unfold matchHeapHeaderAt headerText
  rw [stripPrefix_append]
  simp only [Option.bind_eq_bind, Option.bind_some]
  rw [reFourNumbers_print]
  simp only [Option.bind_some]
  rw [e, skipSp_sp 1 _ (Stops_sp32_cons _ (by decide)), show (64 :: (sp 1 ++ name) : Str) = [64] ++ (sp 1 ++ name) from rfl,
    stripPrefix_append]
  simp only [Option.bind_some]
  rw [skipSp_sp 1 _ hn]
  cases stripPrefix (asc "heap") name <;> rfl

theorem matchOtherHeaderAt_headerText (kind : Str) (pad a b c d : Nat) (name : Str) :
    (matchOtherHeaderAt kind (headerText pad a b c d name)).isSome = hasPrefix kind name := by
  unfold matchOtherHeaderAt headerText hasPrefix
  rw [stripPrefix_append]
  simp only [Option.bind_eq_bind, Option.bind_some]
  rw [reFourNumbers_print]
  simp only [Option.bind_some]
  rw [stripPrefix_append_append]
  cases stripPrefix kind name <;> rfl

def HeapKind.all : List HeapKind :=
  [.heapzV2, .heapV2, .heapprofile, .heap, .growth, .growthz, .fragmentation, .fragmentationz]

theorem HeapKind.mem_all (k : HeapKind) : k ∈ HeapKind.all := by cases k <;> decide

/-- what the header parser can see of a kind's name; a fixed table, evaluated once for all the names -/
theorem HeapKind.print_table : ∀ k ∈ HeapKind.all,
    (k.print ≠ [] ∧ ∀ b ∈ k.print, isHeapNameByte b = true) ∧ hasPrefix (asc "heap") k.print = k.isHeap ∧
    if k.isHeap then
      (k.print == asc "heapz_v2" || k.print == asc "heap_v2") = (k == .heapzV2 || k == .heapV2) ∧
      (k.print == asc "heapprofile") = (k == .heapprofile) ∧ (k.print == asc "heap") = (k == .heap)
    else (hasPrefix (asc "growth") k.print || hasPrefix (asc "fragmentation") k.print) = true := by
  decide +kernel

theorem HeapKind.print_name (k : HeapKind) : k.print ≠ [] ∧ ∀ b ∈ k.print, isHeapNameByte b = true :=
  (print_table k k.mem_all).1

theorem HeapKind.hasPrefix_heap (k : HeapKind) : hasPrefix (asc "heap") k.print = k.isHeap :=
  (print_table k k.mem_all).2.1

theorem isHeapNameByte_ne {b : UInt8} (h : isHeapNameByte b = true) :
    b.toNat ≠ 32 ∧ b.toNat ≠ 58 ∧ b.toNat ≠ 10 ∧ b.toNat ≠ 13 := by
  simp only [isHeapNameByte, isDigit, Bool.or_eq_true, beq_iff_eq, decide_eq_true_eq] at h
  omega

theorem LineOK_heapKind (k : HeapKind) : LineOK k.print := fun b hb => (isHeapNameByte_ne (k.print_name.2 b hb)).2.2

theorem HeapKind.print_stops (k : HeapKind) (r : Str) : Stops (fun b => b.toNat == 32) (k.print ++ r) := by
  cases hq : k.print with
  | nil => exact absurd hq k.print_name.1
  | cons c t => exact Stops_sp32_cons _ (isHeapNameByte_ne (k.print_name.2 c (by simp [hq]))).1

/-- `/<rate>` behind the name: it ends the name, holds no line terminator, and after a heap kind the
period is read back from it -/
theorem HeapDoc.rateSuffix_parse (d : HeapDoc) (hr : d.rate.all (· < two63) = true) :
    (Stops isHeapNameByte d.rateSuffix ∧ LineOK d.rateSuffix) ∧
    (d.kind.isHeap = true →
      (if (((stripPrefix [47] d.rateSuffix).getD d.rateSuffix).takeWhile isDigit).isEmpty then some 0
        else parseI64 (((stripPrefix [47] d.rateSuffix).getD d.rateSuffix).takeWhile isDigit)) = some (d.rate.getD 0)) := by
  unfold HeapDoc.rateSuffix
  cases h : d.rate with
  | none => exact ⟨⟨Stops_nil _, LineOK_nil⟩, fun _ => rfl⟩
  | some r =>
    cases d.kind.isHeap with
    | false => exact ⟨⟨Stops_nil _, LineOK_nil⟩, fun hk => by cases hk⟩
    | true =>
      have hr' : r < two63 := by simpa [h] using hr
      have ht : (dec r).takeWhile isDigit = dec r := takeWhile_of_all (dec_isDigit r)
      refine ⟨⟨by simp; decide, (LineOK_cons_iff _ _).2 ⟨by decide, LineOK_dec r⟩⟩, fun _ => ?_⟩
      simp only [if_true, show (47 :: dec r : Str) = [47] ++ dec r from rfl, stripPrefix_append, Option.getD_some, ht,
          isEmpty_false_of_ne_nil (dec_ne_nil r), parseI64_dec hr', Option.getD_some, Bool.false_eq_true, if_false]

theorem matchHeapHeaderAt_header (d : HeapDoc) (hk : d.kind.isHeap = true) (hr : d.rate.all (· < two63) = true) :
    matchHeapHeaderAt d.headerLine =
      some (dec d.totInuseN, dec d.totInuseB, dec d.totAllocN, dec d.totAllocB, d.kind.print,
        ((stripPrefix [47] d.rateSuffix).getD d.rateSuffix).takeWhile isDigit) := by
  obtain ⟨s, hs⟩ := hasPrefix_eq_append (d.kind.hasPrefix_heap.trans hk)
  have hname : ∀ b ∈ s, isHeapNameByte b = true := fun b hb =>
    d.kind.print_name.2 b (by rw [hs]; exact List.mem_append_right _ hb)
  have hrt := (d.rateSuffix_parse hr).1.1
  rw [d.headerLine_eq, matchHeapHeaderAt_headerText _ _ _ _ _ _ (d.kind.print_stops _), hs, List.append_assoc,
    stripPrefix_append, Option.map_some, takeWhile_append_stops hname hrt, dropWhile_append_stops hname hrt]

theorem asc_zero : asc "0" = dec 0 := by decide +kernel

theorem parseHeapHeader_header (d : HeapDoc) (hk : d.kind.isHeap = true) (hr : d.rate.all (· < two63) = true) :
    parseHeapHeader d.headerLine = .ok (d.v2, d.period, d.hasAlloc) := by
  unfold parseHeapHeader
  rw [searchRe_of_some (matchHeapHeaderAt_header d hk hr)]
  have hn := (HeapKind.print_table d.kind d.kind.mem_all).2.2
  rw [hk, if_pos rfl] at hn
  simp only [(d.rateSuffix_parse hr).2 hk, asc_zero, dec_bne, hn]
  cases hkind : d.kind <;> simp [hkind, HeapKind.isHeap] at hk <;>
    simp [HeapDoc.v2, HeapDoc.period, HeapDoc.hasAlloc, hkind, HeapKind.isHeap]

/-- what `parseHeap` concludes from the header line: sampling v2?, period, alloc columns? -/
theorem heapHeader_dispatch (d : HeapDoc) (hr : d.rate.all (· < two63) = true) :
    (if (searchRe matchHeapHeaderAt d.headerLine).isSome then parseHeapHeader d.headerLine
      else if (searchRe (matchOtherHeaderAt (asc "growth")) d.headerLine).isSome then .ok (false, 1, false)
      else if (searchRe (matchOtherHeaderAt (asc "fragmentation")) d.headerLine).isSome then .ok (false, 1, false)
      else .err "unrecognized") = .ok (d.v2, d.period, d.hasAlloc) := by
  cases hk : d.kind.isHeap with
  | true =>
    rw [searchRe_of_some (matchHeapHeaderAt_header d hk hr), Option.isSome_some, if_pos rfl]
    exact parseHeapHeader_header d hk hr
  | false =>
    have hs : d.rateSuffix = [] := by
      unfold HeapDoc.rateSuffix; cases d.rate <;> simp [hk]
    have hv : d.v2 = false ∧ d.period = 1 ∧ d.hasAlloc = false := by
      cases hkind : d.kind <;> simp [hkind, HeapKind.isHeap] at hk <;>
        simp [HeapDoc.v2, HeapDoc.period, HeapDoc.hasAlloc, hkind, HeapKind.isHeap]
    have h0 : matchHeapHeaderAt d.headerLine = none := by
      have := d.kind.hasPrefix_heap
      rw [hk, hasPrefix, Option.isSome_eq_false_iff, Option.isNone_iff_eq_none] at this
      rw [d.headerLine_eq, matchHeapHeaderAt_headerText _ _ _ _ _ _ (d.kind.print_stops _), hs, List.append_nil, this]
      rfl
    have hc : (58 : UInt8) ∉ d.kind.print ++ d.rateSuffix := by
      rw [hs, List.append_nil]; exact fun h => (isHeapNameByte_ne (d.kind.print_name.2 58 h)).2.1 rfl
    rw [d.headerLine_eq] at h0 ⊢
    rw [searchRe_headerText matchHeapHeaderAt_re _ _ _ _ _ _ hc, h0,
      searchRe_headerText (matchOtherHeaderAt_re _) _ _ _ _ _ _ hc,
      searchRe_headerText (matchOtherHeaderAt_re _) _ _ _ _ _ _ hc,
      matchOtherHeaderAt_headerText, matchOtherHeaderAt_headerText, hs, List.append_nil, hv.1, hv.2.1, hv.2.2]
    have := (HeapKind.print_table d.kind d.kind.mem_all).2.2
    rw [hk, if_neg Bool.false_ne_true] at this
    cases hg : hasPrefix (asc "growth") d.kind.print <;> simp_all

/-- the block-size label of a record whose in-use count is not exactly 0 (negative ones included) -/
theorem heapSample_numLabel (scale : ScaleFn) (hasAlloc v2 : Bool) (rate : Nat) {inN : Int} (inB : Int) (alN alB : Nat)
    (addrs : List Nat) (hn : inN ≠ 0) :
    (heapSample scale hasAlloc v2 rate inN inB alN alB addrs).numLabel = [(asc "bytes", [goDiv inB inN])] := by
  simp [heapSample, hn]

theorem unsample_sampled (scale : ScaleFn) {rate : Nat} {c s : Int} (hc : c ≠ 0) (hs : s ≠ 0) (hr : 1 < rate) :
    unsample scale true rate c s = scale c s rate := by
  have : ¬ rate ≤ 1 := by omega
  simp [unsample, hc, hs, this]

/-- a record line without its indentation -/
def HeapRec.core (pad w : Nat) (r : HeapRec) : Str :=
  heapNumsCoreZ pad r.inuseN r.inuseB r.allocN r.allocB (asc " @" ++ printAddrs w r.addrs)

theorem HeapRec.print_eq (pad w : Nat) (r : HeapRec) : r.print pad w = sp (r.indent + pad) ++ r.core pad w := by
  unfold HeapRec.print HeapRec.core
  rw [List.append_assoc, List.append_assoc, heapNumbersZ_core, sp_add]

theorem HeapRec.core_cons (pad w : Nat) (r : HeapRec) : ∃ c t, r.core pad w = c :: t ∧ (isDigit c = true ∨ c = 45) := by
  obtain ⟨c, t, hd, hc⟩ := intStr_cons r.inuseN
  unfold HeapRec.core heapNumsCoreZ
  rw [hd]
  exact ⟨c, _, rfl, hc⟩

theorem HeapRec.trim (pad w : Nat) (r : HeapRec) : trimSpace (r.print pad w) = r.core pad w := by
  rw [HeapRec.print_eq]
  obtain ⟨c, t, hd, hc⟩ := r.core_cons pad w
  refine trimSpace_replicate _ _ (by rw [hd]; simpa using (head_not_space hc).1) ?_
  rw [HeapRec.core, asc_at, show ([32, 64] : Str) ++ printAddrs w r.addrs = [32] ++ 64 :: printAddrs w r.addrs from rfl,
    heapNumsCoreZ_append]
  exact at_printAddrs_reverse_stops _ _ _

theorem HeapRec.not_mem_print {x : UInt8} (hd : isDigit x = false) (ha : isAddrText x = false)
    (h : x ≠ 45 ∧ x ≠ 32 ∧ x ≠ 58 ∧ x ≠ 91 ∧ x ≠ 93) (h64 : x ≠ 64) (pad w : Nat) (r : HeapRec) : x ∉ r.print pad w := by
  simp [HeapRec.print, asc_at, not_mem_sp h.2.1, not_mem_heapNumbersZ hd h, not_mem_printAddrs ha, h.2.1, h64]

theorem matchHeapSampleAt_core (pad w : Nat) (r : HeapRec) :
    matchHeapSampleAt (r.core pad w) = some (intStr r.inuseN, intStr r.inuseB, dec r.allocN, dec r.allocB, printAddrs w r.addrs) := by
  unfold matchHeapSampleAt HeapRec.core
  have := reFourNumbersZ_core 0 pad r.inuseN r.inuseB r.allocN r.allocB (asc " @" ++ printAddrs w r.addrs)
  rw [sp, List.replicate_zero, List.nil_append] at this
  rw [this]
  simp only [Option.bind_eq_bind, Option.bind_some, stripPrefix_append, takeWhile_addrText]
  rfl

theorem parseHeapSample_core (scale : ScaleFn) (pad w : Nat) (r : HeapRec) (rate : Nat) (v2 hasAlloc : Bool)
    (hr : r.wf hasAlloc = true) :
    parseHeapSample scale (r.core pad w) rate v2 hasAlloc =
      .ok (heapSample scale hasAlloc v2 rate r.inuseN r.inuseB r.allocN r.allocB r.addrs) := by
  simp only [HeapRec.wf, Bool.and_eq_true, decide_eq_true_eq, List.all_eq_true, Bool.or_eq_true,
    bne_iff_ne, ne_eq, beq_iff_eq, Bool.not_eq_true'] at hr
  obtain ⟨⟨⟨⟨⟨⟨⟨_, h1⟩, h2⟩, h3⟩, h4⟩, h5⟩, h6⟩, h7⟩ := hr
  unfold parseHeapSample
  rw [searchRe_of_some (matchHeapSampleAt_core pad w r)]
  simp only [parseI64Z_intStr h1.1 h1.2, parseI64Z_intStr h2.1 h2.2, parseI64_dec h3, parseI64_dec h4,
    parseHexAddresses_printAddrs w r.addrs h7]
  have c1 : (hasAlloc && r.allocN == 0 && r.allocB != 0) = false := by
    rcases h6 with (h | h) | h <;> simp [h]
  have c2 : (r.inuseN == 0 && r.inuseB != 0) = false := by
    rcases h5 with h | h <;> simp [h]
  simp [c1, c2]

theorem heapLoop_filler (scale : ScaleFn) (rate : Nat) (v2 hasAlloc : Bool) (f : Filler) (R : List Str) (acc : List RawSample) :
    heapLoop scale rate v2 hasAlloc (f.print :: R) acc = heapLoop scale rate v2 hasAlloc R acc := by
  rw [heapLoop]; simp only [trimSpace_filler, if_true]

theorem heapLoop_rec (scale : ScaleFn) (rate : Nat) (v2 hasAlloc : Bool) (pad w : Nat) (r : HeapRec)
    (hr : r.wf hasAlloc = true) (R : List Str) (acc : List RawSample) :
    heapLoop scale rate v2 hasAlloc (r.print pad w :: R) acc =
      heapLoop scale rate v2 hasAlloc R
        (heapSample scale hasAlloc v2 rate r.inuseN r.inuseB r.allocN r.allocB r.addrs :: acc) := by
  obtain ⟨c, t, hd, hc⟩ := r.core_cons pad w
  have h1 : isSpaceOrComment (r.core pad w) = false := by
    rw [hd]; exact isSpaceOrComment_head 0 _ (head_not_space hc).1 (head_not_space hc).2
  have h2 : isMemoryMapSentinel (r.core pad w) = false := by
    rw [← r.trim]
    exact not_sentinel_of_no_M fun h =>
      r.not_mem_print (x := 77) (by decide) (by decide) (by decide) (by decide) pad w (trimSpace_mem h)
  rw [heapLoop]
  simp only [HeapRec.trim, h1, h2, Bool.false_eq_true, if_false,
    parseHeapSample_core scale pad w r rate v2 hasAlloc hr]

theorem HeapDoc.sentinel_mem (d : HeapDoc) : d.sentinel ∈ [sentinelMemoryMap, sentinelMappedLibraries] := by
  unfold HeapDoc.sentinel; cases d.libs <;> simp

theorem HeapDoc.sentinel_ok (d : HeapDoc) : LineOK d.sentinel ∧ isMemoryMapSentinel d.sentinel = true := by
  refine ⟨(sentinel_table.1 _ d.sentinel_mem).2.2.1, ?_⟩
  unfold HeapDoc.sentinel
  cases d.libs
  · exact isMemoryMapSentinel_memoryMap
  · exact isMemoryMapSentinel_mappedLibraries

theorem heapLoop_sentinel (scale : ScaleFn) (rate : Nat) (v2 hasAlloc : Bool) (d : HeapDoc) (R : List Str) (acc : List RawSample) :
    heapLoop scale rate v2 hasAlloc (d.sentinel :: R) acc = .ok (acc.reverse, d.sentinel, R) := by
  have h := sentinel_table.1 _ d.sentinel_mem
  rw [heapLoop]
  simp only [h.1, h.2.1, d.sentinel_ok.2, Bool.false_eq_true, if_false, if_true]

theorem HeapDoc.wf_parts {d : HeapDoc} (h : d.wf = true) :
    (∀ r ∈ d.recs, r.wf d.hasAlloc = true) ∧ d.post.all Filler.wf = true ∧ d.rate.all (· < two63) = true ∧
      ∀ m, d.map = some m → m.wf = true := by
  simp only [HeapDoc.wf, Bool.and_eq_true, List.all_eq_true] at h
  obtain ⟨⟨⟨⟨⟨⟨⟨hrecs, hpost⟩, hrate⟩, _⟩, _⟩, _⟩, _⟩, hmap⟩ := h
  exact ⟨hrecs, List.all_eq_true.2 hpost, hrate, wf_of_map hmap⟩

theorem HeapDoc.LineOK_headerLine (d : HeapDoc) (hr : d.rate.all (· < two63) = true) : LineOK d.headerLine := by
  obtain ⟨⟨_, _, _, _, ok1⟩, _, _, ok2⟩ := heapHeader_pieces
  rw [d.headerLine_eq, headerText, heapNumbers_eq_Z]
  lineok
  exact ⟨ok1, LineOK_of_not_mem (not_mem_heapNumbersZ (by decide) (by decide) _ _ _ _ _)
    (not_mem_heapNumbersZ (by decide) (by decide) _ _ _ _ _), ok2, LineOK_heapKind _, (d.rateSuffix_parse hr).1.2⟩

theorem HeapDoc.lines_ok (d : HeapDoc) (h : d.wf = true) : ∀ l ∈ d.lines, LineOK l := by
  obtain ⟨hrecs, hpost, hrate, hmap⟩ := d.wf_parts h
  intro l hl
  simp only [HeapDoc.lines, List.mem_append, List.mem_singleton] at hl
  rcases hl with ((hl | hl) | hl) | hl
  · rw [hl]; exact d.LineOK_headerLine hrate
  · refine LineOK_records HeapRec.fill (HeapRec.print d.pad d.width) d.recs (fun r hr => ⟨?_, ?_⟩) l hl
    · have := hrecs r hr
      simp only [HeapRec.wf, Bool.and_eq_true] at this
      exact this.1.1.1.1.1.1.1
    · exact LineOK_of_not_mem (r.not_mem_print (x := 10) (by decide) (by decide) (by decide) (by decide) _ _)
        (r.not_mem_print (x := 13) (by decide) (by decide) (by decide) (by decide) _ _)
  · exact LineOK_fillers hpost l hl
  · exact LineOK_tailLines d.sentinel_ok.1 hmap l hl

theorem splitLines_printHeap (d : HeapDoc) (h : d.wf = true) : splitLines (printHeap d) = d.lines :=
  splitLines_unlines _ (d.lines_ok h)

theorem parseHeap_printHeap (scale : ScaleFn) (d : HeapDoc) (h : d.wf = true) :
    parseHeap scale (printHeap d) = .ok (expectedHeap scale d) := by
  obtain ⟨hrecs, hpost, hrate, hmap⟩ := d.wf_parts h
  unfold parseHeap
  rw [splitLines_printHeap d h]
  unfold HeapDoc.lines
  simp only [List.append_assoc, List.cons_append, List.nil_append, parseHeapLines]
  rw [heapHeader_dispatch d hrate]
  simp only []
  obtain ⟨cur, rest, hloop, hsect⟩ := loop_document (heapLoop scale d.period d.v2 d.hasAlloc) HeapRec.fill
    (HeapRec.print d.pad d.width) (fun r => heapSample scale d.hasAlloc d.v2 d.period r.inuseN r.inuseB r.allocN r.allocB r.addrs)
    d.sentinel (heapLoop_filler scale _ _ _) d.recs (fun r hr => heapLoop_rec scale _ _ _ d.pad d.width r (hrecs r hr))
    (fun acc => by rw [heapLoop]) (heapLoop_sentinel scale _ _ _ d) d.sentinel_ok.2 d.post d.map hmap
  rw [hloop]
  simp only [hsect, expectedHeap]

end PV.Legacy
