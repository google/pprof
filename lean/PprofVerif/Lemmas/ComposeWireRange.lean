import PprofVerif.Model.Wire
/-!
The scalars a wire field can hold fit 64 bits: `toI64` only returns int64 values; a little-endian word of at most 8 bytes is below 2^64.
(`decodeVarint` reduces modulo 2^64.)  `Lemmas/CodecTotal.lean` turns these into the range part
of what `decodeField` returns.
-/
namespace PV
namespace Wire

theorem zero_lt_two64 : 0 < two64 := by decide

theorem toI64_InI64 (n : Nat) : InI64 (toI64 n) := by
  unfold toI64 InI64
  have h : n % two64 < two64 := Nat.mod_lt _ (by decide)
  unfold two64 two63 at *
  split <;> omega

theorem le_lt : ∀ (bs : Bytes), le bs < 256 ^ bs.length
  | [] => Nat.one_pos
  | b :: bs => by
    have ih := le_lt bs
    have hb : b.toNat < 256 := b.toNat_lt
    simp only [le, List.foldr_cons, List.length_cons] at ih ⊢
    rw [Nat.pow_succ]
    omega

theorem le_take_lt (n : Nat) (hn : n ≤ 8) (bs : Bytes) : le (bs.take n) < two64 :=
  Nat.lt_of_lt_of_le (le_lt _)
    (Nat.pow_le_pow_right (by decide) (Nat.le_trans (List.length_take_le _ _) hn) : _ ≤ 256 ^ 8)

end Wire
end PV
