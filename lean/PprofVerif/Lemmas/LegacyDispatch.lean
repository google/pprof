import PprofVerif.Lemmas.LegacyHeap
import PprofVerif.Lemmas.LegacyJavaCpu
import PprofVerif.Model.Legacy
/-!
Helper lemmas for C14: the dispatch of `parseLegacy` / `ParseData` for binary CPU (both flavours)
and heap documents; the text formats tried later in the chain are in `LegacyChain`.
-/
namespace PV.Legacy
open PV

theorem parseLegacy_printCpu (scale : ScaleFn) (cyc : CycFn) (d : CpuDoc) (h : d.wf = true) :
    parseLegacy scale cyc (printCpu d) = .ok (expectedCpu d) := by
  simp [parseLegacy, parseCPU_printCpu d h]

theorem leValue_ne_zero_of_mem {l : Str} {c : UInt8} (hc : c ∈ l) (hne : c ≠ 0) : leValue l ≠ 0 := by
  induction l with
  | nil => cases hc
  | cons b r ih =>
    simp only [leValue]
    rcases List.mem_cons.1 hc with rfl | h
    · have : c.toNat ≠ 0 := by
        intro e; apply hne; exact UInt8.toNat_inj.1 (by simpa using e)
      omega
    · have := ih h; omega

/-- text (first byte non-zero) is not a CPU profile header under any decoder: the first word read
contains that byte, so it is not 0 -/
theorem cpuHeaderWords_text (big w64 : Bool) (c : UInt8) (t : Str) (hc : c ≠ 0) : cpuHeaderWords big w64 (c :: t) = none := by
  unfold cpuHeaderWords
  cases h1 : getWord big w64 (c :: t) with
  | none => rfl
  | some x1 =>
    obtain ⟨n1, b1⟩ := x1
    have hn1 : n1 ≠ 0 := by
      obtain ⟨p, hp, e, rfl⟩ := getWord_eq_some h1
      have hmem : c ∈ p := by
        cases p with
        | nil => have := four_le_wordLen w64; simp at hp; omega
        | cons c' p' => cases e; simp
      cases big with
      | false => exact leValue_ne_zero_of_mem hmem hc
      | true => exact leValue_ne_zero_of_mem (by simpa using hmem) hc
    simp only [Option.bind_eq_bind, Option.bind_some, Option.bind_eq_none_iff]
    intro x2 _ x3 _ x4 _ x5 _
    simp [hn1]

theorem parseCPU_text (c : UInt8) (t : Str) (hc : c ≠ 0) : parseCPU (c :: t) = .err "unrecognized" := by
  simp [parseCPU, parseCPUWith, cpuHeaderWords_text _ _ c t hc]

theorem unlines_cons (l : Str) (ls : List Str) : unlines (l :: ls) = l ++ 10 :: unlines ls := by simp [unlines]

theorem parseCPU_unlines (l : Str) (ls : List Str) (h : Stops (· == 0) l) :
    parseCPU (unlines (l :: ls)) = .err "unrecognized" := by
  rw [unlines_cons]
  cases l with
  | nil => exact parseCPU_text 10 _ (by decide)
  | cons c t => exact parseCPU_text c _ (by simpa using h)

theorem parseLegacy_printJavaCpu (scale : ScaleFn) (cyc : CycFn) (d : JavaCpuDoc) (h : d.wf = true) :
    parseLegacy scale cyc (printJavaCpu d) = .ok (expectedJavaCpu d) := by
  simp [parseLegacy, parseCPU_printJavaCpu d h]

/-- the bytes of the literal (evaluated here, once; the facts about it are read off the list) -/
theorem asc_heapProfile : asc "heap profile:" = [104, 101, 97, 112, 32, 112, 114, 111, 102, 105, 108, 101, 58] := by
  decide +kernel

theorem printHeap_eq (d : HeapDoc) : ∃ R, printHeap d = asc "heap profile:" ++ 32 :: R := by
  rw [printHeap, show d.lines = d.headerLine :: d.lines.tail from rfl, unlines_cons, d.headerLine_eq, headerText]
  exact ⟨_, by simp only [List.append_assoc]; rfl⟩

theorem parseLegacy_printHeap (scale : ScaleFn) (cyc : CycFn) (d : HeapDoc) (h : d.wf = true) :
    parseLegacy scale cyc (printHeap d) = .ok (expectedHeap scale d) := by
  have hcpu : parseCPU (printHeap d) = .err "unrecognized" := by
    obtain ⟨R, e⟩ := printHeap_eq d
    rw [e, asc_heapProfile]
    exact parseCPU_text 104 _ (by decide)
  simp [parseLegacy, hcpu, parseHeap_printHeap scale d h]

theorem parseData_of_pb_rejects (pb : Str → Outcome Profile) (scale : ScaleFn) (cyc : CycFn) (b : Str)
    (h : PbRejects (pb b)) : parseData pb scale cyc b = parseLegacy scale cyc b := by
  obtain ⟨e, he, h1, h2⟩ := h
  unfold parseData
  rw [he]
  simp [h1, h2]

end PV.Legacy
