import PprofVerif.Lemmas.LegacyCount
import PprofVerif.Lemmas.LegacyHeap
import PprofVerif.Lemmas.LegacyContention
import PprofVerif.Lemmas.LegacyThread
import PprofVerif.Lemmas.LegacyDispatch
/-!
Helper lemmas for C14: the dispatch chain of `parseLegacy` for the text formats — every parser tried
BEFORE the right one answers `unrecognized` (not another error) on a printed document.  Each earlier
parser decides on the first line (`parseCPU`: its first byte; `parseHeap`: the line itself) or on the
first line that is not a comment (`parseGoCount`, `parseThread`): one lemma per parser says which first
lines it does not recognise, one fact per format of which kind its first line is.  The first lines
`--- x…` of contention and Java documents share one description, `DashHead`.
-/
namespace PV.Legacy
open PV

theorem searchRe_append_none {α} (m : Str → Option α) (b : Str) (P : Str → Prop)
    (hm : ∀ u, P u → m (u ++ b) = none) (htail : ∀ c t, P (c :: t) → P t)
    (hb : searchRe m b = none) (a : Str) (ha : P a) : searchRe m (a ++ b) = none := by
  induction a with
  | nil => simpa using hb
  | cons c a ih =>
    have := hm _ ha
    simp only [List.cons_append] at this
    simp only [List.cons_append, searchRe, this]
    exact ih (htail c a ha)

theorem stripPrefix_none_of_short {P s : Str} (h : s.length < P.length) : stripPrefix P s = none := by
  induction P generalizing s with
  | nil => cases h
  | cons a P ih =>
    cases s with
    | nil => rfl
    | cons b s =>
      simp only [stripPrefix]
      split
      · exact ih (Nat.lt_of_succ_lt_succ h)
      · rfl

/-- matching `P₁ c P₂` against `u c v` when `c` occurs neither in `P₁` nor in `u`: the parts in
front of `c` have to coincide. -/
theorem stripPrefix_sep (c : UInt8) (P1 P2 u v : Str) (hP : c ∉ P1) (hu : c ∉ u) :
    stripPrefix (P1 ++ c :: P2) (u ++ c :: v) = if u = P1 then stripPrefix P2 v else none := by
  induction P1 generalizing u with
  | nil =>
    cases u with
    | nil => simp [stripPrefix]
    | cons a u =>
      have : c ≠ a := fun e => hu (by simp [e])
      simp [stripPrefix, this]
  | cons p P1 ih =>
    cases u with
    | nil =>
      have : p ≠ c := fun e => hP (by simp [e])
      simp [stripPrefix, this]
    | cons a u =>
      have ih' := ih u (fun h => hP (by simp [h])) (fun h => hu (by simp [h]))
      by_cases hpa : p = a
      · subst hpa; simp [stripPrefix, ih']
      · simp [stripPrefix, hpa, Ne.symm hpa]

theorem not_mem_tail {c a : UInt8} {t : Str} (h : c ∉ a :: t) : c ∉ t := fun hm => h (List.mem_cons_of_mem _ hm)

theorem dash_head (t : Str) : Stops (· == 0) (45 :: t) := (Stops_cons _ _ _).2 (by decide)

theorem parseHeapLines_unrec (scale : ScaleFn) (hd : Str) (rest : List Str) (h : noHeapHeader hd = true) :
    parseHeapLines scale (hd :: rest) = .err "unrecognized" := by
  simp only [noHeapHeader, Bool.and_eq_true, Option.isNone_iff_eq_none] at h
  simp [parseHeapLines, h.1.1, h.1.2, h.2]

theorem noHeapHeader_of {l : Str} (h : ∀ {α : Type} (m : Str → Option α), HeapHeaderRe m → searchRe m l = none) :
    noHeapHeader l = true := by
  simp only [noHeapHeader, h _ matchHeapHeaderAt_re, h _ (matchOtherHeaderAt_re _)]; rfl

theorem noHeapHeader_of_no_colon {l : Str} (h : (58 : UInt8) ∉ l) : noHeapHeader l = true :=
  noHeapHeader_of fun _ hm => hm.none_of_no_colon h

theorem noHeapHeader_of_no_h {l : Str} (h : (104 : UInt8) ∉ l) : noHeapHeader l = true :=
  noHeapHeader_of fun _ hm => hm.none_of_no_h h

/-- `parseCPU` and `parseHeap` judge a text document by its first line: a comment or blank line
or, when there is none, the line `x`. -/
theorem parseCPU_parseHeap_unrec (scale : ScaleFn) (fs : List Filler) (hfs : ∀ f ∈ fs, f.wf = true) (x : Str)
    (more : List Str) (hx0 : Stops (· == 0) x) (hxh : fs = [] → noHeapHeader x = true)
    (hs : splitLines (unlines (printFillers fs ++ x :: more)) = printFillers fs ++ x :: more) :
    parseCPU (unlines (printFillers fs ++ x :: more)) = .err "unrecognized" ∧
    parseHeap scale (unlines (printFillers fs ++ x :: more)) = .err "unrecognized" := by
  obtain ⟨L0, rest, hL, h0, hh⟩ : ∃ L0 rest, printFillers fs ++ x :: more = L0 :: rest ∧
      Stops (· == 0) L0 ∧ noHeapHeader L0 = true := by
    cases fs with
    | nil => exact ⟨x, more, rfl, hx0, hxh rfl⟩
    | cons f fs =>
      have hf := hfs f (by simp)
      exact ⟨f.print, _, rfl, (Stops_of_all fun b hb => isPrint_ne_zero (Filler.print_bytes hf b hb).1).1,
        noHeapHeader_of_no_colon (filler_no_colon hf)⟩
  unfold parseHeap
  rw [hs, hL]
  exact ⟨parseCPU_unlines _ _ h0, parseHeapLines_unrec scale _ _ hh⟩

def countTail (n : Nat) : Str := asc " profile: total " ++ dec n

/-- `heap profile:` can only be found across the end of a blank-free name when the name is
`heap`; what follows is then ` total …`, which is not a number. -/
theorem stripHeapProfile_name (u : Str) (hu : (32 : UInt8) ∉ u) (n : Nat) :
    stripPrefix (asc "heap profile:") (u ++ countTail n) = if u = asc "heap" then some (asc " total " ++ dec n) else none := by
  have hp : asc "heap profile:" = asc "heap" ++ 32 :: asc "profile:" := by decide +kernel
  have ht : countTail n = 32 :: (asc "profile:" ++ (asc " total " ++ dec n)) := by
    rw [countTail, show asc " profile: total " = 32 :: (asc "profile:" ++ asc " total ") by decide +kernel]; simp
  rw [hp, ht, stripPrefix_sep 32 _ _ _ _ (by decide) hu, stripPrefix_append]

theorem reFourNumbers_total (n : Nat) : reFourNumbers (asc " total " ++ dec n) = none := by
  have : asc " total " = 32 :: 116 :: asc "otal " := by decide +kernel
  rw [this]
  simp [reFourNumbers, reNumColon, skipSp, reDigits, isDigit]

theorem countTail_no_h (n : Nat) : (104 : UInt8) ∉ countTail n := by
  intro hb
  rcases List.mem_append.1 hb with h | h
  · exact absurd h (by decide +kernel)
  · exact not_mem_dec (by decide) n h

theorem noHeapHeader_countHeader (d : CountDoc) (h : countNameOK d.name = true) : noHeapHeader d.headerLine = true := by
  have e : d.headerLine = d.name ++ countTail d.total := by simp [CountDoc.headerLine, countTail]
  have hn : (32 : UInt8) ∉ d.name := fun hm => by
    have := countNameOK_nonspace h 32 hm
    revert this; decide
  rw [e]
  -- across the end of the name the literal fits at most once and no number follows; the tail has no `h`
  refine noHeapHeader_of fun m hm => searchRe_append_none m _ (fun u => (32 : UInt8) ∉ u) (fun u hu => hm _ fun r hr => ?_)
    (fun _ _ => not_mem_tail) ?_ d.name hn
  · rw [stripHeapProfile_name u hu] at hr
    split at hr
    · cases hr; exact reFourNumbers_total _
    · cases hr
  · exact hm.none_of_no_h (countTail_no_h d.total)

theorem countHeader_head (d : CountDoc) (h : countNameOK d.name = true) : Stops (· == 0) d.headerLine := by
  obtain ⟨c, t, hn, _, _⟩ := countNameOK_cons h
  rw [CountDoc.headerLine, List.append_assoc]
  exact Stops_of_class (fun _ => isPrint_ne_zero) (by simp [hn]) (fun b hb => (countNameOK_bytes h b hb).1) _

theorem parseLegacy_printCount (scale : ScaleFn) (cyc : CycFn) (d : CountDoc) (h : d.wf = true) :
    parseLegacy scale cyc (printCount d) = .ok (expectedCount d) := by
  have hcount := parseGoCount_printCount d h
  have hlines := splitLines_printCount d h
  simp only [CountDoc.wf, Bool.and_eq_true, List.all_eq_true] at h
  obtain ⟨⟨⟨⟨hpre, hname⟩, _⟩, _⟩, _⟩ := h
  have hL : d.lines = printFillers d.pre ++ d.headerLine ::
      (d.recLines ++ printFillers d.post ++ tailLines sentinelMemoryMap d.map) := by
    simp [CountDoc.lines, List.append_assoc]
  unfold printCount at hlines hcount ⊢
  rw [hL] at hlines hcount ⊢
  obtain ⟨hcpu, hheap⟩ := parseCPU_parseHeap_unrec scale d.pre hpre _ _ (countHeader_head d hname)
    (fun _ => noHeapHeader_countHeader d hname) hlines
  simp only [parseLegacy, hcpu, hheap, hcount]

theorem not_filler_dashes (t : Str) : isSpaceOrComment (45 :: t) = false :=
  isSpaceOrComment_head 0 _ (by decide) (by decide)

theorem matchCountStart_dashes (c : UInt8) (t : Str) (hc : c ≠ 112) : matchCountStart (45 :: 45 :: 45 :: 32 :: c :: t) = none := by
  have e : (45 :: 45 :: 45 :: 32 :: c :: t : Str) = asc "---" ++ 32 :: c :: t := rfl
  have hS : Stops (fun b => !isReSpace b) (32 :: c :: t) := by simp [Stops]; decide
  have hall : ∀ b ∈ asc "---", (!isReSpace b) = true := by decide
  unfold matchCountStart
  rw [e, takeWhile_append_stops hall hS, dropWhile_append_stops hall hS,
    show asc " profile: total " = 32 :: 112 :: asc "rofile: total " by decide +kernel]
  simp [stripPrefix, Ne.symm hc]

theorem parseGoCountLines_dashes (fs : List Filler) (c : UInt8) (t : Str) (more : List Str) (hc : c ≠ 112) :
    parseGoCountLines (printFillers fs ++ (45 :: 45 :: 45 :: 32 :: c :: t) :: more) = .err "unrecognized" := by
  unfold parseGoCountLines
  rw [skipLeadingFillers_fillers (not_filler_dashes _)]
  simp [matchCountStart_dashes c t hc]

theorem asc_threadz : asc "--- threadz " = 45 :: 45 :: 45 :: 32 :: 116 :: asc "hreadz " := by decide +kernel
theorem asc_Thread : asc "--- Thread " = 45 :: 45 :: 45 :: 32 :: 84 :: asc "hread " := by decide +kernel

theorem threadzLine_eq (n : Nat) : threadzLine n = 45 :: 45 :: 45 :: 32 :: 116 :: (asc "hreadz " ++ (dec n ++ asc " ---")) := by
  simp [threadzLine, asc_threadz, List.append_assoc]

theorem ThreadRec.headerLine_eq (r : ThreadRec) :
    r.headerLine = 45 :: 45 :: 45 :: 32 :: 84 :: (asc "hread " ++ (hex r.id ++ (asc " (name: " ++ (r.name ++ (47 :: (dec r.tid ++ asc ") stack: ---")))))) := by
  simp [ThreadRec.headerLine, asc_Thread, List.append_assoc]

theorem parseLegacy_printThread (scale : ScaleFn) (cyc : CycFn) (d : ThreadDoc) (h : d.wf = true) (hc : d.chainOK = true) :
    parseLegacy scale cyc (printThread d) = .ok (expectedThread d) := by
  have hthread := parseThread_printThread d h
  have hlines := splitLines_printThread d h
  simp only [ThreadDoc.wf, Bool.and_eq_true, List.all_eq_true] at h
  obtain ⟨⟨⟨hpre, hhead⟩, _⟩, _⟩ := h
  -- the first line that is not a comment: `--- threadz N ---` or the first thread header
  obtain ⟨x, more, hL, ⟨c, t, hx, hc112⟩, hheap0⟩ : ∃ x more, d.lines = printFillers d.pre ++ x :: more ∧
      (∃ c t, x = 45 :: 45 :: 45 :: 32 :: c :: t ∧ c ≠ 112) ∧ (d.pre = [] → noHeapHeader x = true) := by
    cases hh : d.head with
    | some p =>
      exact ⟨threadzLine p.1, _, by simp only [ThreadDoc.lines, hh, List.append_assoc, List.cons_append]; rfl,
        ⟨116, _, threadzLine_eq _, by decide⟩, fun _ => noHeapHeader_of_no_colon (threadzLine_not_mem _ (by simp))⟩
    | none =>
      cases hr : d.recs with
      | nil => rw [hh, hr] at hhead; simp at hhead
      | cons r rs =>
        exact ⟨r.headerLine, _, by simp only [ThreadDoc.lines, hh, hr, ThreadRec.lines, List.flatMap_cons, List.append_assoc,
            List.cons_append, List.nil_append]; rfl,
          ⟨84, _, r.headerLine_eq, by decide⟩, fun hp => by simpa [ThreadDoc.chainOK, hp, hh, hr] using hc⟩
  unfold printThread at hlines hthread ⊢
  rw [hL] at hlines hthread ⊢
  obtain ⟨hcpu, hheap⟩ := parseCPU_parseHeap_unrec scale d.pre hpre _ _ (by rw [hx]; exact dash_head _) hheap0 hlines
  have hcount : parseGoCount (unlines (printFillers d.pre ++ x :: more)) = .err "unrecognized" := by
    unfold parseGoCount; rw [hlines, hx]; exact parseGoCountLines_dashes _ c t more hc112
  simp only [parseLegacy, hcpu, hheap, hcount, hthread]

/-- A regexp that starts with a literal `--- x…` of at least 11 bytes is not found in `--- cAB`
when `c` is neither `x` nor `-`, `A` has no `-` and `B` is shorter than 11 bytes: in front of
` c…` the literal fits at most with its own three dashes, and then `x ≠ c`; further right it
would have to start inside `A` or in the short `B`. -/
theorem searchRe_dashes {α} (m : Str → Option α) (x : UInt8) (L : Str)
    (hm : ∀ t, stripPrefix ([45, 45, 45] ++ 32 :: x :: L) t = none → m t = none) (hL : 6 ≤ L.length)
    (c : UInt8) (A B : Str) (hcx : c ≠ x) (hc : c ≠ 45) (hA : ∀ b ∈ A, b ≠ (45 : UInt8)) (hB : B.length < 11) :
    searchRe m (45 :: 45 :: 45 :: 32 :: c :: (A ++ B)) = none := by
  have h1 : ∀ c' t, c' ≠ 45 → m (c' :: t) = none := fun c' t h => hm _ (stripPrefix_cons_ne _ _ (Ne.symm h))
  have h2 : ∀ u, (32 : UInt8) ∉ u → m (u ++ 32 :: c :: (A ++ B)) = none := fun u hu => hm _ (by
    rw [stripPrefix_sep 32 _ _ _ _ (by decide) hu, stripPrefix_cons_ne _ _ (Ne.symm hcx)]; split <;> rfl)
  have h3 : ∀ t : Str, t.length < 11 → m t = none := fun t h =>
    hm _ (stripPrefix_none_of_short (by simp only [List.length_append, List.length_cons]; omega))
  have hb : searchRe m (32 :: c :: (A ++ B)) = none := by
    rw [show (32 :: c :: (A ++ B) : Str) = (32 :: c :: A) ++ B from rfl,
      searchRe_skip m h1 _ B (by
        intro b hb; simp only [List.mem_cons] at hb
        rcases hb with rfl | rfl | hb
        · decide
        · exact hc
        · exact hA b hb)]
    exact searchRe_none_of_all m (fun t => t.length < 11) h3 (fun _ _ h => Nat.lt_of_succ_lt h) B hB
  exact searchRe_append_none m _ (fun u => (32 : UInt8) ∉ u) h2 (fun _ _ => not_mem_tail) hb [45, 45, 45] (by decide)

theorem matchThreadzAt_of_strip {t : Str} (h : stripPrefix ([45, 45, 45] ++ 32 :: 116 :: asc "hreadz ") t = none) :
    matchThreadzAt t = none := by
  rw [show [45, 45, 45] ++ 32 :: 116 :: asc "hreadz " = asc "--- threadz " from asc_threadz.symm] at h
  unfold matchThreadzAt; rw [h]; rfl

theorem matchThreadStartAt_of_strip {t : Str} (h : stripPrefix ([45, 45, 45] ++ 32 :: 84 :: asc "hread ") t = none) :
    matchThreadStartAt t = none := by
  rw [show [45, 45, 45] ++ 32 :: 84 :: asc "hread " = asc "--- Thread " from asc_Thread.symm] at h
  unfold matchThreadStartAt; rw [h]; rfl

theorem parseThreadLines_unrec (x : Str) (more : List Str) (hx : isSpaceOrComment x = false)
    (h1 : searchRe matchThreadzAt x = none) (h2 : searchRe matchThreadStartAt x = none) :
    parseThreadLines (x :: more) = .err "unrecognized" := by
  simp [parseThreadLines, skipLeadingFillers, hx, h1, isThreadStart, h2]

/-- `--- x…` with `x` none of `t`, `T`, `-`, `p`, continued by a text without `-` and a tail too
short for the threadz regexps: the first line of a document that is neither a count nor a
threadz document. -/
inductive DashHead : Str → Prop
  | mk (c : UInt8) (A B : Str) (h116 : c ≠ 116) (h84 : c ≠ 84) (h45 : c ≠ 45) (h112 : c ≠ 112)
      (hA : ∀ b ∈ A, b ≠ (45 : UInt8)) (hB : B.length < 11) : DashHead (45 :: 45 :: 45 :: 32 :: c :: (A ++ B))

theorem DashHead.head {l : Str} (h : DashHead l) : Stops (· == 0) l := by
  cases h; exact dash_head _

theorem DashHead.not_count {l : Str} (h : DashHead l) (more : List Str) :
    parseGoCountLines (l :: more) = .err "unrecognized" := by
  cases h with
  | mk c A B _ _ _ h112 => exact parseGoCountLines_dashes [] c _ more h112

theorem DashHead.not_thread {l : Str} (h : DashHead l) (more : List Str) :
    parseThreadLines (l :: more) = .err "unrecognized" := by
  cases h with
  | mk c A B h116 h84 h45 _ hA hB =>
    exact parseThreadLines_unrec _ _ (not_filler_dashes _)
      (searchRe_dashes _ 116 _ (fun _ => matchThreadzAt_of_strip) (by decide) c A B h116 h45 hA hB)
      (searchRe_dashes _ 84 _ (fun _ => matchThreadStartAt_of_strip) (by decide) c A B h84 h45 hA hB)

theorem DashHead.unrec {l : Str} (h : DashHead l) (hh : noHeapHeader l = true) (scale : ScaleFn) (more : List Str)
    (hs : splitLines (unlines (l :: more)) = l :: more) :
    parseCPU (unlines (l :: more)) = .err "unrecognized" ∧ parseHeap scale (unlines (l :: more)) = .err "unrecognized" ∧
    parseGoCount (unlines (l :: more)) = .err "unrecognized" ∧ parseThread (unlines (l :: more)) = .err "unrecognized" := by
  obtain ⟨hcpu, hheap⟩ := parseCPU_parseHeap_unrec scale [] (fun _ hf => nomatch hf) l more h.head (fun _ => hh) hs
  refine ⟨hcpu, hheap, ?_, ?_⟩
  · unfold parseGoCount; rw [hs]; exact h.not_count more
  · unfold parseThread; rw [hs]; exact h.not_thread more

/-- `DashHead` with empty `A`, as a check that a closed line passes by evaluation -/
def dashHeadB : Str → Bool
  | 45 :: 45 :: 45 :: 32 :: c :: B => c != 116 && c != 84 && c != 45 && c != 112 && decide (B.length < 11)
  | _ => false

theorem DashHead.of_check {l : Str} (h : dashHeadB l = true) : DashHead l := by
  unfold dashHeadB at h
  split at h
  · simp only [Bool.and_eq_true, bne_iff_ne, ne_eq, decide_eq_true_eq] at h
    exact .mk _ [] _ h.1.1.1.1 h.1.1.1.2 h.1.1.2 h.1.2 (fun _ hb => nomatch hb) h.2
  · cases h

theorem ContHead.dashHead (hd : ContHead) : DashHead hd.print := by
  cases hd with
  | contentionz n =>
    have e : (ContHead.contentionz n).print = 45 :: 45 :: 45 :: 32 :: 99 :: ((asc "ontentionz " ++ dec n) ++ asc " ---") := by
      rw [ContHead.print, show asc "--- contentionz " = 45 :: 45 :: 45 :: 32 :: 99 :: asc "ontentionz " by decide +kernel]; simp
    rw [e]
    refine .mk 99 _ _ (by decide) (by decide) (by decide) (by decide) (fun b hb => ?_) (by decide)
    rcases List.mem_append.1 hb with hb | hb
    · exact (by decide +kernel : ∀ b ∈ asc "ontentionz ", b ≠ (45 : UInt8)) b hb
    · exact ne45_of_isDigit (dec_isDigit n b hb)
  | mutex => exact .of_check (by decide +kernel)
  | contention => exact .of_check (by decide +kernel)

theorem parseLegacy_printContention (scale : ScaleFn) (cyc : CycFn) (d : ContDoc) (h : d.wf = true) :
    parseLegacy scale cyc (printContention d) = .ok (expectedContention cyc d) := by
  have hcont := parseContention_printContention cyc d h
  have hlines := splitLines_printContention d h
  have hL : d.lines = d.head.print :: d.lines.tail := by simp [ContDoc.lines]
  unfold printContention at hlines hcont ⊢
  rw [hL] at hlines hcont ⊢
  obtain ⟨hcpu, hheap, hcount, hthread⟩ := d.head.dashHead.unrec (noHeapHeader_of_no_h (d.head.not_mem_print (by simp))) scale _ hlines
  simp only [parseLegacy, hcpu, hheap, hcount, hthread, hcont]

theorem JavaDoc.dashHead (d : JavaDoc) : DashHead d.headLine ∧ noHeapHeader d.headLine = true := by
  unfold JavaDoc.headLine
  cases d.heap
  · rw [if_neg Bool.false_ne_true, show asc "--- contentionz 1 ---" = (ContHead.contentionz 1).print by decide +kernel]
    exact ⟨ContHead.dashHead _, noHeapHeader_of_no_h (ContHead.not_mem_print _ (by simp))⟩
  · rw [if_pos rfl]
    exact ⟨.of_check (by decide +kernel), noHeapHeader_of_no_colon (by decide +kernel)⟩

/-- the first attribute line: `format = java` when present, else `resolution = …` -/
def JavaDoc.attr1 (d : JavaDoc) : Str :=
  if d.format then javaAttr d.spaced (asc "format") (asc "java") else javaAttr d.spaced (asc "resolution") d.resolution

theorem JavaDoc.lines_two (d : JavaDoc) : ∃ rest, d.lines = d.headLine :: d.attr1 :: rest := by
  unfold JavaDoc.lines JavaDoc.attrLines JavaDoc.attr1
  cases d.format <;> simp

/-- `parseContention` reads `format` / `resolution` as the attributes of a Java profile and
answers "unrecognized". -/
theorem contAttrLoop_javaAttr (spaced : Bool) (k v : Str) (hk : WordText k) (hv : WordText v)
    (hkey : contKeyOf k = none) (R : List Str) (st : ContState) :
    contAttrLoop (javaAttr spaced k v :: R) st = .err "unrecognized" := by
  -- a word byte or blank is none of `#`, `-`, `=`
  have hw : ∀ {b : UInt8}, isWordOrSp b = true → b.toNat ≠ 35 ∧ b.toNat ≠ 45 ∧ b.toNat ≠ 61 := by
    intro b h
    simp only [isWordOrSp, isWord, isDigit, Bool.or_eq_true, decide_eq_true_eq, beq_iff_eq] at h
    omega
  have hsplit : splitEq (javaAttr spaced k v) = some (k ++ sp (if spaced then 1 else 0), sp (if spaced then 1 else 0) ++ v) := by
    rw [javaAttr_eq]
    exact splitEq_append _ _ fun b hb => (hw (List.forall_mem_append.2 ⟨hk.word, sp_word _⟩ b hb)).2.2
  obtain ⟨c, t, hkc⟩ := List.exists_cons_of_ne_nil hk.ne
  have hc := hw (hk.word c (by simp [hkc]))
  have hcs : isSpace c = false := by have := hk.front; rw [hkc] at this; simpa using this
  obtain ⟨T, hline⟩ : ∃ T, javaAttr spaced k v = c :: T := ⟨_, by rw [javaAttr_eq, hkc]; rfl⟩
  have hf : isSpaceOrComment (javaAttr spaced k v) = false := by rw [hline]; exact isSpaceOrComment_head 0 _ hcs hc.1
  have hd : hasPrefix (asc "---") (javaAttr spaced k v) = false := by
    rw [hline]; exact hasPrefix_dashes_ne _ (fun e => hc.2.1 (by rw [e]; rfl))
  rw [contAttrLoop]
  simp only [attr_trim spaced k v hk hv, hf, hd, Bool.false_eq_true, if_false, hsplit, hk.trim_pre _, hkey]

theorem parseContention_printJava (cyc : CycFn) (d : JavaDoc) (h : d.wf = true) :
    parseContention cyc (printJava d) = .err "unrecognized" := by
  obtain ⟨rest, hL⟩ := d.lines_two
  have ha : contAttrLoop (d.attr1 :: rest) .init = .err "unrecognized" := by
    unfold JavaDoc.attr1
    cases d.format
    · exact contAttrLoop_javaAttr _ _ _ wordText_key_resolution (d.wf_parts h).1 (by decide +kernel) _ _
    · exact contAttrLoop_javaAttr _ _ _ wordText_key_format wordText_val_java (by decide +kernel) _ _
  unfold parseContention printJava
  rw [splitLines_unlines _ (d.lines_ok h), hL]
  simp only [parseContentionLines, ha]
  split <;> rfl

theorem parseLegacy_printJava (scale : ScaleFn) (cyc : CycFn) (d : JavaDoc) (h : d.wf = true) :
    parseLegacy scale cyc (printJava d) = .ok (expectedJava scale d) := by
  have hjava := parseJava_printJava scale d h
  have hcont := parseContention_printJava cyc d h
  have hlines := splitLines_unlines _ (d.lines_ok h)
  have hL : d.lines = d.headLine :: d.lines.tail := by obtain ⟨rest, hL⟩ := d.lines_two; rw [hL]; rfl
  unfold printJava at hjava hcont ⊢
  rw [hL] at hlines hjava hcont ⊢
  obtain ⟨hcpu, hheap, hcount, hthread⟩ := d.dashHead.1.unrec d.dashHead.2 scale _ hlines
  simp only [parseLegacy, hcpu, hheap, hcount, hthread, hcont, hjava]

end PV.Legacy
