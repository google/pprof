import PprofVerif.Lemmas.LegacyCpu
import PprofVerif.Lemmas.LegacyJava
import PprofVerif.Model.LegacyJavaCpu
/-!
Helper lemmas for C14: binary Java CPU profiles — `parseCPU (printJavaCpu d) = ok (expectedJavaCpu d)`,
and `parseCPU` on C++ CPU documents (`parseCPU = parseCPUWith javaCpuProfile`).
-/
namespace PV.Legacy
open PV

theorem trimSpace_snoc_cr (l : Str) : trimSpace (l ++ [13]) = trimSpace l := by
  unfold trimSpace trimLeft trimRight
  rw [List.dropWhile_append]
  cases hD : l.dropWhile isSpace with
  | nil => simp [show isSpace 13 = true by decide]
  | cons c t =>
    simp only [List.isEmpty_cons, Bool.false_eq_true, if_false]
    rw [List.reverse_append]
    simp [show isSpace 13 = true by decide]

theorem javaLocLoop_cons_congr (x y : Str) (a b : List Str) (hxy : trimSpace x = trimSpace y)
    (hab : javaLocLoop a = javaLocLoop b) : javaLocLoop (x :: a) = javaLocLoop (y :: b) := by
  simp only [javaLocLoop, hxy, hab]

/-- the lines as `ReadString` delivers them: with the `\r` of a `\r\n` still attached -/
def crLines : List Bool → List Str → List Str
  | _, [] => []
  | cs, l :: r => (if cs.headD false then l ++ [13] else l) :: crLines cs.tail r

theorem crLines_trim (cs : List Bool) (ls : List Str) : (crLines cs ls).map trimSpace = ls.map trimSpace := by
  induction ls generalizing cs with
  | nil => rfl
  | cons l r ih =>
    simp only [crLines, List.map_cons, ih]
    cases cs.headD false <;> simp [trimSpace_snoc_cr]

theorem splitNLAux_eol (c : Bool) (l rest : Str) (h : LineOK l) :
    splitNLAux (l ++ eol c ++ rest) [] = ((if c then l ++ [13] else l) :: (splitNLAux rest []).1, (splitNLAux rest []).2) := by
  cases c with
  | false =>
    simp only [eol, Bool.false_eq_true, if_false, List.append_assoc, List.singleton_append]
    rw [splitNLAux_line l rest [] (fun b hb => (h b hb).1)]
    simp
  | true =>
    have e : l ++ eol true ++ rest = (l ++ [13]) ++ 10 :: rest := by simp [eol]
    rw [e, splitNLAux_line (l ++ [13]) rest [] (by
      intro b hb
      rcases List.mem_append.1 hb with hb | hb
      · exact (h b hb).1
      · simp at hb; subst hb; decide)]
    simp

theorem splitNLAux_noNL (l acc : Str) (h : ∀ b ∈ l, b.toNat ≠ 10) : splitNLAux l acc = ([], acc.reverse ++ l) := by
  induction l generalizing acc with
  | nil => simp [splitNLAux]
  | cons b l ih =>
    have hb : b.toNat ≠ 10 := h b (by simp)
    simp only [splitNLAux, beq_iff_eq, hb, if_false]
    rw [ih (b :: acc) (fun x hx => h x (by simp [hx]))]
    simp

def locLinesOf (p : List Str × Str) : List Str := p.1 ++ (if p.2.isEmpty then [] else [p.2])

theorem javaLocLines_eq (b : Str) : javaLocLines b = locLinesOf (splitNLAux b []) := rfl

theorem locLinesOf_eol (c : Bool) (l rest : Str) (h : LineOK l) :
    locLinesOf (splitNLAux (l ++ eol c ++ rest) []) = (if c then l ++ [13] else l) :: locLinesOf (splitNLAux rest []) := by
  rw [splitNLAux_eol c l rest h]; rfl

theorem javaLocLines_renderLines (cs : List Bool) (nf : Bool) (ls : List Str) (h : ∀ l ∈ ls, LineOK l) :
    javaLocLoop (javaLocLines (renderLines cs nf ls)) = javaLocLoop ls := by
  rw [javaLocLines_eq]
  induction ls generalizing cs with
  | nil => simp [renderLines, splitNLAux, locLinesOf]
  | cons l r ih =>
    have hl := h l (by simp)
    have hcr : ∀ c : Bool, trimSpace (if c then l ++ [13] else l) = trimSpace l := by
      intro c; cases c <;> simp [trimSpace_snoc_cr]
    cases r with
    | nil =>
      cases nf with
      | true =>
        simp only [renderLines, if_true, List.append_nil]
        rw [splitNLAux_noNL l [] (fun b hb => (hl b hb).1)]
        simp only [List.reverse_nil, List.nil_append, locLinesOf]
        cases l with
        | nil => simpa using (javaLocLoop_blank [] [] (by decide)).symm
        | cons c t => simp
      | false =>
        simp only [renderLines, Bool.false_eq_true, if_false]
        have := locLinesOf_eol (cs.headD false) l [] hl
        simp only [List.append_nil] at this
        rw [this]
        simp only [splitNLAux, locLinesOf, List.reverse_nil, List.isEmpty_nil, if_true, List.append_nil]
        exact javaLocLoop_cons_congr _ _ [] [] (hcr _) rfl
    | cons l2 r2 =>
      simp only [renderLines]
      rw [locLinesOf_eol _ l _ hl]
      have := ih cs.tail (fun x hx => h x (by simp [hx]))
      exact javaLocLoop_cons_congr _ _ _ _ (hcr _) this

theorem printJavaCpu_first_words (d : JavaCpuDoc) : ∃ R, printJavaCpu d = word d.big d.w64 0 ++ (word d.big d.w64 3 ++ R) :=
  ⟨_, by rw [printJavaCpu, words_append, words_append, words_cons, words_cons]; simp only [List.append_assoc]; rfl⟩

theorem JavaCpuDoc.wf_parts (d : JavaCpuDoc) (h : d.wf = true) :
    0 < d.period ∧ d.period < Legacy.wordBound d.w64 ∧ (∀ r ∈ d.recs, r.ok d.w64) ∧
      ∀ l ∈ d.locs, (∀ f ∈ l.fill, f.wf = true) ∧ l.kind.wf = true ∧ l.addr < two64 := by
  simp only [JavaCpuDoc.wf, Bool.and_eq_true, decide_eq_true_eq, List.all_eq_true (l := d.locs), List.all_eq_true (p := Filler.wf)] at h
  exact ⟨h.1.1.1.1, h.1.1.1.2, CpuRec.ok_of_all h.1.1.2, fun l hl => ⟨(h.2 l hl).1.1, (h.2 l hl).2, (h.2 l hl).1.2⟩⟩

theorem LineOK_trailerLines (d : JavaCpuDoc) (h : d.wf = true) : ∀ l ∈ d.trailerLines, LineOK l := by
  obtain ⟨_, _, _, hlocs⟩ := d.wf_parts h
  intro l hl
  rcases List.mem_append.1 hl with hl | hl
  · rw [(List.mem_replicate.1 hl).2]; exact LineOK_nil
  · exact forall_locLines d.locs (fun l hl f hf => LineOK_filler ((hlocs l hl).1 f hf))
      (fun l hl => LineOK_of_javaByteOK (l.print_bytes (hlocs l hl).2.1)) l hl

theorem trailer_renderLines (d : JavaCpuDoc) (h : d.wf = true) (cs : List Bool) (nf : Bool) :
    javaLocLoop (javaLocLines (renderLines cs nf d.trailerLines)) = .ok (d.locs.map JavaLoc.info) := by
  obtain ⟨_, _, _, hlocs⟩ := d.wf_parts h
  rw [javaLocLines_renderLines cs nf _ (LineOK_trailerLines d h)]
  unfold JavaCpuDoc.trailerLines
  rw [javaLocLoop_blanks, javaLocLoop_locs d.locs (fun l hl => (hlocs l hl).2)]

theorem parseCPU_javaCpuBody (d : JavaCpuDoc) (h : d.wf = true) (T : Str) (hE : d.eod = false → T = [])
    (hT : javaLocLoop (javaLocLines T) = .ok (if d.eod then d.locs.map JavaLoc.info else [])) :
    parseCPU (words d.big d.w64 [0, 3, 1, d.period, 0] ++ cpuBody d.big d.w64 d.recs d.eod T) = .ok (expectedJavaCpu d) := by
  obtain ⟨hp, hpb, hrecs, _⟩ := d.wf_parts h
  rw [parseCPU, parseCPUWith_words _ d.big d.w64 1 d.period _ (by decide) hp hpb, if_pos rfl, javaCpuProfile,
    cpuSamplesLoop_body hrecs hE]
  simp only [hT, expectedJavaCpu]

theorem parseCPU_printJavaCpuWith (cs : List Bool) (nf : Bool) (d : JavaCpuDoc) (h : d.wf = true) :
    parseCPU (printJavaCpuWith cs nf d) = .ok (expectedJavaCpu d) := by
  have e : printJavaCpuWith cs nf d = words d.big d.w64 [0, 3, 1, d.period, 0] ++
      cpuBody d.big d.w64 d.recs d.eod (if d.eod then renderLines cs nf d.trailerLines else []) := by
    unfold printJavaCpuWith cpuBody
    simp only [words_append, List.append_assoc]
  rw [e]
  apply parseCPU_javaCpuBody d h
  · intro he; simp [he]
  · cases d.eod with
    | false => rfl
    | true => exact trailer_renderLines d h cs nf

theorem parseCPU_printJavaCpu (d : JavaCpuDoc) (h : d.wf = true) : parseCPU (printJavaCpu d) = .ok (expectedJavaCpu d) := by
  have := parseCPU_printJavaCpuWith [] false d h
  rwa [printJavaCpuWith, renderLines_unlines] at this

theorem parseCPU_printCpuWith (cs : List Bool) (nf : Bool) (d : CpuDoc) (h : d.wf = true)
    (hlast : nf = true → ∀ m, d.map = some m → m.bodyLines.getLast? ≠ some []) :
    parseCPU (printCpuWith cs nf d) = .ok (expectedCpu d) := by
  obtain ⟨_, _, _, hmap⟩ := d.wf_parts h
  have e : printCpuWith cs nf d = words d.big d.w64 [0, 3, 0, d.period, 0] ++
      cpuBody d.big d.w64 d.recs d.eod (if d.eod then (match d.map with | none => [] | some m => renderLines cs nf m.bodyLines) else []) := by
    unfold printCpuWith cpuBody
    simp only [words_append, List.append_assoc]
    cases d.eod <;> cases d.map <;> rfl
  rw [e]
  apply parseCPUWith_cpuBody javaCpuProfile d h
  · intro he; simp [he]
  · cases heod : d.eod with
    | false => simp [splitLines, splitLinesAux]
    | true =>
      cases hm : d.map with
      | none => simp [splitLines, splitLinesAux, tailMappings]
      | some m =>
        simp only [if_true, tailMappings]
        rw [splitLines_renderLines cs nf _ (LineOK_bodyLines (hmap m hm).2) (fun hn => hlast hn m hm),
          parseProcMaps_bodyLines m (hmap m hm).2]

theorem parseCPU_printCpu (d : CpuDoc) (h : d.wf = true) : parseCPU (printCpu d) = .ok (expectedCpu d) := by
  have := parseCPU_printCpuWith [] false d h (fun hn => nomatch hn)
  simpa only [printCpuWith, printCpu, renderLines_unlines] using this

end PV.Legacy
