import PprofVerif.Model.CodecSchema
/-!
Interpreting the schemas of `Model/CodecSchema.lean` reproduces the encoders and decoder tables of
`Model/Codec.lean` — for every message type and for ALL values, wire fields and field numbers
(also numbers outside the tables).  These theorems are what ties the hand-written expectation
about the Go source (`Spec/CodecSchemaExpected.lean`) to the model the C01/C02 theorems talk about.
-/
namespace PV
namespace CodecSchema
open Wire Codec

theorem ValueTypeX.encode_eq (p : ValueTypeX) :
    encodeBy ValueTypeX.dict p ValueTypeX.encSchema = some p.encode := by
  simp [encodeBy, encStmt, ValueTypeX.encSchema, ValueTypeX.dict, ValueTypeX.encode]

theorem LabelX.encode_eq (p : LabelX) :
    encodeBy LabelX.dict p LabelX.encSchema = some p.encode := by
  simp [encodeBy, encStmt, LabelX.encSchema, LabelX.dict, LabelX.encode]

theorem SampleX.encode_eq (p : SampleX) :
    encodeBy SampleX.dict p SampleX.encSchema = some p.encode := by
  simp [encodeBy, encStmt, SampleX.encSchema, SampleX.dict, SampleX.encode, LabelX.codec]

theorem MappingX.encode_eq (p : MappingX) :
    encodeBy MappingX.dict p MappingX.encSchema = some p.encode := by
  simp [encodeBy, encStmt, MappingX.encSchema, MappingX.dict, MappingX.encode]

theorem LineX.encode_eq (p : LineX) :
    encodeBy LineX.dict p LineX.encSchema = some p.encode := by
  simp [encodeBy, encStmt, LineX.encSchema, LineX.dict, LineX.encode]

theorem LocationX.encode_eq (p : LocationX) :
    encodeBy LocationX.dict p LocationX.encSchema = some p.encode := by
  simp [encodeBy, encStmt, LocationX.encSchema, LocationX.dict, LocationX.encode, LineX.codec]

theorem FunctionX.encode_eq (p : FunctionX) :
    encodeBy FunctionX.dict p FunctionX.encSchema = some p.encode := by
  simp [encodeBy, encStmt, FunctionX.encSchema, FunctionX.dict, FunctionX.encode]

/-- the one statement with a guard: `PeriodType` is written when it is set and not all zero -/
theorem ProfileX.encStmt_periodType (p : ProfileX) :
    encStmt ProfileX.dict p ⟨11, .messageGuarded ["typeX", "unitX"], "PeriodType"⟩ =
      some (match p.periodType with
        | some pt => if pt.typeX ≠ 0 ∨ pt.unitX ≠ 0 then encodeMessage 11 pt.encode else []
        | none => []) := by
  cases h : p.periodType <;>
    simp [encStmt, ProfileX.dict, h, ValueTypeX.codec, intsOf, ValueTypeX.dict]

theorem ProfileX.encode_eq (p : ProfileX) :
    encodeBy ProfileX.dict p ProfileX.encSchema = some p.encode := by
  simp only [ProfileX.encSchema, encodeBy, ProfileX.encStmt_periodType]
  simp [encStmt, ProfileX.dict, ProfileX.encode,
    ValueTypeX.codec, SampleX.codec, MappingX.codec, LocationX.codec, FunctionX.codec]
  -- the same `match` on the period type, compiled twice
  rfl

/-! Decoder tables: field numbers inside a table are treated one by one — both sides compute to the
same term — and so is the rest: past the table `applyBy` has run out of entries and `apply` is in its
default case. -/

theorem ValueTypeX.apply_eq (m : ValueTypeX) (f : Field) :
    applyBy ValueTypeX.dict m f ValueTypeX.decTable = ValueTypeX.apply m f := by
  obtain ⟨n, t, u, d⟩ := f
  iterate 3 (cases n with | zero => rfl | succ n => ?_)
  rfl

theorem LabelX.apply_eq (m : LabelX) (f : Field) :
    applyBy LabelX.dict m f LabelX.decTable = LabelX.apply m f := by
  obtain ⟨n, t, u, d⟩ := f
  iterate 5 (cases n with | zero => rfl | succ n => ?_)
  rfl

theorem SampleX.apply_eq (m : SampleX) (f : Field) :
    applyBy SampleX.dict m f SampleX.decTable = SampleX.apply m f := by
  obtain ⟨n, t, u, d⟩ := f
  iterate 4 (cases n with | zero => rfl | succ n => ?_)
  rfl

theorem MappingX.apply_eq (m : MappingX) (f : Field) :
    applyBy MappingX.dict m f MappingX.decTable = MappingX.apply m f := by
  obtain ⟨n, t, u, d⟩ := f
  iterate 11 (cases n with | zero => rfl | succ n => ?_)
  rfl

theorem LineX.apply_eq (m : LineX) (f : Field) :
    applyBy LineX.dict m f LineX.decTable = LineX.apply m f := by
  obtain ⟨n, t, u, d⟩ := f
  iterate 4 (cases n with | zero => rfl | succ n => ?_)
  rfl

theorem LocationX.apply_eq (m : LocationX) (f : Field) :
    applyBy LocationX.dict m f LocationX.decTable = LocationX.apply m f := by
  obtain ⟨n, t, u, d⟩ := f
  iterate 6 (cases n with | zero => rfl | succ n => ?_)
  rfl

theorem FunctionX.apply_eq (m : FunctionX) (f : Field) :
    applyBy FunctionX.dict m f FunctionX.decTable = FunctionX.apply m f := by
  obtain ⟨n, t, u, d⟩ := f
  iterate 6 (cases n with | zero => rfl | succ n => ?_)
  rfl

theorem ProfileX.apply_eq (m : ProfileX) (f : Field) :
    applyBy ProfileX.dict m f ProfileX.decTable = ProfileX.apply m f := by
  obtain ⟨n, t, u, d⟩ := f
  iterate 16 (cases n with | zero => rfl | succ n => ?_)
  rfl

end CodecSchema
end PV
