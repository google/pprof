import PprofVerif.Model.SettingsFS
/-! Crash atomicity of the temp-file + fsync + rename protocol of `writeSettings` (`internal/driver/settings.go`;
C19, DESIGN A.5). -/
namespace PV.FS

section assoc
variable {κ α : Type} [DecidableEq κ]

theorem aget_cons (a : κ) (b : α) (r : List (κ × α)) (k : κ) :
    aget ((a, b) :: r) k = if a = k then some b else aget r k := rfl

theorem adel_cons (a : κ) (b : α) (r : List (κ × α)) (k : κ) :
    adel ((a, b) :: r) k = if a = k then adel r k else (a, b) :: adel r k := by
  by_cases h : a = k <;> simp [adel, h]

theorem aget_adel (l : List (κ × α)) (k k' : κ) :
    aget (adel l k) k' = if k = k' then none else aget l k' := by
  induction l with
  | nil => exact (ite_self _).symm
  | cons p r ih =>
    obtain ⟨a, b⟩ := p
    rw [adel_cons, aget_cons]
    by_cases h : a = k
    · rw [if_pos h, ih, h]
      split <;> rfl
    · rw [if_neg h, aget_cons, ih]
      by_cases h' : a = k'
      · rw [if_pos h', if_pos h', if_neg fun e => h (h'.trans e.symm)]
      · rw [if_neg h', if_neg h']

theorem aget_aset (l : List (κ × α)) (k : κ) (v : α) (k' : κ) :
    aget (aset l k v) k' = if k = k' then some v else aget l k' := by
  simp only [aset, aget_cons, aget_adel]
  split <;> simp [*]

end assoc

theorem overwrite_end (c d : Bytes) : overwrite c c.length d = c ++ d := by
  simp [overwrite]

/-- `P` holds in every state of the run, all operations succeed, `Q` holds at the end. -/
def AllStates (P Q : FS → Prop) : FS → List Op → Prop
  | s, [] => P s ∧ Q s
  | s, op :: r => P s ∧ ∃ s', step s op = some s' ∧ AllStates P Q s' r

theorem AllStates.trace {P Q : FS → Prop} {ops : List Op} {s : FS} (h : AllStates P Q s ops) :
    (∃ sts, trace s ops = some sts ∧ ∀ st ∈ sts, P st) ∧ ∃ sN, run s ops = some sN ∧ Q sN := by
  induction ops generalizing s with
  | nil => exact ⟨⟨[s], rfl, by simpa using h.1⟩, s, rfl, h.2⟩
  | cons op r ih =>
    obtain ⟨hp, s', hs, hr⟩ := h
    obtain ⟨⟨sts, ht, hall⟩, sN, hrun, hq⟩ := ih hr
    refine ⟨⟨s :: sts, by simp [PV.FS.trace, hs, ht], ?_⟩, sN, by simp [run, hs, hrun], hq⟩
    intro st hst
    rcases List.mem_cons.1 hst with rfl | h
    · exact hp
    · exact hall st h

theorem AllStates.take {P Q : FS → Prop} {ops : List Op} {s : FS} (h : AllStates P Q s ops) {k : Nat}
    (hk : k ≤ ops.length) : ∃ sk, run s (ops.take k) = some sk ∧ P sk := by
  induction ops generalizing s k with
  | nil => exact ⟨s, by rw [List.take_nil]; rfl, h.1⟩
  | cons op r ih =>
    obtain ⟨hp, s', hs, hr⟩ := h
    cases k with
    | zero => exact ⟨s, rfl, hp⟩
    | succ k =>
      obtain ⟨sk, hrun, hsk⟩ := ih hr (Nat.le_of_succ_le_succ hk)
      exact ⟨sk, by rw [List.take_succ_cons, run, hs]; exact hrun, hsk⟩

/-- the crash images of `f` are all old or new. -/
def Good (f : Str) (old : Option Bytes) (new : Bytes) (s : FS) : Prop :=
  ∀ c, c ∈ crashContents s f → c = old ∨ c = some new

theorem oldOrNew_iff (s : FS) (f : Str) (old : Option Bytes) (new : Bytes) :
    oldOrNew s f old new = true ↔ Good f old new s := by
  simp [oldOrNew, Good, List.all_eq_true]

/-- start state of a save: everything synced, no earlier directory state to fall back to, inode
numbers below `next`. -/
structure Quiet (s : FS) : Prop where
  dirOld : s.dirOld = []
  synced : ∀ i ino, aget s.inodes i = some ino → ino.pending = [] ∧ ino.synced = ino.cur
  fresh : ∀ n i, aget s.dir n = some i → i < s.next

/-- invariant of the write phase: the temp inode `s0.next` is reachable only through `tmp`, `fd` points at its end,
everything else is as in the quiescent start state `s0`. -/
structure WPhase (s0 : FS) (fd : Nat) (tmp : Str) (c : Bytes) (s : FS) : Prop where
  dir : s.dir = aset s0.dir tmp s0.next
  dirOld : s.dirOld = [s0.dir]
  others : ∀ i, i ≠ s0.next → aget s.inodes i = aget s0.inodes i
  fdp : aget s.fds fd = some (s0.next, c.length)
  ino : ∃ p, aget s.inodes s0.next = some { synced := [], cur := c, pending := p }

section save
variable {s0 s : FS} {fd : Nat} {tmp f : Str} {c new : Bytes}

theorem look_old (hq : Quiet s0) (ho : ∀ i, i ≠ s0.next → aget s.inodes i = aget s0.inodes i) :
    look s s0.dir f = [content s0 f] := by
  unfold look content
  cases hd : aget s0.dir f with
  | none => rfl
  | some i =>
    simp only [Option.bind_some, ho i (Nat.ne_of_lt (hq.fresh f i hd))]
    cases hi : aget s0.inodes i with
    | none => rfl
    | some ino => simp [Inode.images, hq.synced i ino hi]

/-- Why every crash image is old or new: a directory state either resolves `f` as `s0` did, and then shows the old
content, or resolves it to the fresh inode, which is only allowed once that inode holds the new content, synced. -/
theorem good_of_dirs (hq : Quiet s0) (ho : ∀ i, i ≠ s0.next → aget s.inodes i = aget s0.inodes i)
    (hd : ∀ d ∈ s.dir :: s.dirOld, aget d f = aget s0.dir f ∨
      aget d f = some s0.next ∧ aget s.inodes s0.next = some { synced := new, cur := new, pending := [] }) :
    Good f (content s0 f) new s := by
  intro c hc
  obtain ⟨d, hm, hc⟩ := List.mem_flatMap.1 hc
  rcases hd d hm with h | ⟨h1, h2⟩
  · have : look s d f = look s s0.dir f := by unfold look; rw [h]
    rw [this, look_old hq ho] at hc
    exact Or.inl (List.mem_singleton.1 hc)
  · simp only [look, h1, h2, Inode.images, List.flatMap_nil, List.map_cons, List.map_nil] at hc
    exact Or.inr (List.mem_singleton.1 hc)

theorem quiet_good (hq : Quiet s0) : Good f (content s0 f) new s0 :=
  good_of_dirs hq (fun _ _ => rfl) fun d hd => by
    rw [hq.dirOld, List.mem_singleton] at hd
    exact Or.inl (hd ▸ rfl)

theorem WPhase.dir_tmp (h : WPhase s0 fd tmp c s) : aget s.dir tmp = some s0.next := by
  rw [h.dir, aget_aset, if_pos rfl]

theorem WPhase.dirs (h : WPhase s0 fd tmp c s) (hne : tmp ≠ f) :
    ∀ d ∈ s.dir :: s.dirOld, aget d f = aget s0.dir f := by
  rw [h.dir, h.dirOld]
  intro d hd
  rcases List.mem_cons.1 hd with rfl | hd
  · rw [aget_aset, if_neg hne]
  · rw [List.mem_singleton.1 hd]

theorem wphase_good (hq : Quiet s0) (hne : tmp ≠ f) (h : WPhase s0 fd tmp c s) :
    Good f (content s0 f) new s :=
  good_of_dirs hq h.others fun d hd => .inl (h.dirs hne d hd)

theorem wphase_open (fd : Nat) (hq : Quiet s0) (hab : aget s0.dir tmp = none) :
    ∃ s1, step s0 (.open fd tmp true false true) = some s1 ∧ WPhase s0 fd tmp [] s1 := by
  refine ⟨_, by unfold step; dsimp only; rw [hab]; rfl, ?_⟩
  exact ⟨rfl, by rw [hq.dirOld], fun i hi => by rw [aget_aset, if_neg (Ne.symm hi)],
    by rw [aget_aset, if_pos rfl]; rfl, [], by rw [aget_aset, if_pos rfl]⟩

theorem wphase_write (d : Bytes) (h : WPhase s0 fd tmp c s) :
    ∃ s', step s (.write fd d) = some s' ∧ WPhase s0 fd tmp (c ++ d) s' := by
  obtain ⟨p, hp⟩ := h.ino
  by_cases hd : d = []
  · subst hd
    exact ⟨s, by unfold step; dsimp only; rw [h.fdp]; dsimp only; rw [hp]; rfl, by simpa using h⟩
  · refine ⟨_, by unfold step; dsimp only; rw [h.fdp]; dsimp only; rw [hp]; dsimp only; rw [if_neg hd], ?_⟩
    exact ⟨h.dir, h.dirOld, fun i hi => by rw [aget_aset, if_neg (Ne.symm hi), h.others i hi],
      by rw [aget_aset, if_pos rfl, List.length_append], _, by rw [aget_aset, if_pos rfl, overwrite_end]⟩

theorem tail_good (hq : Quiet s0) (hne : tmp ≠ f) (h : WPhase s0 fd tmp new s) :
    AllStates (Good f (content s0 f) new) (fun sN => content sN f = some new) s
      [.fsync fd, .close fd, .rename tmp f] := by
  obtain ⟨p, hp⟩ := h.ino
  have ho : ∀ ino i, i ≠ s0.next → aget (aset s.inodes s0.next ino) i = aget s0.inodes i := fun ino i hi => by
    rw [aget_aset, if_neg (Ne.symm hi), h.others i hi]
  -- fsync and close change neither the directories nor any old inode
  have hold := h.dirs hne
  refine ⟨wphase_good hq hne h, _, by unfold step; dsimp only; rw [h.fdp]; dsimp only; rw [hp], ?_⟩
  refine ⟨good_of_dirs hq (ho _) fun d hd => .inl (hold d hd), _,
    by unfold step; dsimp only; rw [h.fdp], ?_⟩
  refine ⟨good_of_dirs hq (ho _) fun d hd => .inl (hold d hd), _,
    by unfold step; dsimp only; rw [h.dir_tmp], ?_, ?_⟩
  -- after rename: the new directory resolves `f` to the synced temp inode
  · refine good_of_dirs hq (ho _) fun d hd => ?_
    rcases List.mem_cons.1 hd with rfl | hd
    · exact .inr ⟨(aget_aset ..).trans (if_pos rfl), (aget_aset ..).trans (if_pos rfl)⟩
    · exact .inl (hold d hd)
  · show (aget (aset _ f s0.next) f).bind _ = _
    rw [aget_aset, if_pos rfl, Option.bind_some, aget_aset, if_pos rfl]; rfl

theorem writes_good (hq : Quiet s0) (hne : tmp ≠ f) (Q : FS → Prop) (rest : List Op) :
    ∀ (chunks : List Bytes) (c : Bytes) (s : FS), WPhase s0 fd tmp c s →
      (∀ s', WPhase s0 fd tmp (c ++ chunks.flatten) s' → AllStates (Good f (content s0 f) new) Q s' rest) →
      AllStates (Good f (content s0 f) new) Q s (chunks.map (Op.write fd) ++ rest) := by
  intro chunks
  induction chunks with
  | nil => exact fun c s h k => k s (by simpa using h)
  | cons d r ih =>
    intro c s h k
    obtain ⟨s', hs, hw⟩ := wphase_write d h
    exact ⟨wphase_good hq hne h, s', hs,
      ih (c ++ d) s' hw fun s'' h'' => k s'' (by simpa [List.append_assoc] using h'')⟩

theorem open_writes_good (fd : Nat) (hq : Quiet s0) (hne : tmp ≠ f) (hab : aget s0.dir tmp = none)
    (Q : FS → Prop) (chunks : List Bytes) (rest : List Op)
    (k : ∀ s, WPhase s0 fd tmp chunks.flatten s → AllStates (Good f (content s0 f) new) Q s rest) :
    AllStates (Good f (content s0 f) new) Q s0
      (.open fd tmp true false true :: (chunks.map (Op.write fd) ++ rest)) := by
  obtain ⟨s1, h1, hw⟩ := wphase_open fd hq hab
  exact ⟨quiet_good hq, s1, h1, writes_good hq hne Q rest chunks [] s1 hw fun s h => k s (by simpa using h)⟩

theorem atomic_allStates (fd : Nat) (chunks : List Bytes) (hq : Quiet s0) (hne : tmp ≠ f)
    (hab : aget s0.dir tmp = none) :
    AllStates (Good f (content s0 f) chunks.flatten) (fun sN => content sN f = some chunks.flatten) s0
      (atomicWriteOps fd tmp f chunks) :=
  open_writes_good fd hq hne hab _ chunks _ fun _ h => tail_good hq hne h

/-- The error path of `writeSettings`: after a failed write the temp file is closed and removed. -/
theorem fail_allStates (fd : Nat) (done : List Bytes) (new : Bytes) (hq : Quiet s0) (hne : tmp ≠ f)
    (hab : aget s0.dir tmp = none) :
    AllStates (Good f (content s0 f) new) (fun sN => content sN f = content s0 f) s0
      (atomicWriteFailOps fd tmp done) := by
  refine open_writes_good fd hq hne hab _ done _ fun s h => ?_
  have hold := h.dirs hne
  refine ⟨wphase_good hq hne h, _, by unfold step; dsimp only; rw [h.fdp], ?_⟩
  refine ⟨good_of_dirs hq h.others fun d hd => .inl (hold d hd), _,
    by unfold step; dsimp only; rw [h.dir_tmp], ?_, ?_⟩
  · refine good_of_dirs hq h.others fun d hd => .inl ?_
    rcases List.mem_cons.1 hd with rfl | hd
    · exact (aget_adel ..).trans ((if_neg hne).trans (hold _ List.mem_cons_self))
    · exact hold d hd
  · -- the final directory resolves `f` as `s0.dir` did, to an inode the save has not touched
    show (aget (adel s.dir tmp) f).bind _ = (aget s0.dir f).bind _
    rw [aget_adel, if_neg hne, hold _ List.mem_cons_self]
    cases hd : aget s0.dir f with
    | none => rfl
    | some i => simp only [Option.bind_some, h.others i (Nat.ne_of_lt (hq.fresh f i hd))]

end save

theorem firstBad_none (f : Str) (old : Option Bytes) (new : Bytes) :
    ∀ (ops : List Op) (s : FS) (k : Nat), firstBad f old new s ops k = none →
      AllStates (Good f old new) (fun _ => True) s ops := by
  intro ops
  induction ops with
  | nil =>
    intro s k h
    by_cases hg : oldOrNew s f old new = true
    · exact ⟨(oldOrNew_iff ..).1 hg, trivial⟩
    · simp [firstBad, hg] at h
  | cons op r ih =>
    intro s k h
    by_cases hg : oldOrNew s f old new = true
    · simp only [firstBad, hg, Bool.not_true, Bool.false_eq_true, if_false] at h
      split at h
      · cases h
      · exact ⟨(oldOrNew_iff ..).1 hg, _, ‹_›, ih _ _ h⟩
    · simp [firstBad, hg] at h

theorem accepts_none (f : Str) (old : Option Bytes) (new : Bytes) (s : FS) (ops : List Op)
    (h : accepts f old new false s ops = none) :
    (∃ sts, trace s ops = some sts ∧ ∀ st ∈ sts, Good f old new st) ∧
      ∃ sN, run s ops = some sN ∧ content sN f = some new := by
  unfold accepts at h
  split at h
  · cases h
  · next hb =>
    obtain ⟨htr, sN, hr, -⟩ := (firstBad_none f old new ops s 0 hb).trace
    refine ⟨htr, sN, hr, ?_⟩
    rw [hr] at h
    dsimp only at h
    split at h
    · next hc => simpa using hc
    · cases h

/-- `os.WriteFile` truncates first: after the first system call of the in-place protocol the file is empty, for a
reader and in the crash images. -/
theorem inplace_truncates (s0 : FS) (_hq : Quiet s0) (fd : Nat) (f : Str) (old new : Bytes)
    (ho : content s0 f = some old) (h1 : old ≠ []) (h2 : new ≠ []) (chunks : List Bytes) :
    ∃ s1, run s0 ((inplaceWriteOps fd f chunks).take 1) = some s1 ∧ content s1 f = some [] ∧
      ¬ Good f (some old) new s1 := by
  unfold content at ho
  cases hd : aget s0.dir f with
  | none => rw [hd] at ho; cases ho
  | some i =>
    rw [hd, Option.bind_some] at ho
    cases hi : aget s0.inodes i with
    | none => rw [hi] at ho; cases ho
    | some ino =>
      rw [hi] at ho
      have hcur : ino.cur = old := Option.some.inj ho
      have hs : step s0 (.open fd f true true false) = some
          { s0 with inodes := aset s0.inodes i { ino with cur := [], pending := .trunc :: ino.pending },
                    fds := aset s0.fds fd (i, 0) } := by
        unfold step; dsimp only; rw [hd]; dsimp only; rw [hi]
        simp only [Bool.false_and, Bool.true_and, Bool.false_eq_true, if_false, decide_eq_true (hcur ▸ h1), if_true]
      have hi' : aget (aset s0.inodes i { ino with cur := [], pending := .trunc :: ino.pending }) i = _ :=
        (aget_aset ..).trans (if_pos rfl)
      refine ⟨_, by rw [inplaceWriteOps, List.take_succ_cons, List.take_zero, run, hs]; rfl, ?_, fun hg => ?_⟩
      · show (aget s0.dir f).bind _ = _
        rw [hd, Option.bind_some, hi']; rfl
      · -- the truncation is itself a crash image
        rcases hg (some []) (List.mem_flatMap.2 ⟨_, List.mem_cons_self, by
          show _ ∈ look _ s0.dir f
          unfold look
          rw [hd]; dsimp only; rw [hi']
          exact List.mem_map_of_mem (List.mem_cons_of_mem _ List.mem_cons_self)⟩) with h | h
        · exact h1 (Option.some.inj h).symm
        · exact h2 (Option.some.inj h).symm

theorem restart_id (s s' : FS) (f : Str) (h : step s .restart = some s') :
    content s' f = content s f ∧ crashContents s' f = crashContents s f := by
  simp only [step, Option.some.injEq] at h
  subst h
  exact ⟨rfl, rfl⟩

end PV.FS
