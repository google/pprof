import PprofVerif.Lemmas.MergeTop
import Mathlib.Data.List.Perm.Basic
/-!
Which header fields of a merge depend on the order of the inputs.

Order-independent (functions of the *multiset* of inputs): period (maximum), collection time
(earliest non-zero), duration (int64 sum), and the *set* of comments.
Order-dependent, exactly as documented: comments are listed in order of first appearance;
the default sample type and the doc URL are the first non-empty ones in input order; sample
types, period type, drop-frames and keep-frames are the first profile's.
-/
namespace PV.Merge
open PV.Spec
open PV.Wire (InI64 two63)

theorem sumI64_perm {a b : List Int} (h : a.Perm b) : sumI64 a = sumI64 b := by
  unfold sumI64
  have : RightCommutative (fun (a d : Int) => wrapI64 (a + d)) :=
    ⟨fun a b c => by rw [wrapI64_add_assoc, Int.add_comm b c, ← wrapI64_add_assoc]⟩
  exact h.foldl_eq _

theorem maxPeriod_perm {a b : List Int} (h : a.Perm b) : maxPeriod a = maxPeriod b := by
  unfold maxPeriod
  have : RightCommutative (max : Int → Int → Int) := ⟨max_right_comm⟩
  exact h.foldl_eq _

theorem foldl_min_spec : ∀ (l : List Int) (a : Int),
    (∀ x ∈ a :: l, l.foldl min a ≤ x) ∧ l.foldl min a ∈ a :: l
  | [], a => ⟨fun x hx => List.mem_singleton.mp hx ▸ Int.le_refl a, List.mem_singleton_self a⟩
  | b :: l, a => by
    obtain ⟨h1, h2⟩ := foldl_min_spec l (min a b)
    have hm := h1 (min a b) List.mem_cons_self
    refine ⟨List.forall_mem_cons.mpr ⟨Int.le_trans hm (Int.min_le_left _ _), List.forall_mem_cons.mpr
      ⟨Int.le_trans hm (Int.min_le_right _ _), fun x hx => h1 x (List.mem_cons_of_mem _ hx)⟩⟩, ?_⟩
    rcases List.mem_cons.mp h2 with h2 | h2
    · rw [List.foldl_cons, h2]
      rcases min_choice a b with h | h <;> rw [h] <;> simp
    · exact List.mem_cons_of_mem _ (List.mem_cons_of_mem _ h2)

theorem earliestNonZero_perm {a b : List Int} (h : a.Perm b) : earliestNonZero a = earliestNonZero b := by
  unfold earliestNonZero
  have hf : (a.filter (· ≠ 0)).Perm (b.filter (· ≠ 0)) := h.filter _
  cases ha : a.filter (· ≠ 0) with
  | nil =>
    rw [ha] at hf
    rw [List.nil_perm.mp hf]
  | cons t r =>
    cases hb : b.filter (· ≠ 0) with
    | nil => rw [ha, hb] at hf; exact absurd (List.perm_nil.mp hf) (by simp)
    | cons t' r' =>
      rw [ha, hb] at hf
      simp only
      obtain ⟨h1, m1⟩ := foldl_min_spec r t
      obtain ⟨h2, m2⟩ := foldl_min_spec r' t'
      exact Int.le_antisymm (h1 _ (hf.mem_iff.mpr m2)) (h2 _ (hf.mem_iff.mp m1))

theorem dedupInOrder_perm_of_mem {a b : List Str} (h : ∀ x, x ∈ a ↔ x ∈ b) :
    (dedupInOrder a).Perm (dedupInOrder b) := by
  rw [List.perm_ext_iff_of_nodup (dedupInOrder_nodup a) (dedupInOrder_nodup b)]
  intro x
  rw [dedupInOrder_eq_dedupKeys, dedupInOrder_eq_dedupKeys, mem_dedupKeys, mem_dedupKeys, h x]

theorem combineHeadersSpec_perm (f1 : Profile) (r1 : List Profile) (f2 : Profile) (r2 : List Profile)
    (hp : (f1 :: r1).Perm (f2 :: r2)) :
    (combineHeadersSpec f1 r1).period = (combineHeadersSpec f2 r2).period ∧
    (combineHeadersSpec f1 r1).timeNanos = (combineHeadersSpec f2 r2).timeNanos ∧
    (combineHeadersSpec f1 r1).durationNanos = (combineHeadersSpec f2 r2).durationNanos ∧
    (combineHeadersSpec f1 r1).comments.Perm (combineHeadersSpec f2 r2).comments ∧
    (combineHeadersSpec f1 r1).comments.Nodup := by
  refine ⟨?_, ?_, ?_, ?_, ?_⟩
  · exact maxPeriod_perm (hp.map _)
  · exact earliestNonZero_perm (hp.map _)
  · exact sumI64_perm (hp.map _)
  · exact dedupInOrder_perm_of_mem fun _ => (hp.flatMap_right _).mem_iff
  · exact dedupInOrder_nodup _

theorem firstNonEmpty_cons_empty (l : List Str) : firstNonEmpty ([] :: l) = firstNonEmpty l := by
  simp [firstNonEmpty]

theorem firstNonEmpty_cons_nonempty (s : Str) (l : List Str) (h : s ≠ []) : firstNonEmpty (s :: l) = s := by
  simp [firstNonEmpty, h]

theorem firstNonEmpty_mem (l : List Str) : firstNonEmpty l = [] ∨ firstNonEmpty l ∈ l := by
  induction l with
  | nil => left; rfl
  | cons s l ih =>
    by_cases h : s = []
    · subst h
      rw [firstNonEmpty_cons_empty]
      rcases ih with ih | ih
      · exact Or.inl ih
      · exact Or.inr (List.mem_cons_of_mem _ ih)
    · rw [firstNonEmpty_cons_nonempty s l h]; right; simp

end PV.Merge
