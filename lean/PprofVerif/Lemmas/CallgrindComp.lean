import PprofVerif.Lemmas.CallgrindNum
/-! C18: the subposition compression of `callgrindAddress` and the name compression of `callgrindName`
(`internal/report/report.go`) are undone by the checker's decoders. -/
namespace PV.Callgrind

theorem decodeSub_abs (last : Option Nat) (cur : Nat) (h : cur < two64) :
    decodeSub last (0x30 :: 0x78 :: hex cur) = some cur := by
  have hp := parseNumber_hex cur
  have e1 : ¬ ((0x30 : UInt8) = 0x2a) := by decide
  have e2 : ¬ ((0x30 : UInt8) = 0x2b) := by decide
  have e3 : ¬ ((0x30 : UInt8) = 0x2d) := by decide
  simp only [decodeSub, e1, e2, e3, if_false, hp, h, if_true]

theorem decodeSub_cgAddr_none (last : Option Nat) (cur : Nat) (h : cur < two64) :
    decodeSub last (cgAddr none cur) = some cur := decodeSub_abs last cur h

theorem add_diff_mod {M p cur : Nat} (hp : p < M) (hc : cur < M) : (p + (cur + M - p) % M) % M = cur := by
  rw [Nat.add_mod_mod, Nat.add_sub_cancel' (Nat.le_add_left_of_le (Nat.le_of_lt hp)), Nat.add_mod_right, Nat.mod_eq_of_lt hc]

theorem sub_compl_diff_mod {M p cur : Nat} (hp : p < M) (hc : cur < M) :
    (p + M - (M - (cur + M - p) % M) % M) % M = cur := by
  have h := add_diff_mod hp hc
  have hM : 0 < M := Nat.zero_lt_of_lt hp
  have hd : (cur + M - p) % M < M := Nat.mod_lt _ hM
  generalize (cur + M - p) % M = d at h hd
  by_cases h0 : d = 0
  · subst h0; simpa using h
  · rw [Nat.mod_eq_of_lt (Nat.sub_lt hM (Nat.pos_of_ne_zero h0)), Nat.add_sub_assoc (Nat.sub_le _ _),
      Nat.sub_sub_self (Nat.le_of_lt hd)]
    exact h

theorem decodeSub_plus (l n : Nat) : decodeSub (some l) (0x2b :: dec n) = some ((l + n) % two64) := by
  simp only [decodeSub, show ¬ ((0x2b : UInt8) = 0x2a) by decide, if_false, if_true, parseNumber_dec]

theorem decodeSub_minus (l n : Nat) :
    decodeSub (some l) (0x2d :: dec n) = some ((l + two64 - n % two64) % two64) := by
  simp only [decodeSub, show ¬ ((0x2d : UInt8) = 0x2a) by decide, show ¬ ((0x2d : UInt8) = 0x2b) by decide,
    if_false, if_true, parseNumber_dec]

theorem decodeSub_signed (p cur : Nat) (hp : p < two64) (hc : cur < two64) :
    decodeSub (some p) (signedDec (diff64 p cur)) = some cur := by
  have hd : (cur + two64 - p) % two64 < two64 := Nat.mod_lt _ (by decide)
  unfold signedDec diff64
  simp only [Nat.mod_eq_of_lt hp]
  generalize hdd : (cur + two64 - p) % two64 = d at hd
  split
  · rw [if_neg (Int.not_lt.mpr (Int.natCast_nonneg d)), Int.toNat_natCast, decodeSub_plus, ← hdd,
      add_diff_mod hp hc]
  · rw [if_pos (Int.sub_neg_of_lt (Int.ofNat_lt.mpr hd)), Int.neg_sub, Int.toNat_sub, decodeSub_minus, ← hdd,
      sub_compl_diff_mod hp hc]

theorem decodeSub_cgAddr_some (p cur : Nat) (hp : p < two64) (hc : cur < two64) :
    decodeSub (some p) (cgAddr (some p) cur) = some cur := by
  simp only [cgAddr]
  by_cases he : p = cur
  · simp [he, decodeSub]
  · simp only [he, if_false]
    split
    · exact decodeSub_signed p cur hp hc
    · exact decodeSub_abs (some p) cur hc

/-- tables `callgrindName` can build: ids are 1,2,3… in insertion order, names pairwise distinct -/
inductive WF : List (Bytes × Nat) → Prop where
  | nil : WF []
  | cons {tbl name} : WF tbl → lookupId tbl name = none → WF ((name, tbl.length + 1) :: tbl)

/-- the checker's definition table corresponding to a `callgrindName` table -/
def mirror (tbl : List (Bytes × Nat)) : Defs := tbl.map fun p => (p.2, p.1)

theorem lookupDef_mirror_gt {tbl} (h : WF tbl) : ∀ n, tbl.length < n → lookupDef (mirror tbl) n = none := by
  induction h with
  | nil => intro n _; simp [mirror, lookupDef]
  | @cons tbl n0 _ _ ih =>
    intro n hn
    simp only [List.length_cons] at hn
    simp only [mirror, List.map_cons, lookupDef]
    have : ¬ (tbl.length + 1 = n) := by omega
    simp only [this, if_false]
    exact ih n (by omega)

theorem lookupDef_mirror {tbl} (h : WF tbl) : ∀ name id, lookupId tbl name = some id →
    id ≤ tbl.length ∧ lookupDef (mirror tbl) id = some name := by
  induction h with
  | nil => intro name id h; simp [lookupId] at h
  | @cons tbl n0 _ _ ih =>
    intro name id h
    simp only [lookupId] at h
    simp only [mirror, List.map_cons, lookupDef, List.length_cons]
    split at h
    · rename_i hn
      cases h; subst hn; simp
    · obtain ⟨hle, hd⟩ := ih name id h
      exact ⟨by omega, by rw [if_neg (by omega)]; exact hd⟩

theorem isBlank_LP : isBlank LP = false := by decide
theorem isDigit_RP : isDigit RP = false := by decide

theorem resolveName_compressed (defs : Defs) (id : Nat) (tail : Bytes) :
    resolveName defs (LP :: dec id ++ RP :: tail) =
      (let name := tail.dropWhile isBlank
       if name = [] then
         match lookupDef defs id with
         | some nm => .ok (nm, defs)
         | none => .error (.undefinedRef id)
       else
         match lookupDef defs id with
         | some old => if old = name then .ok (name, defs) else .error (.redefined id)
         | none => .ok (name, (id, name) :: defs)) := by
  have hall := dec_all_digit id
  have htw : (dec id ++ RP :: tail).takeWhile isDigit = dec id := by
    simp [List.takeWhile_append_of_pos hall, isDigit_RP]
  have hdw : (dec id ++ RP :: tail).dropWhile isDigit = RP :: tail := by
    simp [List.dropWhile_append_of_pos hall, isDigit_RP]
  have hpd := parseDec_dec id
  cases hd : dec id with
  | nil => exact absurd hd (dec_ne_nil id)
  | cons d ds =>
    have hdd : isDigit d = true := hall d (by rw [hd]; simp)
    rw [hd, List.cons_append] at htw hdw
    rw [hd] at hpd
    unfold resolveName
    simp only [List.cons_append, List.dropWhile, isBlank_LP]
    simp only [hdd, Bool.and_true, if_true, List.drop_succ_cons, List.drop_zero, htw, hdw, hpd]
    rfl

theorem sanitize_head_not_blank (name : Bytes) : ∀ b t, sanitize name = b :: t → isBlank b = false := by
  intro b t h
  have := List.head?_dropWhile_not isBlank (name.map fun b => if b = NL then SP else b)
  rw [show List.dropWhile isBlank _ = b :: t from h] at this
  exact this

theorem dropWhile_blank_sp_sanitize (name : Bytes) (h : sanitize name ≠ []) :
    (SP :: sanitize name).dropWhile isBlank = sanitize name := by
  have hsp : isBlank SP = true := by decide
  simp only [List.dropWhile, hsp]
  cases hs : sanitize name with
  | nil => exact absurd hs h
  | cons b t =>
    have := sanitize_head_not_blank name b t hs
    simp [List.dropWhile, this]

/-- `callgrindLine` replaces line breaks and THEN trims leading blanks: a result that is not empty starts with a byte
that is not a blank, so that `(n) name` can never read as the bare reference `(n)`. -/
theorem sanitize_single_line (name : Bytes) :
    NL ∉ sanitize name ∧ (sanitize name = [] ∨ ∃ b t, sanitize name = b :: t ∧ isBlank b = false) := by
  constructor
  · intro h
    have h' := List.dropWhile_subset _ h
    simp only [List.mem_map] at h'
    obtain ⟨x, _, hx⟩ := h'
    split at hx
    · exact absurd hx (by decide)
    · rename_i hne; exact hne hx
  · cases hs : sanitize name with
    | nil => exact Or.inl rfl
    | cons b t => exact Or.inr ⟨b, t, rfl, sanitize_head_not_blank name b t hs⟩

theorem resolve_cgName {tbl} (hwf : WF tbl) (name : Bytes) :
    resolveName (mirror tbl) (cgName tbl name).1 = .ok (sanitize name, mirror (cgName tbl name).2)
    ∧ WF (cgName tbl name).2 := by
  unfold cgName
  simp only
  by_cases he : sanitize name = []
  · simp only [he, if_true]
    exact ⟨by simp [resolveName], hwf⟩
  · simp only [he, if_false]
    cases hl : lookupId tbl (sanitize name) with
    | some id =>
      simp only
      refine ⟨?_, hwf⟩
      have := resolveName_compressed (mirror tbl) id []
      simp only [List.dropWhile, if_true, (lookupDef_mirror hwf _ _ hl).2] at this
      simpa using this
    | none =>
      simp only
      refine ⟨?_, WF.cons hwf hl⟩
      have := resolveName_compressed (mirror tbl) (tbl.length + 1) (SP :: sanitize name)
      rw [dropWhile_blank_sp_sanitize name he] at this
      simp only [he, if_false, lookupDef_mirror_gt hwf (tbl.length + 1) (by omega)] at this
      simpa [mirror] using this

/-- `callgrindName` over a sequence of names sharing one table -/
def emitAll : List (Bytes × Nat) → List Bytes → List Bytes × List (Bytes × Nat)
  | tbl, [] => ([], tbl)
  | tbl, n :: ns =>
    let r := cgName tbl n
    let rest := emitAll r.2 ns
    (r.1 :: rest.1, rest.2)

/-- the checker resolving a sequence of position names of one kind -/
def resolveAll : Defs → List Bytes → Except NameErr (List Bytes × Defs)
  | defs, [] => .ok ([], defs)
  | defs, t :: ts =>
    match resolveName defs t with
    | .ok (nm, defs') =>
      match resolveAll defs' ts with
      | .ok (nms, d) => .ok (nm :: nms, d)
      | .error e => .error e
    | .error e => .error e

theorem resolveAll_emitAll {tbl} (hwf : WF tbl) (names : List Bytes) :
    resolveAll (mirror tbl) (emitAll tbl names).1 =
      .ok (names.map sanitize, mirror (emitAll tbl names).2) := by
  induction names generalizing tbl with
  | nil => simp [emitAll, resolveAll]
  | cons n ns ih =>
    have ⟨h1, h2⟩ := resolve_cgName hwf n
    simp only [emitAll, resolveAll, h1, ih h2, List.map_cons]

end PV.Callgrind
