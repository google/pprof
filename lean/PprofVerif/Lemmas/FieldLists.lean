import PprofVerif.Lemmas.Loop
/-!
Field lists of the individual encoders (`encodeInt64Opt`, `encodeUint64s`, …), the `Decodes`
fact for each, and what running such a field list through a decoder table does to one slot of
the record (`applyAll … = .ok …`); the per-message round trips are compositions of these.
-/
namespace PV.Wire

def fU64 (tag x : Nat) : Field := { num := tag, typ := 0, u64 := x, data := [] }
def fLen (tag : Nat) (body : Bytes) : Field := { num := tag, typ := 2, u64 := 0, data := body }

def fUint64Opt (tag x : Nat) : List Field := if x = 0 then [] else [fU64 tag x]
def fInt64Opt (tag : Nat) (x : Int) : List Field := if x = 0 then [] else [fU64 tag (toU64 x)]
def fInt64 (tag : Nat) (x : Int) : List Field := [fU64 tag (toU64 x)]
def fBoolOpt (tag : Nat) (b : Bool) : List Field := if b then [fU64 tag 1] else []
def fUint64s (tag : Nat) (xs : List Nat) : List Field :=
  if xs.length > 2 then [fLen tag (xs.flatMap encodeVarint)] else xs.map (fU64 tag)
def fInt64s (tag : Nat) (xs : List Int) : List Field := fUint64s tag (xs.map toU64)

/-- tags used by profile.proto are tiny; this is all the encoders need -/
def SmallTag (tag : Nat) : Prop := tag < 1000

theorem encodeUint64_ne_nil (tag x : Nat) : encodeUint64 tag x ≠ [] :=
  fun h => encodeVarint_ne_nil _ (List.append_eq_nil_iff.mp h).1

theorem encodeMessage_ne_nil (tag : Nat) (body : Bytes) : encodeMessage tag body ≠ [] :=
  fun h => encodeVarint_ne_nil _ (List.append_eq_nil_iff.mp (List.append_eq_nil_iff.mp h).1).1

theorem Decodes.uint64 {tag x : Nat} (ht : SmallTag tag) (hx : x < two64) :
    Decodes (encodeUint64 tag x) [fU64 tag x] :=
  Decodes.single (encodeUint64_ne_nil tag x)
    (fun rest => decodeField_encodeUint64 tag x (by unfold SmallTag at ht; unfold two64; omega) hx rest)

theorem Decodes.message {tag : Nat} {body : Bytes} (ht : SmallTag tag) (hl : body.length < two64) :
    Decodes (encodeMessage tag body) [fLen tag body] :=
  Decodes.single (encodeMessage_ne_nil tag body)
    (fun rest => decodeField_encodeMessage tag body (by unfold SmallTag at ht; unfold two64; omega) hl rest)

theorem Decodes.uint64Opt {tag x : Nat} (ht : SmallTag tag) (hx : x < two64) :
    Decodes (encodeUint64Opt tag x) (fUint64Opt tag x) := by
  unfold encodeUint64Opt fUint64Opt
  split
  · exact Decodes.nil
  · exact Decodes.uint64 ht hx

theorem Decodes.int64 {tag : Nat} {x : Int} (ht : SmallTag tag) :
    Decodes (encodeInt64 tag x) (fInt64 tag x) :=
  Decodes.uint64 ht (toU64_lt x)

theorem Decodes.int64Opt {tag : Nat} {x : Int} (ht : SmallTag tag) :
    Decodes (encodeInt64Opt tag x) (fInt64Opt tag x) := by
  unfold encodeInt64Opt fInt64Opt
  split
  · exact Decodes.nil
  · exact Decodes.int64 ht

theorem Decodes.boolOpt {tag : Nat} {b : Bool} (ht : SmallTag tag) :
    Decodes (encodeBoolOpt tag b) (fBoolOpt tag b) := by
  unfold encodeBoolOpt fBoolOpt
  split
  · exact Decodes.uint64 ht (by unfold two64; omega)
  · exact Decodes.nil

theorem Decodes.string {tag : Nat} {s : Str} (ht : SmallTag tag) (hl : s.length < two64) :
    Decodes (encodeString tag s) [fLen tag s] :=
  Decodes.message ht hl

theorem Decodes.map {α : Type} {enc : α → Bytes} {mk : α → Field} {l : List α}
    (h : ∀ a ∈ l, Decodes (enc a) [mk a]) : Decodes (l.flatMap enc) (l.map mk) :=
  List.map_eq_flatMap ▸ Decodes.flatMap_mem enc (fun a => [mk a]) h

theorem Decodes.strings {tag : Nat} (ht : SmallTag tag) :
    ∀ {ss : List Str}, (∀ s ∈ ss, s.length < two64) → Decodes (encodeStrings tag ss) (ss.map (fLen tag)) :=
  fun h => Decodes.map fun s hs => Decodes.string ht (h s hs)

theorem Decodes.uint64s {tag : Nat} {xs : List Nat} (ht : SmallTag tag)
    (hx : ∀ x ∈ xs, x < two64) (hl : (xs.flatMap encodeVarint).length < two64) :
    Decodes (encodeUint64s tag xs) (fUint64s tag xs) := by
  unfold encodeUint64s fUint64s
  split
  · exact Decodes.message ht hl
  · exact Decodes.map fun x h => Decodes.uint64 ht (hx x h)

theorem toU64_lt_of_mem {xs : List Int} : ∀ u ∈ xs.map toU64, u < two64 := by
  intro u hu
  obtain ⟨i, _, rfl⟩ := List.mem_map.mp hu
  exact toU64_lt i

theorem Decodes.int64s {tag : Nat} {xs : List Int} (ht : SmallTag tag)
    (hl : ((xs.map toU64).flatMap encodeVarint).length < two64) :
    Decodes (encodeInt64s tag xs) (fInt64s tag xs) :=
  Decodes.uint64s ht toU64_lt_of_mem hl

theorem Decodes.messages {α : Type} {tag : Nat} (enc : α → Bytes) (ht : SmallTag tag) :
    ∀ {l : List α}, (∀ a ∈ l, (enc a).length < two64) →
      Decodes (l.flatMap (fun a => encodeMessage tag (enc a))) (l.map (fun a => fLen tag (enc a))) :=
  fun h => Decodes.map fun a ha => Decodes.message ht (h a ha)

theorem decodePacked_flatMap (xs : List Nat) (fuel : Nat) (hx : ∀ x ∈ xs, x < two64)
    (hf : (xs.flatMap encodeVarint).length ≤ fuel) : decodePacked fuel (xs.flatMap encodeVarint) = .ok xs := by
  induction xs generalizing fuel with
  | nil => cases fuel <;> rfl
  | cons x xs ih =>
    rw [List.flatMap_cons] at hf ⊢
    have hd := decodeVarint_encodeVarint x (hx x List.mem_cons_self) (xs.flatMap encodeVarint)
    cases hev : encodeVarint x with
    | nil => exact absurd hev (encodeVarint_ne_nil x)
    | cons b bs =>
      rw [hev] at hf hd
      cases fuel with
      | zero => cases hf
      | succ fuel =>
        have ih := ih fuel (fun y hy => hx y (List.mem_cons_of_mem x hy))
          (by simp only [List.length_append, List.length_cons] at hf; omega)
        rw [List.cons_append] at hd ⊢
        rw [decodePacked, hd, Outcome.bind_ok]
        show (decodePacked fuel (xs.flatMap encodeVarint) >>= fun r => pure (x :: r)) = _
        rw [ih]; rfl

theorem decodeUint64s_packed (tag : Nat) (xs acc : List Nat) (hx : ∀ x ∈ xs, x < two64) :
    decodeUint64s (fLen tag (xs.flatMap encodeVarint)) acc = .ok (acc ++ xs) := by
  show (decodePacked (xs.flatMap encodeVarint).length (xs.flatMap encodeVarint) >>= fun us => pure (acc ++ us)) = _
  rw [decodePacked_flatMap xs _ hx (Nat.le_refl _)]; rfl

theorem decodeUint64s_single (tag x : Nat) (acc : List Nat) :
    decodeUint64s (fU64 tag x) acc = .ok (acc ++ [x]) := rfl

theorem map_toI64_toU64 : ∀ (xs : List Int), (∀ x ∈ xs, InI64 x) → (xs.map toU64).map toI64 = xs
  | [], _ => rfl
  | x :: xs, h => by
    rw [List.map_cons, List.map_cons, toI64_toU64 x (h x List.mem_cons_self),
      map_toI64_toU64 xs fun y hy => h y (List.mem_cons_of_mem x hy)]

theorem decodeInt64s_packed (tag : Nat) (xs acc : List Int) (hx : ∀ x ∈ xs, InI64 x) :
    decodeInt64s (fLen tag ((xs.map toU64).flatMap encodeVarint)) acc = .ok (acc ++ xs) := by
  show (decodePacked ((xs.map toU64).flatMap encodeVarint).length ((xs.map toU64).flatMap encodeVarint) >>= fun us => pure (acc ++ us.map toI64)) = _
  rw [decodePacked_flatMap _ _ toU64_lt_of_mem (Nat.le_refl _), Outcome.bind_ok, map_toI64_toU64 xs hx]; rfl

theorem decodeInt64s_single (tag : Nat) (x : Int) (acc : List Int) (hx : InI64 x) :
    decodeInt64s (fU64 tag (toU64 x)) acc = .ok (acc ++ [x]) := by
  show Outcome.ok (acc ++ [toI64 (toU64 x)]) = _
  rw [toI64_toU64 x hx]

theorem decodeMessage_fLen {C : Type} (apply : C → Field → Outcome C) (zero : C) (tag : Nat) (body : Bytes) :
    decodeMessage apply zero (fLen tag body) = decodeAll apply zero body := rfl

/-! Running field lists (`applyAll apply m fs = .ok m'`), one lemma per encoder kind.  The slot of the
record the field belongs to is given by its setter (and getter, for repeated fields); the hypothesis `h`
is the entry of the decoder table for the tag, which for a concrete table holds by `rfl`. -/

/-- a component of a record -/
structure Slot (M α : Type) where
  get : M → α
  set : M → α → M
  get_set : ∀ m v, get (set m v) = v
  set_set : ∀ m a b, set (set m a) b = set m b
  set_get : ∀ m, set m (get m) = m

section run
variable {M : Type} (apply : M → Field → Outcome M)

theorem applyAll_append_ok {m m' m'' : M} {a b : List Field}
    (ha : applyAll apply m a = .ok m') (hb : applyAll apply m' b = .ok m'') :
    applyAll apply m (a ++ b) = .ok m'' := by
  rw [applyAll_append, ha]; exact hb

theorem applyAll_cons_ok {m m' : M} {f : Field} {rest : List Field} (h : apply m f = .ok m') :
    applyAll apply m (f :: rest) = applyAll apply m' rest := by
  simp only [applyAll, h]

theorem applyAll_single {m m' : M} {f : Field} (h : apply m f = .ok m') : applyAll apply m [f] = .ok m' :=
  applyAll_cons_ok apply h

/-- an optional scalar is absent when zero, and then the record must already hold zero (`hz`) -/
theorem applyAll_uint64Opt (set : M → Nat → M) {m : M} {tag x : Nat}
    (h : ∀ u, apply m (fU64 tag u) = .ok (set m u)) (hz : set m 0 = m) :
    applyAll apply m (fUint64Opt tag x) = .ok (set m x) := by
  unfold fUint64Opt
  split
  · next h0 => rw [h0, hz]; rfl
  · exact applyAll_single apply (h x)

theorem applyAll_int64 (set : M → Int → M) {m : M} {tag : Nat} {x : Int}
    (h : ∀ u, apply m (fU64 tag u) = .ok (set m (toI64 u))) (hx : InI64 x) :
    applyAll apply m (fInt64 tag x) = .ok (set m x) := by
  have := applyAll_single apply (h (toU64 x))
  rwa [toI64_toU64 x hx] at this

theorem applyAll_int64Opt (set : M → Int → M) {m : M} {tag : Nat} {x : Int}
    (h : ∀ u, apply m (fU64 tag u) = .ok (set m (toI64 u))) (hx : InI64 x) (hz : set m 0 = m) :
    applyAll apply m (fInt64Opt tag x) = .ok (set m x) := by
  unfold fInt64Opt
  split
  · next h0 => rw [h0, hz]; rfl
  · exact applyAll_int64 apply set h hx

theorem applyAll_boolOpt (set : M → Bool → M) {m : M} {tag : Nat} {b : Bool}
    (h : ∀ u, apply m (fU64 tag u) = .ok (set m (toI64 u != 0))) (hz : set m false = m) :
    applyAll apply m (fBoolOpt tag b) = .ok (set m b) := by
  cases b
  · rw [hz]; rfl
  · exact applyAll_single apply (h 1)

theorem applyAll_map {α : Type} (s : Slot M (List α)) (mk : α → Field) (l : List α) (m : M)
    (h : ∀ m, ∀ a ∈ l, apply m (mk a) = .ok (s.set m (s.get m ++ [a]))) :
    applyAll apply m (l.map mk) = .ok (s.set m (s.get m ++ l)) := by
  induction l generalizing m with
  | nil => rw [List.append_nil, s.set_get]; rfl
  | cons a l ih =>
    rw [List.map_cons, applyAll_cons_ok apply (h m a List.mem_cons_self),
      ih _ fun m b hb => h m b (List.mem_cons_of_mem a hb), s.get_set, s.set_set, List.append_assoc]; rfl

/-- repeated sub-messages: `h` is the decoder closure of the parent, `hrt` the round trip of the child -/
theorem applyAll_messages {C : Type} (s : Slot M (List C)) (capply : C → Field → Outcome C) (zero : C)
    (enc : C → Bytes) {tag : Nat} {l : List C} {m : M}
    (h : ∀ m body, apply m (fLen tag body) =
      decodeMessage capply zero (fLen tag body) >>= fun x => pure (s.set m (s.get m ++ [x])))
    (hrt : ∀ a ∈ l, decodeAll capply zero (enc a) = .ok a) :
    applyAll apply m (l.map fun a => fLen tag (enc a)) = .ok (s.set m (s.get m ++ l)) :=
  applyAll_map apply s _ l m fun m a ha => by rw [h, decodeMessage_fLen, hrt a ha]; rfl

theorem applyAll_uint64s (s : Slot M (List Nat)) {tag : Nat} {xs : List Nat} {m : M}
    (h : ∀ m t u d, apply m ⟨tag, t, u, d⟩ = decodeUint64s ⟨tag, t, u, d⟩ (s.get m) >>= fun x => pure (s.set m x))
    (hx : ∀ x ∈ xs, x < two64) :
    applyAll apply m (fUint64s tag xs) = .ok (s.set m (s.get m ++ xs)) := by
  unfold fUint64s fLen fU64
  split
  · exact applyAll_single apply (by rw [h, ← fLen, decodeUint64s_packed tag xs _ hx]; rfl)
  · exact applyAll_map apply s _ xs m fun m x _ => by rw [h, ← fU64, decodeUint64s_single]; rfl

theorem applyAll_int64s (s : Slot M (List Int)) {tag : Nat} {xs : List Int} {m : M}
    (h : ∀ m t u d, apply m ⟨tag, t, u, d⟩ = decodeInt64s ⟨tag, t, u, d⟩ (s.get m) >>= fun x => pure (s.set m x))
    (hx : ∀ x ∈ xs, InI64 x) :
    applyAll apply m (fInt64s tag xs) = .ok (s.set m (s.get m ++ xs)) := by
  unfold fInt64s fUint64s fLen fU64
  split
  · exact applyAll_single apply (by rw [h, ← fLen, decodeInt64s_packed tag xs _ hx]; rfl)
  · rw [List.map_map]
    exact applyAll_map apply s _ xs m fun m x hm => by
      rw [Function.comp, h, ← fU64, decodeInt64s_single tag x _ (hx x hm)]; rfl

end run

end PV.Wire
