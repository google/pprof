import PprofVerif.Spec.Filter
import PprofVerif.Lemmas.ProfileValid
/-!
What the name filters, show_from (C06) and the pruning rules (C11) all need: lookups by id in the location table, what
a valid profile provides (`WF`), and the frames of one location (`locFrames`): their shape, when one matches an
expression, and that trimming the lines of the locations and the ids of a sample leaves a sublist of the sample's
frames (`frames_sublist_of_map`).
-/
namespace PV.Filter
open PV PV.FilterSpec

theorem any_congr_mem {α} {l : List α} {a b : α → Bool} (h : ∀ x ∈ l, a x = b x) : l.any a = l.any b := by
  simpa [List.any_map] using congrArg (List.any · id) (List.map_congr_left h)

theorem filterMap_congr_mem {α β} {l : List α} {f g : α → Option β} (h : ∀ x ∈ l, f x = g x) :
    l.filterMap f = l.filterMap g := by
  simpa [List.filterMap_map] using congrArg (List.filterMap id) (List.map_congr_left h)

theorem all_not_eq_filter_isEmpty {α} (q : α → Bool) (l : List α) :
    l.all (fun x => !q x) = (l.filter q).isEmpty := by
  induction l with
  | nil => rfl
  | cons a r ih => cases h : q a <;> simp [h, ih]

theorem flatMap_isEmpty {α β} {F : α → List β} {l : List α} (h : ∀ a ∈ l, F a ≠ []) :
    (l.flatMap F).isEmpty = l.isEmpty := by
  cases l with
  | nil => rfl
  | cons a r =>
    cases hF : F a with
    | nil => exact absurd hF (h a (by simp))
    | cons _ _ => simp [hF]

theorem flatMap_sublist {α β} {f g : α → List β} (hfg : ∀ a, (f a).Sublist (g a)) {l₁ l₂ : List α}
    (h : l₁.Sublist l₂) : (l₁.flatMap f).Sublist (l₂.flatMap g) := by
  induction h with
  | slnil => simp
  | cons a _ ih => simp only [List.flatMap_cons]; exact List.sublist_append_of_sublist_right ih
  | cons_cons a _ ih => simp only [List.flatMap_cons]; exact List.Sublist.append (hfg a) ih

theorem filterMap_data_sublist {α β} {f : α → Option α} {d : α → β} (hf : ∀ a a', f a = some a' → d a' = d a)
    (l : List α) : ((l.filterMap f).map d).Sublist (l.map d) := by
  induction l with
  | nil => simp
  | cons a r ih =>
    simp only [List.filterMap_cons, List.map_cons]
    split
    · exact List.Sublist.cons _ ih
    · rename_i a' ha
      rw [List.map_cons, hf a a' ha]
      exact List.Sublist.cons_cons _ ih

theorem find?_mem_id {ls : List Location} {id : Nat} {l : Location} (h : ls.find? (·.id == id) = some l) :
    l ∈ ls ∧ l.id = id :=
  ⟨List.mem_of_find?_eq_some h, by simpa using List.find?_some h⟩

theorem find?_of_mem_nodup {ls : List Location} (hn : (ls.map (·.id)).Nodup) {l : Location} (hm : l ∈ ls) :
    ls.find? (·.id == l.id) = some l := by
  induction ls with
  | nil => cases hm
  | cons a r ih =>
    simp only [List.map_cons, List.nodup_cons] at hn
    rcases List.mem_cons.mp hm with rfl | hm'
    · simp
    · have hne : a.id ≠ l.id := fun heq => hn.1 (heq ▸ List.mem_map_of_mem (f := (·.id)) hm')
      simpa [List.find?_cons, hne] using ih hn.2 hm'

structure WF (p : Profile) : Prop where
  sampleLocs : ∀ s ∈ p.samples, ∀ id ∈ s.locationIDs, ∃ l, p.findLocation id = some l
  lineFns : ∀ l ∈ p.locations, ∀ ln ∈ l.lines, ∃ f, p.findFunction ln.functionID = some f

theorem wf_of_valid {p : Profile} (h : p.Valid) : WF p :=
  ⟨fun _ hs _ hid => (h.findLocation hs hid).2.imp fun _ => And.left,
    fun _ hl _ hln => (h.findFunction hl hln).2.imp fun _ => And.left⟩

def mkFrame (l : Location) (ln : Line) : Frame := ⟨l.id, l.mappingID, some ln⟩

theorem mkFrame_congr {l l' : Location} (h : l'.id = l.id ∧ l'.mappingID = l.mappingID) :
    mkFrame l' = mkFrame l := by
  funext ln; simp [mkFrame, h.1, h.2]

theorem locFrames_of_lines_ne {l : Location} (h : l.lines ≠ []) : locFrames l = l.lines.map (mkFrame l) := by
  unfold locFrames
  cases hl : l.lines with
  | nil => exact absurd hl h
  | cons a r => rfl

theorem locFrames_of_lines_nil {l : Location} (h : l.lines = []) :
    locFrames l = [⟨l.id, l.mappingID, none⟩] := by
  simp [locFrames, h]

theorem locFrames_ne_nil (l : Location) : locFrames l ≠ [] := by
  unfold locFrames
  cases l.lines <;> simp

theorem locFrames_lines_sublist (l : Location) {ls : List Line} (hs : ls.Sublist l.lines) (hne : ls ≠ []) :
    (locFrames { l with lines := ls }).Sublist (locFrames l) := by
  have hl : l.lines ≠ [] := fun h0 => hne (List.sublist_nil.mp (h0 ▸ hs))
  rw [locFrames_of_lines_ne hl, locFrames_of_lines_ne (l := { l with lines := ls }) hne]
  exact hs.map _

theorem locFramesOf_map {p p' : Profile} {T : Location → Location} (hid : ∀ l, (T l).id = l.id)
    (hl : p'.locations = p.locations.map T) (id : Nat) :
    locFramesOf p' id =
      match p.findLocation id with
      | some l => locFrames (T l)
      | none => [] := by
  unfold locFramesOf Profile.findLocation
  rw [hl, ListFacts.find?_map_of_key_eq T (·.id) hid]
  cases List.find? (fun x => x.id == id) p.locations <;> rfl

/-- Trimming lifts to frames; used for show_from, `Prune` and `PruneFrom` alike. -/
theorem frames_sublist_of_map {p p' : Profile} {T : Location → Location} (hid : ∀ l, (T l).id = l.id)
    (hT : ∀ l, (locFrames (T l)).Sublist (locFrames l)) (hl : p'.locations = p.locations.map T)
    {ids ids' : List Nat} (hs : ids'.Sublist ids) :
    (ids'.flatMap (locFramesOf p')).Sublist (ids.flatMap (locFramesOf p)) := by
  refine flatMap_sublist (fun id => ?_) hs
  rw [locFramesOf_map hid hl]
  unfold locFramesOf
  cases p.findLocation id with
  | some l => exact hT l
  | none => exact List.Sublist.refl _

theorem frameMatches_line (p : Profile) (re : Rx) (l : Location) (ln : Line) :
    frameMatches p re (mkFrame l ln) = (lineMatches p re ln || mappingMatches p re l) := by
  unfold frameMatches mappingMatches mkFrame
  cases p.findMapping l.mappingID <;> rfl

theorem frameMatches_noLine (p : Profile) (re : Rx) (l : Location) :
    frameMatches p re ⟨l.id, l.mappingID, none⟩ = mappingMatches p re l := by
  unfold frameMatches mappingMatches
  cases p.findMapping l.mappingID <;> simp

theorem locFrames_any_matches (p : Profile) (re : Rx) (l : Location) :
    (locFrames l).any (frameMatches p re) = matchesName p re l := by
  by_cases h : l.lines = []
  · simp [locFrames_of_lines_nil h, frameMatches_noLine, matchesName, h]
  · rw [locFrames_of_lines_ne h, List.any_map, matchesName]
    obtain ⟨a, r, hl⟩ := List.exists_cons_of_ne_nil h
    cases hm : mappingMatches p re l <;> simp [Function.comp_def, frameMatches_line, hm, hl]

end PV.Filter
