import PprofVerif.Lemmas.Trim
import PprofVerif.Lemmas.Sprint
import PprofVerif.Model.TrimOrder
/-!
# Composition C05 ← C08: the order of a trimmed text report is the regenerated comparator

* `order_eq_entryLess`: C05's hand-written `lessFlat`/`lessCum` equal the comparators denoted (by
  C08's interpreter `lessOf`) by the descriptor lists `flatNameKeys`/`cumNameKeys` — which C08
  checks on every run to be the lists regenerated from graph.go — on entries whose weights are
  not MinInt64 (Go's `abs64` leaves MinInt64 negative; C05's model uses |·|);
* `entryLess_strictWeak`, `entryLess_separates`: C08's generic theorems instantiated on entries;
* `sortBy_order_sorted`, `sortBy_order_unique`: C05's sort returns the sorted arrangement, and the
  only one when distinct entries have distinct `fmt.Sprint(Info)` strings;
* `entryLess_entryOfNode`, `infoStr_inj_of_spaceFree`: for entries of graph nodes the comparator is
  C08's `nodeLess`, and the separation hypothesis follows from `SpaceFree` + nodes keyed by info.
-/
namespace PV.Trim
open PV.Order PV.GraphOrder PV.GSpec

theorem abs64_eq_absI {x : Int} (h : x ≠ minI64) : abs64 x = absI x := by
  unfold abs64 absI
  split <;> rfl

theorem Key.lt_single (x y : Int) : Key.lt [x] [y] = decide (x < y) := by
  simp [Key.lt]

theorem Key.lt_skey (s t : Str) : Key.lt (skey s) (skey t) = Str.lt s t := by
  induction s generalizing t with
  | nil => cases t <;> rfl
  | cons a s ih =>
    cases t with
    | nil => rfl
    | cons b t =>
      have h1 : ((a.toNat : Int) < (b.toNat : Int)) ↔ a < b := by
        rw [UInt8.lt_iff_toNat_lt]; omega
      have h2 : ((b.toNat : Int) < (a.toNat : Int)) ↔ b < a := by
        rw [UInt8.lt_iff_toNat_lt]; omega
      have ih := ih t
      simp only [skey, List.map_cons] at ih ⊢
      rw [Key.lt, Str.lt]
      simp only [h1, h2, ih]

theorem Str.lt_ne {s t : Str} (h : Str.lt s t = true) : s ≠ t := by
  intro e
  subst e
  rw [← Key.lt_skey, Key.lt_irrefl] at h
  cases h

theorem lessOf_cons_weight {α : Type} (k : KeyDesc α) (ks : List (KeyDesc α)) (a b : α) (x y : Int)
    (hg : k.guard = .same) (hd : k.dir = .desc) (hx : k.xf = .abs)
    (ha : k.proj a = ikey x) (hb : k.proj b = ikey y) (hxm : x ≠ minI64) (hym : y ≠ minI64) :
    lessOf (k :: ks) a b = if absI x ≠ absI y then decide (absI x > absI y) else lessOf ks a b := by
  simp only [lessOf, KeyDesc.guardVal, KeyDesc.ordVal, KeyDesc.cmp, KeyDesc.rel, hg, hd, hx, Xf.app, ha,
    hb, ikey, List.map_cons, List.map_nil, abs64_eq_absI hxm, abs64_eq_absI hym, Key.lt_single]
  by_cases h : absI x = absI y <;> simp [h]

theorem lessOf_cons_text {α : Type} (k : KeyDesc α) (ks : List (KeyDesc α)) (a b : α) (s t : Str)
    (hg : k.guard = .same) (hd : k.dir = .asc) (hx : k.xf = .id)
    (ha : k.proj a = skey s) (hb : k.proj b = skey t) :
    lessOf (k :: ks) a b = if s ≠ t then Str.lt s t else lessOf ks a b := by
  simp only [lessOf, KeyDesc.guardVal, KeyDesc.ordVal, KeyDesc.cmp, KeyDesc.rel, hg, hd, hx, Xf.app, ha,
    hb, Key.lt_skey]
  by_cases h : s = t
  · simp [h]
  · have : skey s ≠ skey t := fun e => h (skey_inj e)
    simp [h, this]

/-- the last link needs no guard -/
theorem ite_ne_strLt (s t : Str) : (if s ≠ t then Str.lt s t else false) = Str.lt s t := by
  by_cases h : s = t
  · subst h; simp [← Key.lt_skey, Key.lt_irrefl]
  · simp [h]

theorem lessFlat_eq (a b : Entry) (ha : NoMin a) (hb : NoMin b) :
    lessFlat a b = entryLess flatNameKeys a b := by
  unfold lessFlat entryLess flatNameKeys
  simp only [List.map_cons, List.map_nil]
  rw [lessOf_cons_weight _ _ a b a.flat b.flat rfl rfl rfl rfl rfl ha.1 hb.1,
    lessOf_cons_text _ _ a b a.name b.name rfl rfl rfl rfl rfl,
    lessOf_cons_weight _ _ a b a.cum b.cum rfl rfl rfl rfl rfl ha.2 hb.2,
    lessOf_cons_text _ _ a b a.infoStr b.infoStr rfl rfl rfl rfl rfl, lessOf, ite_ne_strLt]

theorem lessCum_eq (a b : Entry) (ha : NoMin a) (hb : NoMin b) :
    lessCum a b = entryLess cumNameKeys a b := by
  unfold lessCum entryLess cumNameKeys
  simp only [List.map_cons, List.map_nil]
  rw [lessOf_cons_weight _ _ a b a.cum b.cum rfl rfl rfl rfl rfl ha.2 hb.2,
    lessOf_cons_text _ _ a b a.name b.name rfl rfl rfl rfl rfl,
    lessOf_cons_weight _ _ a b a.flat b.flat rfl rfl rfl rfl rfl ha.1 hb.1,
    lessOf_cons_text _ _ a b a.infoStr b.infoStr rfl rfl rfl rfl rfl, lessOf, ite_ne_strLt]

/-- **the hand-written comparators of C05's trim model ARE the comparators-as-data of C08**
(on entries whose weights are not MinInt64, where Go's `abs64` is the mathematical absolute value) -/
theorem order_eq_entryLess (o : TrimOpts) (a b : Entry) (ha : NoMin a) (hb : NoMin b) :
    order o a b = entryLess (genOrder o) a b := by
  unfold order genOrder
  split
  · exact lessCum_eq a b ha hb
  · exact lessFlat_eq a b ha hb

theorem genOrder_proper (o : TrimOpts) : allProperKD (genOrder o) = true := by
  unfold genOrder; split <;> decide

theorem genOrder_hasSprint (o : TrimOpts) : hasIdKey NodeProj.Sprint_Info (genOrder o) = true := by
  unfold genOrder; split <;> decide

theorem entryLess_strictWeak (o : TrimOpts) : StrictWeak (entryLess (genOrder o)) :=
  lessOf_strictWeak _ (allProper_of_KD entryGet _ (genOrder_proper o))

theorem entryLess_separates (o : TrimOpts) (a b : Entry)
    (h1 : entryLess (genOrder o) a b = false) (h2 : entryLess (genOrder o) b a = false) : a.infoStr = b.infoStr :=
  (strictWeak_of_KD entryGet (genOrder o) (fun e : Entry => e.infoStr) (genOrder_proper o)
    (determines_of_hasIdKey entryGet _ NodeProj.Sprint_Info _ (genOrder_hasSprint o) fun _ _ h => skey_inj h)).2
    a b h1 h2

theorem insertBy_congr {lt lt' : Entry → Entry → Bool} (x : Entry) : ∀ l : List Entry,
    (∀ y ∈ l, lt y x = lt' y x) → PV.Trim.insertBy lt x l = PV.Trim.insertBy lt' x l
  | [], _ => rfl
  | y :: r, h => by
    unfold PV.Trim.insertBy
    rw [h y (by simp), insertBy_congr x r (fun z hz => h z (List.mem_cons_of_mem _ hz))]

theorem sortBy_congr {lt lt' : Entry → Entry → Bool} : ∀ l : List Entry,
    (∀ a ∈ l, ∀ b ∈ l, lt a b = lt' a b) → PV.Trim.sortBy lt l = PV.Trim.sortBy lt' l
  | [], _ => rfl
  | x :: r, h => by
    unfold PV.Trim.sortBy
    rw [sortBy_congr r (fun a ha b hb => h a (List.mem_cons_of_mem _ ha) b (List.mem_cons_of_mem _ hb))]
    apply insertBy_congr
    intro y hy
    have hy' : y ∈ r := (sortBy_perm lt' r).mem_iff.mp hy
    exact h y (List.mem_cons_of_mem _ hy') x (by simp)

theorem sortBy_order_eq (o : TrimOpts) (l : List Entry) (hl : ∀ e ∈ l, NoMin e) :
    PV.Trim.sortBy (order o) l = PV.Order.sortBy (entryLess (genOrder o)) l := by
  rw [sortBy_congr (lt' := entryLess (genOrder o)) l (fun a ha b hb => order_eq_entryLess o a b (hl a ha) (hl b hb)),
    sortBy_eq]

/-- … hence it has no inversion, with NO hypothesis on the comparator -/
theorem sortBy_order_sorted (o : TrimOpts) (l : List Entry) (hl : ∀ e ∈ l, NoMin e) :
    (PV.Trim.sortBy (order o) l).Pairwise (fun a b => order o b a = false) := by
  have hmem : ∀ e ∈ PV.Trim.sortBy (order o) l, NoMin e := fun e he =>
    hl e ((sortBy_perm (order o) l).mem_iff.mp he)
  have h : NoInv _ (PV.Order.sortBy _ l) := noInv_sortBy (entryLess_strictWeak o) l
  rw [← sortBy_order_eq o l hl] at h
  exact h.imp_of_mem fun ha hb hab => (order_eq_entryLess o _ _ (hmem _ hb) (hmem _ ha)).trans hab

/-- … and it is THE sorted arrangement: any permutation without adjacent inversion (what a correct
`sort.Sort` returns) equals it, provided distinct entries have distinct `fmt.Sprint(Info)` strings -/
theorem sortBy_order_unique (o : TrimOpts) (l l' : List Entry) (hl : ∀ e ∈ l, NoMin e)
    (hinj : ∀ a ∈ l, ∀ b ∈ l, a.infoStr = b.infoStr → a = b)
    (hperm : l'.Perm l) (hs : AdjSorted (order o) l') : l' = PV.Trim.sortBy (order o) l := by
  rw [sortBy_order_eq o l hl]
  have hsw := entryLess_strictWeak o
  have hs' : AdjSorted (entryLess (genOrder o)) l' := by
    have hmem : ∀ e ∈ l', NoMin e := fun e he => hl e (hperm.mem_iff.mp he)
    clear hperm
    induction l' with
    | nil => trivial
    | cons a r ih =>
      cases r with
      | nil => trivial
      | cons b r' =>
        obtain ⟨h1, h2⟩ := hs
        refine ⟨?_, ih h2 (fun e he => hmem e (List.mem_cons_of_mem _ he))⟩
        rw [← order_eq_entryLess o b a (hmem b (by simp)) (hmem a (by simp))]
        exact h1
  refine noInv_perm_unique (hperm.trans (perm_sortBy _ l).symm) ?_ (adjSorted_noInv hsw l' hs') (noInv_sortBy hsw l)
  intro a ha b hb h1 h2
  exact hinj a (hperm.mem_iff.mp ha) b (hperm.mem_iff.mp hb) (entryLess_separates o a b h1 h2)

theorem lessOf_congr {α β : Type} {π : Type} (g1 : π → α → Key) (g2 : π → β → Key) (a b : α) (a' b' : β)
    (ks : List (KD π)) (h : ∀ d ∈ ks, g1 d.proj a = g2 d.proj a' ∧ g1 d.proj b = g2 d.proj b') :
    lessOf (ks.map (KD.toDesc g1)) a b = lessOf (ks.map (KD.toDesc g2)) a' b' := by
  induction ks with
  | nil => rfl
  | cons d ks ih =>
    obtain ⟨h1, h2⟩ := h d List.mem_cons_self
    simp only [List.map_cons, lessOf, KeyDesc.guardVal, KeyDesc.ordVal, KeyDesc.cmp, KeyDesc.rel, KD.toDesc,
      h1, h2, ih fun e he => h e (List.mem_cons_of_mem _ he)]
    rfl

theorem entryGet_entryOfNode (p : NodeProj) (hp : readable p = true) (i : Nat) (n : Node) :
    entryGet p (entryOfNode i n) = NodeProj.get (.field .Cum) p n := by
  cases p <;> first | rfl | cases hp

theorem genOrder_readable (o : TrimOpts) : (genOrder o).all (fun d => readable d.proj) = true := by
  unfold genOrder; split <;> decide

/-- on entries of graph nodes the regenerated comparator on entries is C08's `nodeLess` on the nodes
(with the score map of CumNameOrder, `score[n] = n.Cum`) -/
theorem entryLess_entryOfNode (o : TrimOpts) (i j : Nat) (a b : Node) :
    entryLess (genOrder o) (entryOfNode i a) (entryOfNode j b) = nodeLess (.field .Cum) (genOrder o) a b := by
  unfold entryLess nodeLess
  apply lessOf_congr
  intro d hd
  have hr := List.all_eq_true.mp (genOrder_readable o) d hd
  exact ⟨entryGet_entryOfNode d.proj hr i a, entryGet_entryOfNode d.proj hr j b⟩

/-- entries of graph nodes that are keyed by their NodeInfo (distinct nodes, distinct infos) and
whose infos are space-free have pairwise distinct `fmt.Sprint(Info)` strings — the hypothesis
`hinj` of `sortBy_order_unique` -/
theorem infoStr_inj_of_spaceFree (idOf : Node → Nat) (ns : List Node) (hsf : ∀ n ∈ ns, SpaceFree n.info)
    (hkey : ∀ a ∈ ns, ∀ b ∈ ns, a.info = b.info → a = b) :
    ∀ a ∈ ns.map (fun n => entryOfNode (idOf n) n), ∀ b ∈ ns.map (fun n => entryOfNode (idOf n) n),
      a.infoStr = b.infoStr → a = b := by
  intro a ha b hb hab
  obtain ⟨n, hn, rfl⟩ := List.mem_map.mp ha
  obtain ⟨m, hm, rfl⟩ := List.mem_map.mp hb
  have hinfo : n.info = m.info := sprintInfo_inj (hsf n hn) (hsf m hm) hab
  rw [hkey n hn m hm hinfo]

end PV.Trim
