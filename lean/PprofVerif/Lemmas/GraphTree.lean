import PprofVerif.Lemmas.GraphKept
/-!
Call-tree mode: `newTree ss = newGraph allKept (ss.map treeSample)` as states, so every theorem about `newGraph`
transfers.  The path keys of one stack grow strictly in length, hence the `seen` sets of the graph walk never
fire and no key equals its parent (`PathInv`).
-/
namespace PV.Graph
open PV.GSpec
variable {κ : Type} [DecidableEq κ]

def ppOf (par : Option (List κ)) : List κ := match par with | none => [] | some p => p

/-- path keys of the frames `fs` below the path `pp`. -/
def pathsFrom (pp : List κ) (fs : List κ) : List (List κ) := (prefixes fs).map (pp ++ ·)

theorem pathsFrom_nil (pp : List κ) : pathsFrom pp [] = [] := rfl
omit [DecidableEq κ] in
theorem pathsFrom_cons (pp : List κ) (f : κ) (fs : List κ) :
    pathsFrom pp (f :: fs) = (pp ++ [f]) :: pathsFrom (pp ++ [f]) fs := by
  unfold pathsFrom
  simp only [prefixes, List.map_cons, List.map_map]
  congr 1
  apply List.map_congr_left
  intro q _
  simp [Function.comp]

omit [DecidableEq κ] in
theorem prefixes_eq_pathsFrom (fs : List κ) : prefixes fs = pathsFrom [] fs := by
  unfold pathsFrom; simp

theorem treeStep_parent (v : WD) (a : TInner κ) (f : κ) :
    (treeStep v a f).parent = some (ppOf a.parent ++ [f]) := by
  unfold treeStep ppOf; cases a.parent <;> rfl
theorem foldTree_parent (v : WD) (fs : List κ) : ∀ (a : TInner κ),
    (fs.foldl (treeStep v) a).parent = if fs = [] then a.parent else some (ppOf a.parent ++ fs) := by
  induction fs with
  | nil => intro a; simp
  | cons f fs ih =>
    intro a
    rw [List.foldl_cons, ih, treeStep_parent]
    by_cases h : fs = []
    · simp [h]
    · simp [h, ppOf]

omit [DecidableEq κ] in
theorem prefixes_getLast (fs : List κ) : (prefixes fs).getLast? = if fs = [] then none else some fs := by
  induction fs with
  | nil => rfl
  | cons f fs ih =>
    cases fs with
    | nil => rfl
    | cons g r =>
      rw [prefixes, List.getLast?_cons_of_ne_nil (by simp [prefixes]), List.getLast?_map, ih]
      rfl

theorem stepFrame_fresh (K : κ → Bool) (v : WD) (a : Inner κ) (n : κ) (hk : K n = true) (hn : n ∉ a.seenN)
    (he : ∀ p, a.parent = some p → (n, p) ∉ a.seenE ∧ n ≠ p) :
    stepFrame K v a n =
      { g := match a.parent with
          | some p => (a.g.addCum n v).addEdge p n v a.residual
          | none => a.g.addCum n v,
        seenN := n :: a.seenN,
        seenE := match a.parent with
          | some p => (n, p) :: a.seenE
          | none => a.seenE,
        parent := some n, residual := false } := by
  obtain ⟨g, sN, sE, par, res⟩ := a
  cases par with
  | none => simp [stepFrame, hk, show n ∉ sN from hn]
  | some p => simp [stepFrame, hk, show n ∉ sN from hn, he p rfl]

/-- no key seen so far is longer than the parent path -/
def PathInv (a : Inner (List κ)) : Prop :=
  a.residual = false ∧ (∀ q ∈ a.seenN, q.length ≤ (ppOf a.parent).length) ∧
    ∀ e ∈ a.seenE, e.1.length ≤ (ppOf a.parent).length

/-- One frame of the graph walk on the next path key is one frame of the call-tree walk: the key is longer
than every key met before, so it is in neither `seen` set and differs from its parent. -/
theorem stepFrame_path (v : WD) (a : Inner (List κ)) (f : κ) (h : PathInv a) :
    PathInv (stepFrame allKept v a (ppOf a.parent ++ [f])) ∧
    (⟨(stepFrame allKept v a (ppOf a.parent ++ [f])).g, (stepFrame allKept v a (ppOf a.parent ++ [f])).parent⟩ : TInner κ) =
      treeStep v ⟨a.g, a.parent⟩ f := by
  obtain ⟨hr, hN, hE⟩ := h
  have hlen : ∀ {q : List κ}, q.length ≤ (ppOf a.parent).length → q.length ≤ (ppOf a.parent ++ [f]).length :=
    fun h => by rw [List.length_append]; exact Nat.le_succ_of_le h
  have hlt : ¬ (ppOf a.parent ++ [f]).length ≤ (ppOf a.parent).length := by
    rw [List.length_append]; exact Nat.not_succ_le_self _
  rw [stepFrame_fresh allKept v a (ppOf a.parent ++ [f]) rfl (fun h => hlt (hN _ h))
      (fun p hp => ⟨fun h => hlt (hE _ h), fun e => hlt (by rw [e, hp]; exact Nat.le_refl _)⟩)]
  refine ⟨⟨rfl, ?_, ?_⟩, ?_⟩
  · intro q hq
    rcases List.mem_cons.mp hq with rfl | hq
    · exact Nat.le_refl _
    · exact hlen (hN q hq)
  · intro e he
    have : e.1 = ppOf a.parent ++ [f] ∨ e ∈ a.seenE := by
      cases hp : a.parent <;> rw [hp] at he
      · exact Or.inr he
      · exact (List.mem_cons.mp he).imp (fun h => by rw [h]) id
    rcases this with h | h
    · rw [h]; exact Nat.le_refl _
    · exact hlen (hE e h)
  · obtain ⟨g, sN, sE, par, res⟩ := a
    subst hr
    cases par <;> rfl

theorem foldFrames_paths (v : WD) (fs : List κ) : ∀ (a : Inner (List κ)), PathInv a →
    ((pathsFrom (ppOf a.parent) fs).foldl (stepFrame allKept v) a).residual = false ∧
    (⟨((pathsFrom (ppOf a.parent) fs).foldl (stepFrame allKept v) a).g,
      ((pathsFrom (ppOf a.parent) fs).foldl (stepFrame allKept v) a).parent⟩ : TInner κ) =
      fs.foldl (treeStep v) ⟨a.g, a.parent⟩ := by
  induction fs with
  | nil => intro a h; exact ⟨h.1, rfl⟩
  | cons f fs ih =>
    intro a h
    obtain ⟨hinv, hstep⟩ := stepFrame_path v a f h
    have hpar : ppOf (stepFrame allKept v a (ppOf a.parent ++ [f])).parent = ppOf a.parent ++ [f] := by
      rw [show (stepFrame allKept v a (ppOf a.parent ++ [f])).parent = _ from congrArg TInner.parent hstep,
        treeStep_parent]; rfl
    have := ih _ hinv
    rw [hpar, hstep] at this
    rw [pathsFrom_cons]
    exact this

theorem sampleStep_treeSample (g : GState (List κ)) (s : GSample κ) :
    sampleStep allKept g (treeSample s) = treeSampleStep g s := by
  obtain ⟨hr, hg⟩ := foldFrames_paths s.wd s.frames ⟨g, [], [], none, false⟩
    ⟨rfl, fun _ h => (nomatch h), fun _ h => (nomatch h)⟩
  rw [show pathsFrom (ppOf none) s.frames = prefixes s.frames from (prefixes_eq_pathsFrom _).symm] at hr hg
  rw [sampleStep_eq]
  unfold treeSampleStep
  show (if (s.d == 0 && s.w == 0) = true then g else finish s.wd (List.foldl (stepFrame allKept s.wd) _ (prefixes s.frames))) = _
  rw [← hg]
  unfold finish
  rw [hr]
  generalize List.foldl (stepFrame allKept s.wd) _ (prefixes s.frames) = r
  cases r.parent <;> rfl

theorem newTree_eq_newGraph (ss : List (GSample κ)) : newTree ss = newGraph allKept (ss.map treeSample) := by
  unfold newTree newGraph
  rw [List.foldl_map]
  congr 1
  funext g s
  exact (sampleStep_treeSample g s).symm

theorem tree_cum_eq_spec (ss : List (GSample κ)) (n : List κ) :
    (newTree ss).cum n = cumSpec (ss.map treeSample) n := by
  rw [newTree_eq_newGraph, newGraph_cum, cumSpecK_allKept]

theorem tree_flat_eq_spec (ss : List (GSample κ)) (n : List κ) :
    (newTree ss).flat n = flatSpec (ss.map treeSample) n := by
  rw [newTree_eq_newGraph, newGraph_flat, flatSpecK_allKept]

theorem tree_edge_eq_spec (ss : List (GSample κ)) (a b : List κ) :
    (newTree ss).weight a b = edgeSpec (ss.map treeSample) a b := by
  rw [newTree_eq_newGraph, newGraph_weight, edgeSpecK_allKept]
end PV.Graph
