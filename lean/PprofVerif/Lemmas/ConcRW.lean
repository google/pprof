import PprofVerif.Model.Conc
import PprofVerif.Lemmas.ConcList
/-!
The invariant `Inv` of the readers-writer lock (`RW` of `Model/Conc.lean`, `sync.RWMutex`): a writer excludes
everybody, the value with the write in progress finished is that of the whole write log, and every value read is
that of a prefix of the log.  `Inv.set` is the part common to the six kinds of step.
-/
namespace PV.Conc.RW
variable {σ : Type} {x0 : σ} {s s1 s' : State σ} {ts : List (TS σ)} {t t' : TS σ} {i : Nat} {sched : List Nat}

def todoW : TS σ → List (σ → σ)
  | .writing todo _ => todo
  | _ => []

/-- the value once the write in progress (if any) has applied the updates it still has to apply -/
def finish (ts : List (TS σ)) (x : σ) : σ := ts.foldl (fun x t => applyAll (todoW t) x) x

def Excl : List (TS σ) → Prop := PairRel fun ti tj => ti.isWriting = true → tj.isIdle = true

structure Inv (x0 : σ) (s : State σ) : Prop where
  excl : Excl s.ts
  /-- finishing the write in progress yields the value of the whole write log -/
  value : finish s.ts s.val = runWrites s.wlog.reverse x0
  /-- every value read is the value after some prefix of the write log, i.e. after complete writes -/
  reads : ∀ e ∈ s.obs, ∃ k, k ≤ s.wlog.length ∧ e.2 = runWrites (s.wlog.reverse.take k) x0

theorem applyAll_todoW (h : t.isWriting = false) (x : σ) : applyAll (todoW t) x = x := by
  cases t with
  | writing => cases h
  | _ => rfl

theorem idle_not_writing (h : t.isIdle = true) : t.isWriting = false := by
  cases t with
  | idle => rfl
  | _ => cases h

theorem finish_terminated (h : s.terminated = true) : finish s.ts s.val = s.val :=
  foldl_neutral (fun t ht => applyAll_todoW (by
    have := List.all_eq_true.mp h t ht
    cases t with
    | idle => rfl
    | _ => cases this)) _

theorem runWrites_snoc (ws : List (List (σ → σ))) (b : List (σ → σ)) (x : σ) :
    runWrites (ws ++ [b]) x = applyAll b (runWrites ws x) :=
  List.foldl_append ..

theorem Excl.not_writing (he : Excl ts) (hi : ts[i]? = some t) (hn : t.isIdle = false) (j : Nat) (tj : TS σ)
    (hj : ts[j]? = some tj) (hne : j ≠ i) : tj.isWriting = false :=
  Bool.eq_false_iff.mpr fun hw => by rw [he hne hj hi hw] at hn; cases hn

/-- Nobody else is writing, so the updates pending before and after the step are those of `t` and `t'` alone. -/
theorem Inv.set (hinv : Inv x0 s) (hi : s.ts[i]? = some t)
    (hothers : ∀ (j : Nat) (tj : TS σ), s.ts[j]? = some tj → j ≠ i → tj.isWriting = false)
    (hidle : t'.isWriting = true → ∀ (j : Nat) (tj : TS σ), s.ts[j]? = some tj → j ≠ i → tj.isIdle = true)
    {val' : σ} {obs' : List (Nat × σ)} {wlog' : List (List (σ → σ))}
    (hval : applyAll (todoW t) s.val = runWrites s.wlog.reverse x0 →
      applyAll (todoW t') val' = runWrites wlog'.reverse x0)
    (hreads : applyAll (todoW t) s.val = runWrites s.wlog.reverse x0 →
      ∀ e ∈ obs', ∃ k, k ≤ wlog'.length ∧ e.2 = runWrites (wlog'.reverse.take k) x0) :
    Inv x0 ⟨val', s.ts.set i t', obs', wlog'⟩ := by
  have hn : ∀ (j : Nat) (tj : TS σ), s.ts[j]? = some tj → j ≠ i → ∀ x, applyAll (todoW tj) x = x :=
    fun j tj hj hne => applyAll_todoW (hothers j tj hj hne)
  have hv := (foldl_one hi hn s.val).symm.trans hinv.value
  refine ⟨pairRel_set hinv.excl fun j tj hji hj => ⟨fun hw => hidle hw j tj hj hji, fun hw => ?_⟩,
    (foldl_one_set hi hn t' val').trans (hval hv), hreads hv⟩
  rw [hothers j tj hj hji] at hw; cases hw

theorem inv_step (hinv : Inv x0 s) (h : step s i = some s1) : Inv x0 s1 := by
  unfold step at h
  split at h
  · -- Lock: everybody is idle; the new body joins the write log
    next body rest hi =>
    split at h
    · next hall =>
      cases h
      refine hinv.set hi (fun j tj hj _ => idle_not_writing (all_getElem? hall hj))
        (fun _ j tj hj _ => all_getElem? hall hj) (fun hv => ?_) fun _ e he => ?_
      · rw [List.reverse_cons, runWrites_snoc]; exact congrArg _ hv
      · obtain ⟨k, hk, hek⟩ := hinv.reads e he
        refine ⟨k, Nat.le_succ_of_le hk, ?_⟩
        rw [hek, List.reverse_cons, List.take_append_of_le_length (by simpa using hk)]
    · cases h
  · -- RLock: nobody is writing
    next rest hi =>
    split at h
    · next hall =>
      cases h
      exact hinv.set hi (fun j tj hj _ => by simpa using all_getElem? hall hj) (by nofun) id fun _ => hinv.reads
    · cases h
  · -- one update of the writer
    next f todo rest hi =>
    cases h
    exact hinv.set hi (hinv.excl.not_writing hi rfl) (fun _ j tj hj hne => hinv.excl hne.symm hi hj rfl)
      id fun _ => hinv.reads
  · -- Unlock
    next rest hi =>
    cases h
    exact hinv.set hi (hinv.excl.not_writing hi rfl) (by nofun) id fun _ => hinv.reads
  · -- the read itself: nothing is pending, so the value read is that of the whole write log
    next rest hi =>
    cases h
    refine hinv.set hi (hinv.excl.not_writing hi rfl) (by nofun) id fun hv e he => ?_
    rcases List.mem_cons.mp he with rfl | he
    · refine ⟨s.wlog.length, Nat.le_refl _, ?_⟩
      rw [← List.length_reverse, List.take_length]
      exact hv
    · exact hinv.reads e he
  · -- RUnlock
    next rest hi =>
    cases h
    exact hinv.set hi (hinv.excl.not_writing hi rfl) (by nofun) id fun _ => hinv.reads
  · cases h

theorem inv_start (x0 : σ) (prog : List (List (Op σ))) : Inv x0 (start x0 prog) := by
  have hidle : ∀ t ∈ (start x0 prog).ts, t.isWriting = false := fun t ht => by
    obtain ⟨_, _, rfl⟩ := List.mem_map.mp ht; rfl
  refine ⟨fun i j ti tj _ hi _ hw => ?_, foldl_neutral (fun t ht => applyAll_todoW (hidle t ht)) _, nofun⟩
  rw [hidle ti (List.mem_of_getElem? hi)] at hw; cases hw

theorem inv_exec (hinv : Inv x0 s) (h : exec s sched = some s') : Inv x0 s' := by
  induction sched generalizing s with
  | nil => cases h; exact hinv
  | cons i is ih =>
    unfold exec at h
    split at h
    · cases h
    · next s1 hs => exact ih (inv_step hinv hs) h

end PV.Conc.RW
