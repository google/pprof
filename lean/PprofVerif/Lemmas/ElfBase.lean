import PprofVerif.Spec.ElfLoader
/-! Lemmas for C13 (ELF address translation).  `LoaderLayout` is looked at once: its page rounding yields
three linear bounds (`LoaderLayout.bounds`), under which no `uint64` operation on the mapping wraps, so the
tests of `ProgramHeadersForMapping` and `HeaderForFileOffset` become linear inequalities between natural
numbers.  Only `GetBase` itself is a statement about wrap-around arithmetic (`userBase_eq_bias`). -/
namespace PV.Elf

theorem add64_of_lt {a b : Nat} (h : a + b < two64) : add64 a b = a + b := Nat.mod_eq_of_lt h

theorem sub64_of_le {a b : Nat} (hb : b ≤ a) (ha : a < two64) : sub64 a b = a - b := by
  unfold sub64
  rw [Nat.mod_eq_of_lt (by omega : b < two64), show a + (two64 - b) = a - b + two64 by omega,
    Nat.add_mod_right, Nat.mod_eq_of_lt (by omega)]

/-- `a + (b - c)` when only the inner difference wraps. -/
theorem add64_sub64 {a b c : Nat} (hc : c ≤ a + b) (hc' : c < two64) (h : a + b - c < two64) :
    add64 a (sub64 b c) = a + b - c := by
  unfold add64 sub64
  rw [Nat.mod_eq_of_lt hc', Nat.add_mod_mod, show a + (b + (two64 - c)) = a + b - c + two64 by omega,
    Nat.add_mod_right, Nat.mod_eq_of_lt h]

theorem aligned_step {p a b : Nat} (ha : a % p = 0) (hb : b % p = 0) (h : a < b) : a + p ≤ b := by
  obtain ⟨k, rfl⟩ := Nat.dvd_of_mod_eq_zero ha
  obtain ⟨l, rfl⟩ := Nat.dvd_of_mod_eq_zero hb
  have := Nat.mul_le_mul_left p (Nat.succ_le_of_lt (Nat.lt_of_mul_lt_mul_left h))
  rwa [Nat.mul_succ] at this

theorem pageAlign_lt {page : Nat} (hp : 0 < page) (v : Nat) : pageAlign page v < v + page := by
  have := Nat.div_mul_le_self (v + page - 1) page
  unfold pageAlign; omega

variable {page : Nat} {seg : ProgHeader} {B v0 v1 x : Nat} {m : Mapping} {f : File}

theorem LoaderLayout.bounds (h : LoaderLayout page seg B v0 v1 m) :
    seg.vaddr ≤ v0 + seg.vaddr % page ∧ v0 + page ≤ v1 ∧ v1 < seg.vaddr + seg.memsz + page ∧
    seg.off + seg.memsz + page < two64 ∧ B + seg.vaddr + seg.memsz + page < two64 ∧
    m.start = B + v0 ∧ m.limit = B + v1 ∧ m.offset + seg.vaddr = seg.off + v0 := by
  obtain ⟨hp, -, -, hfm, -, -, h0, h1, hlo, hlt, hhi, rest⟩ := h
  exact ⟨Nat.le_add_of_sub_le hlo, aligned_step h0 h1 hlt,
    Nat.lt_of_le_of_lt hhi (Nat.lt_of_lt_of_le (pageAlign_lt hp _)
      (Nat.add_le_add_right (Nat.add_le_add_left hfm _) _)), rest⟩

theorem LoaderLayout.size (h : LoaderLayout page seg B v0 v1 m) : sub64 m.limit m.start = v1 - v0 := by
  obtain ⟨-, h01, hhi, -, hnw', hst, hli, -⟩ := h.bounds
  rw [hst, hli, sub64_of_le (by omega) (by omega), Nat.add_sub_add_left]

theorem userBase_eq_bias (hB : B < two64) :
    userBase seg (add64 B v0) (add64 seg.off (sub64 v0 seg.vaddr)) = B := by
  unfold userBase add64 sub64 two64 at *
  omega

theorem sub64_add64_left (a b : Nat) : sub64 (add64 a b) a = b % two64 := by
  unfold add64 sub64 two64
  omega

theorem kernelBase_user {start limit offset : Nat}
    (h1 : seg.vaddr ≠ sub64 start offset) (hs : start < two63) :
    kernelBase seg none start limit offset = none := by
  unfold kernelBase
  have h3 : ¬ (start ≥ two63 ∧ limit > start ∧ (offset = 0 ∨ offset = pageOffsetPpc64 ∨ offset = start)) := by
    intro h; omega
  simp [h1, h3]

theorem getBase_user {ty limit : Nat}
    (hty : ty = etExec ∨ ty = etDyn)
    (hB : B < two64) (ho : seg.off < two64) (hv : seg.vaddr < two64)
    (hstart : 0 < add64 B v0 ∧ add64 B v0 < two63)
    (hk : ¬ KernelLookalike ty seg B v0) :
    getBase ty (some seg) none (add64 B v0) limit (add64 seg.off (sub64 v0 seg.vaddr)) = .ok B := by
  have hub := userBase_eq_bias (seg := seg) (v0 := v0) hB
  have hne : add64 B v0 ≠ 0 := by omega
  rcases hty with hty | hty
  · subst hty
    simp [getBase, etExec, hne, hstart.1, hstart.2, hub]
  · subst hty
    by_cases hc : seg.vaddr = sub64 (add64 B v0) (add64 seg.off (sub64 v0 seg.vaddr))
    · -- the first kernel heuristic fires and returns the offset: then `B = Off`, so `v0 = Vaddr`
      have hBo : B = seg.off := by
        rw [← hub, userBase, ← hc, sub64_add64_left, Nat.mod_eq_of_lt ho]
      have hv0 : v0 = seg.vaddr := Decidable.byContradiction fun hne' => hk ⟨rfl, hBo, hne'⟩
      have hoff : add64 seg.off (sub64 v0 seg.vaddr) = B := by
        rw [hv0, add64_sub64 (Nat.le_add_left _ _) hv (by omega), Nat.add_sub_cancel, hBo]
      have hkb : kernelBase seg none (add64 B v0) limit (add64 seg.off (sub64 v0 seg.vaddr)) = some B := by
        unfold kernelBase; rw [if_pos hc, hoff]
      simp [getBase, etExec, etRel, etDyn, hne, hkb]
    · have hkb := kernelBase_user (limit := limit) hc hstart.2
      simp [getBase, etExec, etRel, etDyn, hne, hkb, hub]

theorem phfmKeep_of_bounds {p : ProgHeader} {mo ms : Nat}
    (hpt : p.ptype = ptLoad) (hfs : p.filesz ≠ 0) (hnw : p.off + p.memsz + pageSize < two64)
    (h1 : mo < p.off + p.memsz) (h2 : p.off < mo + ms)
    (h3 : p.off ≤ mo + p.vaddr % pageSize) (h4 : mo + ms < p.off + p.memsz + pageSize) :
    phfmKeep mo ms p = true := by
  simp only [phfmKeep, add64_of_lt (by omega : mo + ms < two64),
    add64_of_lt (by omega : p.off + p.memsz < two64), add64_of_lt (by omega : mo + pageSize < two64),
    add64_of_lt hnw, if_neg hfs, hpt, h1, h2, and_self, if_true]
  -- the two `continue`s (elfexec.go:341, :347): mapping before the segment's page; mapping reaching a page
  -- beyond its end
  rw [if_neg (by split <;> omega), if_neg (by omega)]

theorem phfmKeep_of_layout (hL : LoaderLayout 4096 seg B v0 v1 m) :
    phfmKeep m.offset (sub64 m.limit m.start) seg = true := by
  obtain ⟨hlo, h01, hhi, hnw, -, -, -, hof⟩ := hL.bounds
  rw [hL.size]
  exact phfmKeep_of_bounds hL.2.1 (Nat.pos_iff_ne_zero.1 hL.2.2.1) hnw (by omega) (by omega)
    (show seg.off ≤ m.offset + seg.vaddr % 4096 by omega) (show _ < _ + 4096 by omega)

theorem hffoLoop_eq (fo : Nat) (hs : List ProgHeader) (cur : Option ProgHeader) :
    hffoLoop fo hs cur =
      match cur.toList ++ hs.filter (hffoMatch fo) with
      | [] => .err "no program header matches file offset"
      | [h] => .ok h
      | _ :: _ :: _ => .err "found second program header that matches file offset" := by
  induction hs generalizing cur with
  | nil => cases cur <;> rfl
  | cons h t ih =>
    by_cases hm : hffoMatch fo h = true <;> cases cur <;> simp [hffoLoop, hm, ih]

theorem hffo_char (hs : List ProgHeader) (fo : Nat) :
    (∃ h, headerForFileOffset hs fo = .ok h ∧ hs.filter (hffoMatch fo) = [h]) ∨
    (∃ e, headerForFileOffset hs fo = .err e ∧ (hs.filter (hffoMatch fo)).length ≠ 1) := by
  rw [headerForFileOffset, hffoLoop_eq]
  rcases hs.filter (hffoMatch fo) with _ | ⟨a, _ | ⟨b, l⟩⟩
  · exact .inr ⟨_, rfl, by simp⟩
  · exact .inl ⟨a, rfl, rfl⟩
  · exact .inr ⟨_, rfl, by simp⟩

theorem phfmKeep_imp {mo ms : Nat} {p : ProgHeader} (h : phfmKeep mo ms p = true) :
    p.ptype = ptLoad ∧ p.filesz ≠ 0 := by
  unfold phfmKeep at h
  by_cases h0 : p.filesz = 0
  · simp [h0] at h
  · by_cases h1 : p.ptype = ptLoad
    · exact ⟨h1, h0⟩
    · simp [h0, h1] at h

theorem cands_filter_match {mo ms fo : Nat} (hun : OnlyOwner f fo seg) (hkeep : phfmKeep mo ms seg = true) :
    (programHeadersForMapping (f.progs.filter (fun p => p.ptype == ptLoad)) mo ms).filter (hffoMatch fo) = [seg] := by
  -- a kept header is loadable with file content, so the three filters are `OnlyOwner`'s followed by `phfmKeep`
  have key : (fun a => hffoMatch fo a && phfmKeep mo ms a && (a.ptype == ptLoad)) =
      fun a => phfmKeep mo ms a && (a.ptype == ptLoad && decide (a.filesz ≠ 0) && hffoMatch fo a) := by
    funext a
    by_cases hk : phfmKeep mo ms a = true
    · obtain ⟨h1, h2⟩ := phfmKeep_imp hk
      simp [hk, h1, h2]
    · simp [hk]
  unfold programHeadersForMapping
  rw [List.filter_filter, List.filter_filter, key, ← List.filter_filter, hun]
  simp [hkeep]

/-- `addr-m.start+m.offset` (binutils.go:572), the file offset `HeaderForFileOffset` is asked about, is
`Off + (x − (B + Vaddr))`, which lies in the owning segment's `[Off, Off+Memsz)`. -/
theorem hffoMatch_of_layout (hL : LoaderLayout page seg B v0 v1 m) (hx : InSegment seg B m x) :
    hffoMatch (add64 (sub64 x m.start) m.offset) seg = true := by
  obtain ⟨-, -, -, hnw, hnw', hst, -, hof⟩ := hL.bounds
  obtain ⟨hx1, -, hx3, hx4⟩ := hx
  rw [hffoMatch, sub64_of_le hx1 (by omega), add64_of_lt (by omega), add64_of_lt (by omega)]
  simp only [ge_iff_le, Bool.and_eq_true, decide_eq_true_eq]
  omega

theorem findProgramHeader_layout (hmem : seg ∈ f.progs) (hL : LoaderLayout 4096 seg B v0 v1 m) (hu : UserMapping m)
    (hx : InSegment seg B m x) :
    findProgramHeader m f x = .ok (some seg) ∨
      ∃ e, findProgramHeader m f x = .err e ∧ ¬ OnlyOwner f (add64 (sub64 x m.start) m.offset) seg := by
  have hkeep := phfmKeep_of_layout hL
  have hcond : ¬ (m.kernelOffset.isSome ∨ m.start ≥ m.limit ∨ m.limit ≥ two63) := by
    have := hx.1; have := hx.2.1; have := hu.2.2
    simp [hu.1]; omega
  have hin : seg ∈ programHeadersForMapping (f.progs.filter fun p => p.ptype == ptLoad) m.offset
      (sub64 m.limit m.start) :=
    List.mem_filter.2 ⟨List.mem_filter.2 ⟨hmem, by simp [hL.2.1]⟩, hkeep⟩
  unfold findProgramHeader
  rw [if_neg hcond]
  split
  · next h => simp [h, programHeadersForMapping] at hin
  split
  · next h => simp [h] at hin
  · next h => left; simp [h] at hin; rw [hin]
  · rcases hffo_char _ (add64 (sub64 x m.start) m.offset) with ⟨h, hok, hfil⟩ | ⟨e, herr, hlen⟩
    · have := List.mem_filter.2 ⟨hin, hffoMatch_of_layout hL hx⟩
      rw [hfil, List.mem_singleton] at this
      left; rw [hok, this]
    · right; rw [herr]
      exact ⟨e, rfl, fun hun => hlen (by rw [cands_filter_match hun hkeep]; rfl)⟩

theorem getBase_layout {ty : Nat} (hty : ty = etExec ∨ ty = etDyn) (hL : LoaderLayout page seg B v0 v1 m) (hu : UserMapping m)
    (hk : ¬ KernelLookalike ty seg B v0) :
    getBase ty (some seg) m.kernelOffset m.start m.limit m.offset = .ok B := by
  obtain ⟨-, h01, hhi, hnw, hnw', hst, hli, hof⟩ := hL.bounds
  obtain ⟨hko, hs0, hl63⟩ := hu
  have ⟨hB, ho, hv, h1, h2, h3⟩ : B < two64 ∧ seg.off < two64 ∧ seg.vaddr < two64 ∧
      B + v0 < two64 ∧ seg.vaddr ≤ seg.off + v0 ∧ seg.off + v0 - seg.vaddr < two64 := by omega
  have hst' : m.start = add64 B v0 := by rw [hst, add64_of_lt h1]
  have hof' : m.offset = add64 seg.off (sub64 v0 seg.vaddr) := by
    rw [add64_sub64 h2 hv h3]; exact Nat.eq_sub_of_add_eq hof
  rw [hko, hof', hst']
  exact getBase_user hty hB ho hv (by omega) hk

theorem getBase_no_panic {ty : Nat} {seg : Option ProgHeader} {st : Option Nat} {start limit offset : Nat} {e : String} :
    getBase ty seg st start limit offset ≠ .panic e := by
  unfold getBase
  repeat' split
  all_goals simp

theorem headerForFileOffset_no_panic {hs : List ProgHeader} {fo : Nat} {e : String} :
    headerForFileOffset hs fo ≠ .panic e := by
  rcases hffo_char hs fo with ⟨_, h, _⟩ | ⟨_, h, _⟩ <;> simp [h]

theorem findProgramHeader_no_panic {e : String} :
    findProgramHeader m f x ≠ .panic e := by
  unfold findProgramHeader
  split; · simp
  split; · simp
  split; · simp
  · simp
  · split
    · simp
    · simp
    · next h => exact absurd h headerForFileOffset_no_panic

theorem computeBase_no_panic {e : String} : computeBase m f x ≠ .panic e := by
  unfold computeBase
  split; · simp
  split
  · exact getBase_no_panic
  · simp
  · next h => exact absurd h findProgramHeader_no_panic

end PV.Elf
