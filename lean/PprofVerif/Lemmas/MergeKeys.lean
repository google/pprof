import PprofVerif.Model.Merge
import PprofVerif.Lemmas.Field
import Mathlib.Data.List.Basic
/-!
The key encodings of `profile/merge.go` identify what they encode (DESIGN Appendix A.2):
`sampleKey` (varints and length-delimited strings, as repaired) and the `lines` string of
`Location.key` (hex fields joined by `|`, as repaired) are injective, for all inputs.
-/
namespace PV.Merge
open PV.Wire (encodeVarint toU64 InI64 two63 two64 ofNat_toNat_lt)

/-- `enc` is a prefix code on the values satisfying `P`: what follows an encoding cannot be
confused with part of it. -/
def PrefixInjOn {α : Type} (P : α → Prop) (enc : α → Str) : Prop :=
  ∀ a b (r r' : Str), P a → P b → enc a ++ r = enc b ++ r' → a = b ∧ r = r'

theorem encodeVarint_ge {x : Nat} (h : x ≥ 128) :
    encodeVarint x = UInt8.ofNat (x % 128 + 128) :: encodeVarint (x / 128) := by
  rw [encodeVarint]; simp [h]

theorem encodeVarint_lt {x : Nat} (h : x < 128) : encodeVarint x = [UInt8.ofNat x] := by
  rw [encodeVarint]; simp [Nat.not_le.mpr h]

/-- reads one base-128 varint of any length off the front of a string: a left inverse of
`encodeVarint` that returns what follows the encoding. -/
def varintVal : Str → Nat × Str
  | [] => (0, [])
  | b :: r => if b.toNat < 128 then (b.toNat, r) else ((varintVal r).1 * 128 + (b.toNat - 128), (varintVal r).2)

theorem varintVal_encodeVarint (x : Nat) (r : Str) : varintVal (encodeVarint x ++ r) = (x, r) := by
  induction x using PV.Wire.encodeVarint.induct with
  | case1 x hx ih =>
    have hm := Nat.mod_lt x (by decide : 128 > 0)
    rw [encodeVarint_ge hx, List.cons_append, varintVal, ofNat_toNat_lt (Nat.add_lt_add_right hm 128),
      if_neg (Nat.not_lt.mpr (Nat.le_add_left _ _)), ih, Nat.add_sub_cancel, Nat.div_add_mod']
  | case2 x hx =>
    have hx' := Nat.lt_of_not_ge hx
    rw [encodeVarint_lt hx', List.singleton_append, varintVal, ofNat_toNat_lt (by omega), if_pos hx']

/-- base-128 varints are a prefix code — for every natural number, no 2⁶⁴ bound needed. -/
theorem encodeVarint_prefix_inj (x y : Nat) (r r' : Str)
    (h : encodeVarint x ++ r = encodeVarint y ++ r') : x = y ∧ r = r' := by
  have := congrArg varintVal h
  rwa [varintVal_encodeVarint, varintVal_encodeVarint, Prod.mk.injEq] at this

theorem putNumber_prefix_inj : PrefixInjOn (fun _ => True) putNumber := by
  intro a b r r' _ _ h
  exact encodeVarint_prefix_inj a b r r' h

theorem putDelimited_prefix_inj : PrefixInjOn (fun _ => True) putDelimited := by
  intro s t r r' _ _ h
  unfold putDelimited at h
  rw [List.append_assoc, List.append_assoc] at h
  obtain ⟨hl, h2⟩ := putNumber_prefix_inj _ _ _ _ trivial trivial h
  obtain ⟨h3, h4⟩ := List.append_inj h2 hl
  exact ⟨h3, h4⟩

theorem toNat_inj_of_nonneg {a b : Int} (ha : 0 ≤ a) (hb : 0 ≤ b) (h : a.toNat = b.toNat) : a = b := by
  rw [← Int.toNat_of_nonneg ha, h, Int.toNat_of_nonneg hb]

/-- `uint64(v)` loses nothing of an int64: `int64(uint64(v)) = v`. -/
theorem toU64_inj {a b : Int} (ha : InI64 a) (hb : InI64 b) (h : toU64 a = toU64 b) : a = b := by
  rw [← PV.Wire.toI64_toU64 a ha, h, PV.Wire.toI64_toU64 b hb]

theorem putNumberI64_prefix_inj : PrefixInjOn InI64 (fun v => putNumber (toU64 v)) := by
  intro a b r r' ha hb h
  obtain ⟨h1, h2⟩ := putNumber_prefix_inj _ _ _ _ trivial trivial h
  exact ⟨toU64_inj ha hb h1, h2⟩

theorem prefixInj_pair {α β : Type} {P : α → Prop} {Q : β → Prop} {f : α → Str} {g : β → Str}
    (hf : PrefixInjOn P f) (hg : PrefixInjOn Q g) :
    PrefixInjOn (fun ab : α × β => P ab.1 ∧ Q ab.2) (fun ab => f ab.1 ++ g ab.2) := by
  intro a b r r' ha hb h
  simp only [List.append_assoc] at h
  obtain ⟨h1, h2⟩ := hf _ _ _ _ ha.1 hb.1 h
  obtain ⟨h3, h4⟩ := hg _ _ _ _ ha.2 hb.2 h2
  exact ⟨Prod.ext h1 h3, h4⟩

theorem flatMap_prefix_inj {α : Type} {P : α → Prop} {f : α → Str} (hf : PrefixInjOn P f) :
    ∀ (xs ys : List α) (r r' : Str), xs.length = ys.length → (∀ x ∈ xs, P x) → (∀ y ∈ ys, P y) →
      xs.flatMap f ++ r = ys.flatMap f ++ r' → xs = ys ∧ r = r' := by
  intro xs
  induction xs with
  | nil =>
    intro ys r r' hl _ _ h
    cases ys with
    | nil => exact ⟨rfl, h⟩
    | cons => cases hl
  | cons x xs ih =>
    intro ys r r' hl hx hy h
    cases ys with
    | nil => cases hl
    | cons y ys =>
      simp only [List.flatMap_cons, List.append_assoc] at h
      obtain ⟨h1, h2⟩ := hf _ _ _ _ (hx x List.mem_cons_self) (hy y List.mem_cons_self) h
      obtain ⟨h3, h4⟩ := ih ys r r' (Nat.succ.inj hl) (List.forall_mem_cons.mp hx).2
        (List.forall_mem_cons.mp hy).2 h2
      exact ⟨by rw [h1, h3], h4⟩

/-- code words of a prefix code followed by a rest that no code word can begin: the words and the
rest are determined, without knowing how many words there are. -/
theorem flatMap_stop_inj {α : Type} {P : α → Prop} {f : α → Str} (hf : PrefixInjOn P f) {Stop : Str → Prop}
    (hstop : ∀ a s r, P a → Stop r → r ≠ f a ++ s) :
    ∀ (xs ys : List α) (r r' : Str), (∀ x ∈ xs, P x) → (∀ y ∈ ys, P y) → Stop r → Stop r' →
      xs.flatMap f ++ r = ys.flatMap f ++ r' → xs = ys ∧ r = r' := by
  intro xs
  induction xs with
  | nil =>
    intro ys r r' _ hy hr _ h
    cases ys with
    | nil => exact ⟨rfl, h⟩
    | cons y ys => exact absurd (h.trans (List.append_assoc ..)) (hstop y _ r (hy y List.mem_cons_self) hr)
  | cons x xs ih =>
    intro ys r r' hx hy hr hr' h
    cases ys with
    | nil => exact absurd (h.symm.trans (List.append_assoc ..)) (hstop x _ r' (hx x List.mem_cons_self) hr')
    | cons y ys =>
      simp only [List.flatMap_cons, List.append_assoc] at h
      obtain ⟨h1, h2⟩ := hf _ _ _ _ (hx x List.mem_cons_self) (hy y List.mem_cons_self) h
      obtain ⟨h3, h4⟩ := ih ys r r' (List.forall_mem_cons.mp hx).2 (List.forall_mem_cons.mp hy).2 hr hr' h2
      exact ⟨by rw [h1, h3], h4⟩

theorem counted_prefix_inj_right {α : Type} {P : α → Prop} {f : α → Str} (hf : PrefixInjOn P f)
    (xs ys : List α) (r r' : Str) (hx : ∀ x ∈ xs, P x) (hy : ∀ y ∈ ys, P y)
    (h : putNumber xs.length ++ (xs.flatMap f ++ r) = putNumber ys.length ++ (ys.flatMap f ++ r')) :
    xs = ys ∧ r = r' := by
  obtain ⟨hl, h2⟩ := putNumber_prefix_inj _ _ _ _ trivial trivial h
  exact flatMap_prefix_inj hf xs ys r r' hl hx hy h2

theorem counted_prefix_inj {α : Type} {P : α → Prop} {f : α → Str} (hf : PrefixInjOn P f) :
    PrefixInjOn (fun xs : List α => ∀ x ∈ xs, P x) (fun xs => putNumber xs.length ++ xs.flatMap f) := by
  intro xs ys r r' hx hy h
  simp only [List.append_assoc] at h
  exact counted_prefix_inj_right hf xs ys r r' hx hy h

theorem prefixInjOn_mono {α : Type} {P Q : α → Prop} {f : α → Str} (h : PrefixInjOn P f)
    (hq : ∀ a, Q a → P a) : PrefixInjOn Q f :=
  fun a b r r' ha hb he => h a b r r' (hq a ha) (hq b hb) he

theorem putStrLabel_prefix_inj : PrefixInjOn (fun _ => True) putStrLabel := by
  have h := prefixInj_pair putDelimited_prefix_inj (counted_prefix_inj putDelimited_prefix_inj)
  intro a b r r' _ _ he
  exact h a b r r' ⟨trivial, fun _ _ => trivial⟩ ⟨trivial, fun _ _ => trivial⟩
    (by simpa [putStrLabel, List.append_assoc] using he)

theorem putNumLabel_prefix_inj :
    PrefixInjOn (fun kvu : Str × (List Int × List Str) => ∀ v ∈ kvu.2.1, InI64 v) putNumLabel := by
  have h := prefixInj_pair putDelimited_prefix_inj
    (prefixInj_pair (counted_prefix_inj putNumberI64_prefix_inj) (counted_prefix_inj putDelimited_prefix_inj))
  intro a b r r' ha hb he
  exact h a b r r' ⟨trivial, ha, fun _ _ => trivial⟩ ⟨trivial, hb, fun _ _ => trivial⟩
    (by simpa [putNumLabel, List.append_assoc] using he)

theorem putNumber_zero : putNumber 0 = [0] := by
  unfold putNumber; rw [encodeVarint_lt (by omega)]; rfl

/-- the location section: non-zero ids closed by a `0`. -/
theorem locIDs_prefix_inj (xs ys : List Nat) (r r' : Str) (hx : ∀ x ∈ xs, x ≠ 0) (hy : ∀ y ∈ ys, y ≠ 0)
    (h : xs.flatMap putNumber ++ (putNumber 0 ++ r) = ys.flatMap putNumber ++ (putNumber 0 ++ r')) :
    xs = ys ∧ r = r' := by
  obtain ⟨h1, h2⟩ := flatMap_stop_inj (P := (· ≠ 0)) (Stop := fun r => ∃ s, r = putNumber 0 ++ s)
    (prefixInjOn_mono putNumber_prefix_inj fun _ _ => trivial)
    (fun a s r ha ⟨s0, hr⟩ h => ha (encodeVarint_prefix_inj _ _ _ _ (hr ▸ h)).1.symm)
    xs ys _ _ hx hy ⟨r, rfl⟩ ⟨r', rfl⟩ h
  exact ⟨h1, (encodeVarint_prefix_inj _ _ _ _ h2).2⟩

theorem labelsWithUnits_length (nl : List (Str × List Int)) (nu : List (Str × List Str)) :
    (labelsWithUnits nl nu).length = nl.length := by simp [labelsWithUnits]

theorem labelsWithUnits_InI64 (nl : List (Str × List Int)) (nu : List (Str × List Str))
    (h : ∀ kv ∈ nl, ∀ v ∈ kv.2, InI64 v) : ∀ kvu ∈ labelsWithUnits nl nu, ∀ v ∈ kvu.2.1, InI64 v := by
  intro kvu hk
  obtain ⟨kv, hkv, rfl⟩ := List.mem_map.mp hk
  exact h kv hkv

theorem sampleKey_inj (a b : Sample) (ha : ∀ id ∈ a.locationIDs, id ≠ 0) (hb : ∀ id ∈ b.locationIDs, id ≠ 0)
    (hna : ∀ kv ∈ a.numLabel, ∀ v ∈ kv.2, InI64 v) (hnb : ∀ kv ∈ b.numLabel, ∀ v ∈ kv.2, InI64 v)
    (h : sampleKey a = sampleKey b) :
    a.locationIDs = b.locationIDs ∧ a.label = b.label ∧
      labelsWithUnits a.numLabel a.numUnit = labelsWithUnits b.numLabel b.numUnit := by
  unfold sampleKey at h
  rw [← labelsWithUnits_length a.numLabel a.numUnit, ← labelsWithUnits_length b.numLabel b.numUnit] at h
  simp only [List.append_assoc] at h
  obtain ⟨h1, h2⟩ := locIDs_prefix_inj _ _ _ _ ha hb h
  obtain ⟨h3, h4⟩ := counted_prefix_inj_right putStrLabel_prefix_inj a.label b.label _ _
    (fun _ _ => trivial) (fun _ _ => trivial) h2
  have h5 := counted_prefix_inj_right putNumLabel_prefix_inj (labelsWithUnits a.numLabel a.numUnit)
    (labelsWithUnits b.numLabel b.numUnit) [] []
    (labelsWithUnits_InI64 _ _ hna) (labelsWithUnits_InI64 _ _ hnb) (by simpa using h4)
  exact ⟨h1, h3, h5.1⟩

def hexDigitVal (c : UInt8) : Nat := if c.toNat < 58 then c.toNat - 48 else c.toNat - 87

theorem hexDigitB_spec : ∀ d < 16, hexDigitVal (hexDigitB d) = d ∧ hexDigitB d ≠ 0x7c ∧ hexDigitB d ≠ 0x2d := by
  decide

theorem hexNat_lt {n : Nat} (h : n < 16) : hexNat n = [hexDigitB n] := by
  rw [hexNat]; simp [h]

theorem hexNat_ge {n : Nat} (h : ¬ n < 16) : hexNat n = hexNat (n / 16) ++ [hexDigitB (n % 16)] := by
  rw [hexNat]; simp [h]

theorem hexNat_ne_nil (n : Nat) : hexNat n ≠ [] := by
  by_cases h : n < 16
  · rw [hexNat_lt h]; simp
  · rw [hexNat_ge h]; simp

theorem hexNat_digits (n : Nat) : ∀ c ∈ hexNat n, c ≠ 0x7c ∧ c ≠ 0x2d := by
  induction n using hexNat.induct with
  | case1 n h =>
    intro c hc
    rw [hexNat_lt h, List.mem_singleton] at hc
    exact hc ▸ (hexDigitB_spec n h).2
  | case2 n h ih =>
    intro c hc
    rw [hexNat_ge h, List.mem_append, List.mem_singleton] at hc
    exact hc.elim (ih c) fun hc => hc ▸ (hexDigitB_spec _ (Nat.mod_lt n (by decide))).2

/-- value of a string of hex digits, most significant first: a left inverse of `hexNat`. -/
def hexVal (s : Str) : Nat := s.foldl (fun a c => 16 * a + hexDigitVal c) 0

theorem hexVal_hexNat (n : Nat) : hexVal (hexNat n) = n := by
  induction n using hexNat.induct with
  | case1 n h =>
    rw [hexNat_lt h, hexVal, List.foldl_cons, List.foldl_nil, (hexDigitB_spec n h).1, Nat.mul_zero, Nat.zero_add]
  | case2 n h ih =>
    rw [hexVal] at ih
    rw [hexNat_ge h, hexVal, List.foldl_append, ih, List.foldl_cons, List.foldl_nil,
      (hexDigitB_spec _ (Nat.mod_lt n (by decide))).1, Nat.div_add_mod]

theorem hexNat_inj (a b : Nat) (h : hexNat a = hexNat b) : a = b := by
  rw [← hexVal_hexNat a, h, hexVal_hexNat]

theorem fmtInt_ne_nil (x : Int) : fmtInt x ≠ [] := by
  unfold fmtInt; split
  · simp
  · exact hexNat_ne_nil _

theorem fmtInt_no_sep (x : Int) : ∀ c ∈ fmtInt x, c ≠ 0x7c := by
  intro c hc
  unfold fmtInt at hc
  split at hc
  · rcases List.mem_cons.mp hc with rfl | hc
    · decide
    · exact (hexNat_digits _ c hc).1
  · exact (hexNat_digits _ c hc).1

/-- the sign can be read off the first byte: `-` is not a hex digit. -/
theorem fmtInt_head (x : Int) : (fmtInt x).head? = some 0x2d ↔ x < 0 := by
  unfold fmtInt
  split
  · simpa
  · rename_i hx
    refine iff_of_false (fun h => ?_) hx
    exact (hexNat_digits _ _ (List.mem_of_mem_head? (Option.mem_def.mpr h))).2 rfl

theorem fmtInt_inj (a b : Int) (h : fmtInt a = fmtInt b) : a = b := by
  have hs : a < 0 ↔ b < 0 := by rw [← fmtInt_head, h, fmtInt_head]
  unfold fmtInt at h
  by_cases ha : a < 0
  · have hb := hs.mp ha
    rw [if_pos ha, if_pos hb, List.cons.injEq] at h
    exact Int.neg_inj.mp (toNat_inj_of_nonneg (Int.neg_nonneg_of_nonpos (Int.le_of_lt ha))
      (Int.neg_nonneg_of_nonpos (Int.le_of_lt hb)) (hexNat_inj _ _ h.2))
  · have hb := mt hs.mpr ha
    rw [if_neg ha, if_neg hb] at h
    exact toNat_inj_of_nonneg (Int.not_lt.mp ha) (Int.not_lt.mp hb) (hexNat_inj _ _ h)

theorem sepfree_prefix_inj (sep : UInt8) : PrefixInjOn (fun x : Str => sep ∉ x) (· ++ [sep]) := by
  intro x
  induction x with
  | nil =>
    intro y r r' _ hy h
    cases y with
    | nil => exact ⟨rfl, (List.cons.inj h).2⟩
    | cons c y => exact absurd ((List.cons.inj h).1 ▸ List.mem_cons_self) hy
  | cons a x ih =>
    intro y r r' hx hy h
    cases y with
    | nil => exact absurd ((List.cons.inj h).1 ▸ List.mem_cons_self) hx
    | cons c y =>
      obtain ⟨h1, h2⟩ := List.cons.inj h
      obtain ⟨h3, h4⟩ := ih y r r' (fun hm => hx (List.mem_cons_of_mem _ hm))
        (fun hm => hy (List.mem_cons_of_mem _ hm)) h2
      exact ⟨by rw [h1, h3], h4⟩

theorem joinSep_snoc (sep : UInt8) : ∀ (xs : List Str), xs ≠ [] →
    joinSep sep xs ++ [sep] = xs.flatMap (· ++ [sep])
  | [], h => absurd rfl h
  | [x], _ => by simp [joinSep]
  | x :: y :: r, _ => by
    rw [joinSep, List.flatMap_cons, ← joinSep_snoc sep (y :: r) (by simp)]; simp

theorem joinSep_eq_nil (sep : UInt8) : ∀ (xs : List Str), xs.length ≠ 1 → joinSep sep xs = [] → xs = []
  | [], _, _ => rfl
  | [_], h, _ => absurd rfl h
  | _ :: _ :: _, _, h => by simp [joinSep] at h

/-- `strings.Join` of separator-free fields is injective (apart from `[]` vs `[""]`). -/
theorem joinSep_inj (sep : UInt8) (xs ys : List Str) (hx : ∀ x ∈ xs, sep ∉ x) (hy : ∀ y ∈ ys, sep ∉ y)
    (hx1 : xs.length ≠ 1) (hy1 : ys.length ≠ 1) (h : joinSep sep xs = joinSep sep ys) : xs = ys := by
  by_cases hxn : xs = []
  · subst hxn; exact (joinSep_eq_nil sep ys hy1 h.symm).symm
  by_cases hyn : ys = []
  · subst hyn; exact joinSep_eq_nil sep xs hx1 h
  refine (flatMap_stop_inj (sepfree_prefix_inj sep) (Stop := (· = []))
    (fun a s r _ hr h => by simp [hr] at h) xs ys [] [] hx hy rfl rfl ?_).1
  rw [List.append_nil, List.append_nil, ← joinSep_snoc sep xs hxn, ← joinSep_snoc sep ys hyn, h]

theorem lineFields_sepfree (ln : Line) : ∀ f ∈ lineFields ln, (0x7c : UInt8) ∉ f := by
  intro f hf
  simp only [lineFields, List.mem_cons, List.mem_nil_iff, or_false] at hf
  rcases hf with rfl | rfl | rfl
  · split
    · simp
    · intro hm; exact (hexNat_digits _ _ hm).1 rfl
  · intro hm; exact fmtInt_no_sep _ _ hm rfl
  · intro hm; exact fmtInt_no_sep _ _ hm rfl

theorem lineFields_inj (a b : Line) (h : lineFields a = lineFields b) : a = b := by
  simp only [lineFields, List.cons.injEq, and_true] at h
  obtain ⟨h1, h2, h3⟩ := h
  -- the function slot (empty for a nil function) still has its id as value
  have hv : ∀ n, hexVal (if n = 0 then [] else hexNat n) = n := fun n => by
    split
    · exact Eq.symm ‹n = 0›
    · exact hexVal_hexNat n
  have hf := congrArg hexVal h1
  rw [hv, hv] at hf
  cases a; cases b
  simp only [Line.mk.injEq]
  exact ⟨hf, fmtInt_inj _ _ h2, fmtInt_inj _ _ h3⟩

theorem flatMap_lineFields_inj : ∀ (a b : List Line), a.flatMap lineFields = b.flatMap lineFields → a = b := by
  intro a
  induction a with
  | nil => intro b h; cases b with
    | nil => rfl
    | cons => cases h
  | cons x xs ih => intro b h; cases b with
    | nil => cases h
    | cons y ys =>
      rw [List.flatMap_cons, List.flatMap_cons] at h
      obtain ⟨h1, h2⟩ := List.append_inj h (rfl : (lineFields x).length = (lineFields y).length)
      rw [lineFields_inj x y h1, ih ys h2]

theorem flatMap_lineFields_length (a : List Line) : (a.flatMap lineFields).length = 3 * a.length := by
  induction a with
  | nil => rfl
  | cons x xs ih => rw [List.flatMap_cons, List.length_append, ih, List.length_cons, Nat.mul_succ, Nat.add_comm]; rfl

theorem linesKey_inj (a b : List Line) (h : linesKey a = linesKey b) : a = b := by
  have hsep : ∀ l : List Line, ∀ f ∈ l.flatMap lineFields, (0x7c : UInt8) ∉ f := fun l f hf => by
    obtain ⟨ln, _, hfl⟩ := List.mem_flatMap.mp hf
    exact lineFields_sepfree ln f hfl
  have hlen : ∀ l : List Line, (l.flatMap lineFields).length ≠ 1 := fun l => by
    rw [flatMap_lineFields_length]; omega
  exact flatMap_lineFields_inj a b (joinSep_inj 0x7c _ _ (hsep a) (hsep b) (hlen a) (hlen b) h)

theorem locationKey_inj (ms ms' : Nat) (l l' : Location) (h : locationKey ms l = locationKey ms' l') :
    l.mappingID = l'.mappingID ∧ l.lines = l'.lines ∧ l.isFolded = l'.isFolded ∧
      (if l.mappingID = 0 then l.address else subU64 l.address ms) =
        (if l'.mappingID = 0 then l'.address else subU64 l'.address ms') := by
  unfold locationKey at h
  simp only [LocationKey.mk.injEq] at h
  exact ⟨h.2.1, linesKey_inj _ _ h.2.2.1, h.2.2.2, h.1⟩

end PV.Merge
