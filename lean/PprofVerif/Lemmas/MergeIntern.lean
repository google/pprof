import PprofVerif.Model.Merge
import Mathlib.Data.List.Basic
/-!
Interning lemma bundle (DESIGN Appendix A.1) for the generic memo-table functions of
`Model/Merge.lean`: `pos`, `internStep`, `internBy`, `idOf`, `entryOf`, `renum`.
-/
namespace PV.Merge

section Pos
variable {κ : Type} [DecidableEq κ]

/-- `pos` is the library's `List.idxOf`; its properties are taken from there. -/
theorem pos_eq_idxOf (k : κ) (ks : List κ) : pos k ks = ks.idxOf k := by
  induction ks with
  | nil => rfl
  | cons x xs ih =>
    by_cases h : x = k
    · rw [pos, if_pos h, List.idxOf_cons_eq _ h]
    · rw [pos, if_neg h, List.idxOf_cons_ne _ h, ih]

theorem pos_le (k : κ) (ks : List κ) : pos k ks ≤ ks.length :=
  pos_eq_idxOf k ks ▸ List.idxOf_le_length

theorem pos_lt_iff (k : κ) (ks : List κ) : pos k ks < ks.length ↔ k ∈ ks :=
  pos_eq_idxOf k ks ▸ List.idxOf_lt_length_iff

theorem pos_eq_length_of_not_mem {k : κ} {ks : List κ} (h : k ∉ ks) : pos k ks = ks.length :=
  pos_eq_idxOf k ks ▸ List.idxOf_eq_length h

theorem getElem?_pos {k : κ} {ks : List κ} (h : k ∈ ks) : ks[pos k ks]? = some k :=
  pos_eq_idxOf k ks ▸ List.getElem?_idxOf h

theorem pos_inj {k1 k2 : κ} {ks : List κ} (h1 : k1 ∈ ks) (h : pos k1 ks = pos k2 ks) : k1 = k2 :=
  (List.idxOf_inj h1).mp (pos_eq_idxOf k1 ks ▸ pos_eq_idxOf k2 ks ▸ h)

theorem pos_append_left {k : κ} {ks : List κ} (l : List κ) (h : k ∈ ks) : pos k (ks ++ l) = pos k ks := by
  rw [pos_eq_idxOf, pos_eq_idxOf, List.idxOf_append_of_mem h]

theorem pos_of_getElem? {k : κ} {ks : List κ} (hn : ks.Nodup) {i : Nat} (h : ks[i]? = some k) :
    pos k ks = i := by
  obtain ⟨hi, rfl⟩ := List.getElem?_eq_some_iff.mp h
  rw [pos_eq_idxOf, hn.idxOf_getElem]
end Pos

section Intern
variable {ε κ : Type} [DecidableEq κ] (key : ε → κ)

theorem internStep_prefix (tab : List ε) (e : ε) : ∃ l, internStep key tab e = tab ++ l := by
  unfold internStep; split
  · exact ⟨[], by simp⟩
  · exact ⟨[e], rfl⟩

theorem internStep_keys_nodup (tab : List ε) (e : ε) (h : (tab.map key).Nodup) :
    ((internStep key tab e).map key).Nodup := by
  unfold internStep; split
  · exact h
  · rename_i hn
    rw [List.map_append, List.map_singleton, List.nodup_append]
    exact ⟨h, List.pairwise_singleton _ _, fun a ha b hb hab => hn (List.mem_singleton.mp hb ▸ hab ▸ ha)⟩

theorem mem_internStep_keys (tab : List ε) (e : ε) (k : κ) :
    k ∈ (internStep key tab e).map key ↔ k ∈ tab.map key ∨ k = key e := by
  unfold internStep; split
  · rename_i h
    exact ⟨Or.inl, fun hk => hk.elim id (· ▸ h)⟩
  · rw [List.map_append, List.mem_append, List.map_singleton, List.mem_singleton]

theorem mem_internStep (tab : List ε) (e x : ε) : x ∈ internStep key tab e → x ∈ tab ∨ x = e := by
  unfold internStep; split
  · intro h; exact Or.inl h
  · intro h; simpa using h

theorem foldl_internStep_prefix (es : List ε) (acc : List ε) :
    ∃ l, es.foldl (internStep key) acc = acc ++ l := by
  induction es generalizing acc with
  | nil => exact ⟨[], by simp⟩
  | cons e es ih =>
    obtain ⟨l1, h1⟩ := internStep_prefix key acc e
    obtain ⟨l2, h2⟩ := ih (internStep key acc e)
    exact ⟨l1 ++ l2, by rw [List.foldl_cons, h2, h1, List.append_assoc]⟩

theorem foldl_internStep_keys_nodup (es : List ε) (acc : List ε) (h : (acc.map key).Nodup) :
    ((es.foldl (internStep key) acc).map key).Nodup := by
  induction es generalizing acc with
  | nil => exact h
  | cons e es ih => exact ih _ (internStep_keys_nodup key acc e h)

theorem mem_foldl_internStep_keys (es : List ε) (acc : List ε) (k : κ) :
    k ∈ (es.foldl (internStep key) acc).map key ↔ k ∈ acc.map key ∨ k ∈ es.map key := by
  induction es generalizing acc with
  | nil => simp
  | cons e es ih =>
    rw [List.foldl_cons, ih, mem_internStep_keys, List.map_cons, List.mem_cons, or_assoc]

theorem mem_foldl_internStep (es : List ε) (acc : List ε) (x : ε) :
    x ∈ es.foldl (internStep key) acc → x ∈ acc ∨ x ∈ es := by
  induction es generalizing acc with
  | nil => intro h; exact Or.inl h
  | cons e es ih =>
    intro h
    exact (ih _ h).elim (fun h1 => (mem_internStep key acc e x h1).imp id fun (h2 : x = e) => h2 ▸ List.mem_cons_self)
      fun h1 => .inr (List.mem_cons_of_mem _ h1)

theorem internBy_keys_nodup (es : List ε) : ((internBy key es).map key).Nodup :=
  foldl_internStep_keys_nodup key es [] List.nodup_nil

theorem mem_internBy_keys (es : List ε) (k : κ) : k ∈ (internBy key es).map key ↔ k ∈ es.map key := by
  unfold internBy; rw [mem_foldl_internStep_keys]; simp

theorem mem_internBy (es : List ε) (x : ε) : x ∈ internBy key es → x ∈ es :=
  fun h => (mem_foldl_internStep key es [] x h).resolve_left List.not_mem_nil

theorem idOf_pos (tab : List ε) (k : κ) : 1 ≤ idOf key tab k := by unfold idOf; omega

theorem idOf_ne_zero (tab : List ε) (k : κ) : idOf key tab k ≠ 0 := Nat.succ_ne_zero _

theorem idOf_le (tab : List ε) (k : κ) (h : k ∈ tab.map key) : idOf key tab k ≤ tab.length := by
  unfold idOf
  have := (pos_lt_iff k (tab.map key)).mpr h
  simp at this; omega

theorem idOf_inj (tab : List ε) {k1 k2 : κ} (h1 : k1 ∈ tab.map key)
    (h : idOf key tab k1 = idOf key tab k2) : k1 = k2 := by
  unfold idOf at h
  exact pos_inj h1 (by omega)

theorem entryOf_eq_getElem? (tab : List ε) (k : κ) (h : k ∈ tab.map key) :
    entryOf key tab k = tab[pos k (tab.map key)]? := by
  induction tab with
  | nil => simp at h
  | cons x xs ih =>
    simp only [entryOf, List.find?_cons, List.map_cons, pos]
    by_cases hx : key x = k
    · simp [hx]
    · simp only [hx, decide_false, if_false, List.getElem?_cons_succ]
      exact ih ((List.mem_cons.mp h).resolve_left (Ne.symm hx))

theorem entryOf_spec (tab : List ε) (k : κ) (h : k ∈ tab.map key) :
    ∃ e, entryOf key tab k = some e ∧ key e = k ∧ e ∈ tab ∧ tab[idOf key tab k - 1]? = some e := by
  have he := entryOf_eq_getElem? key tab k h
  have hk := getElem?_pos h
  rw [List.getElem?_map] at hk
  cases hg : tab[pos k (tab.map key)]? with
  | none => rw [hg] at hk; simp at hk
  | some e =>
    rw [hg] at hk he
    simp only [Option.map_some, Option.some.injEq] at hk
    refine ⟨e, he, hk, List.mem_of_getElem? hg, ?_⟩
    unfold idOf; simpa using hg

theorem find?_internStep (acc : List ε) (e : ε) (k : κ) :
    (internStep key acc e).find? (fun e => decide (key e = k)) =
      (acc.find? (fun e => decide (key e = k))).or ([e].find? (fun e => decide (key e = k))) := by
  unfold internStep; split
  · rename_i hin
    by_cases hk : key e = k
    · -- `acc` already has an entry under `k`
      obtain ⟨a, ha, hka⟩ := List.mem_map.mp hin
      obtain ⟨x, hx⟩ := Option.isSome_iff_exists.mp (List.find?_isSome
        (p := fun e => decide (key e = k)).mpr ⟨a, ha, decide_eq_true (hka.trans hk)⟩)
      rw [hx]; rfl
    · simp [hk]
  · exact List.find?_append

theorem find?_foldl_internStep (es acc : List ε) (k : κ) :
    (es.foldl (internStep key) acc).find? (fun e => decide (key e = k)) =
      (acc.find? (fun e => decide (key e = k))).or (es.find? (fun e => decide (key e = k))) := by
  induction es generalizing acc with
  | nil => simp
  | cons e es ih => rw [List.foldl_cons, ih, find?_internStep, Option.or_assoc, ← List.find?_append]; rfl

theorem entryOf_internBy (es : List ε) (k : κ) :
    entryOf key (internBy key es) k = es.find? (fun e => decide (key e = k)) := by
  unfold entryOf internBy
  rw [find?_foldl_internStep]; simp
end Intern

section Renum
variable {ε : Type} (setId : ε → Nat → ε)

theorem renum_length (n : Nat) (tab : List ε) : (renum setId n tab).length = tab.length := by
  induction tab generalizing n with
  | nil => rfl
  | cons e es ih => simp [renum, ih]

theorem renum_getElem? (n : Nat) (tab : List ε) (i : Nat) :
    (renum setId n tab)[i]? = (tab[i]?).map (fun e => setId e (n + i)) := by
  induction tab generalizing n i with
  | nil => simp [renum]
  | cons e es ih =>
    cases i with
    | zero => simp [renum]
    | succ j =>
      simp only [renum, List.getElem?_cons_succ]
      rw [ih, Nat.add_assoc, Nat.add_comm 1 j]

theorem renum_map {β : Type} (f : ε → β) (hf : ∀ e n, f (setId e n) = f e) (n : Nat) (tab : List ε) :
    (renum setId n tab).map f = tab.map f := by
  induction tab generalizing n with
  | nil => rfl
  | cons e es ih => simp [renum, hf, ih]

theorem mem_renum {n : Nat} {tab : List ε} {x : ε} (h : x ∈ renum setId n tab) :
    ∃ e ∈ tab, ∃ i, x = setId e i := by
  obtain ⟨i, hi⟩ := List.mem_iff_getElem?.mp h
  rw [renum_getElem?, Option.map_eq_some_iff] at hi
  obtain ⟨e, he, rfl⟩ := hi
  exact ⟨e, List.mem_of_getElem? he, _, rfl⟩

theorem renum_renum (h : ∀ e a b, setId (setId e a) b = setId e b) (n m : Nat) (tab : List ε) :
    renum setId n (renum setId m tab) = renum setId n tab := by
  induction tab generalizing n m with
  | nil => rfl
  | cons e es ih => simp only [renum, h, ih]

/-! the entries carry their id: `getId` reads what `setId` wrote -/
variable (getId : ε → Nat) (hget : ∀ e n, getId (setId e n) = n)
include hget

theorem renum_ids (n : Nat) (tab : List ε) :
    (renum setId n tab).map getId = List.range' n tab.length := by
  induction tab generalizing n with
  | nil => rfl
  | cons e es ih => simp [renum, hget, ih, List.range'_succ]

theorem renum_idsNodup (tab : List ε) :
    idsNodup ((renum setId 1 tab).map getId) := by
  rw [renum_ids setId getId hget]
  unfold idsNodup
  rw [decide_eq_true_eq]
  exact ⟨List.nodup_range', by rw [List.mem_range'_1]; omega⟩

theorem renum_any_id {tab : List ε} {id : Nat} (h1 : 1 ≤ id) (h2 : id ≤ tab.length) :
    (renum setId 1 tab).any (fun x => getId x == id) = true := by
  have : id ∈ (renum setId 1 tab).map getId := by
    rw [renum_ids setId getId hget, List.mem_range'_1]
    omega
  obtain ⟨x, hx, hxid⟩ := List.mem_map.mp this
  exact List.any_eq_true.mpr ⟨x, hx, by simp [hxid]⟩

/-- `entries[i].id = i+1`: finding by id in the renumbered table returns the entry at that index. -/
theorem find?_renum (n : Nat) (tab : List ε) (i : Nat) (e : ε) (h : tab[i]? = some e) :
    (renum setId n tab).find? (fun x => getId x == n + i) = some (setId e (n + i)) := by
  induction tab generalizing n i with
  | nil => simp at h
  | cons x xs ih =>
    cases i with
    | zero =>
      obtain rfl : x = e := Option.some.inj h
      simp [renum, hget]
    | succ j =>
      -- the head carries the id `n`, not `n + (j + 1)`
      rw [renum, List.find?_cons_of_neg (by simp [hget]), show n + (j + 1) = n + 1 + j by omega]
      exact ih (n + 1) j h

theorem find?_renum_one (tab : List ε) {id : Nat} (hid : 1 ≤ id) {e : ε} (h : tab[id - 1]? = some e) :
    (renum setId 1 tab).find? (fun x => getId x == id) = some (setId e id) := by
  have := find?_renum setId getId hget 1 tab (id - 1) e h
  rwa [Nat.add_sub_cancel' hid] at this

end Renum

section OutEnt
variable {ε κ : Type} [DecidableEq κ] (key : ε → κ) (setId : ε → Nat → ε)

/-- the entry of `renum setId 1 tab` that `e` is mapped to: the first entity interned under the
key of `e` (`pm.functions[f.key()]`, `pm.mappings[m.key()]`), carrying the id of that key. -/
def outEnt (tab : List ε) (e : ε) : ε :=
  setId ((entryOf key tab (key e)).getD e) (idOf key tab (key e))

variable {key setId} {tab : List ε} {e : ε}

theorem outEnt_getElem? (hk : key e ∈ tab.map key) :
    (renum setId 1 tab)[idOf key tab (key e) - 1]? = some (outEnt key setId tab e) := by
  obtain ⟨e0, he, _, _, hget⟩ := entryOf_spec key tab (key e) hk
  rw [renum_getElem?, hget, outEnt, he, Nat.add_sub_cancel' (idOf_pos key tab (key e))]
  rfl

theorem outEnt_mem (hk : key e ∈ tab.map key) : outEnt key setId tab e ∈ renum setId 1 tab :=
  List.mem_of_getElem? (outEnt_getElem? hk)

theorem find?_outEnt (getId : ε → Nat) (hget : ∀ e n, getId (setId e n) = n) (hk : key e ∈ tab.map key) :
    (renum setId 1 tab).find? (fun x => getId x == idOf key tab (key e)) = some (outEnt key setId tab e) := by
  obtain ⟨e0, he, _, _, hg⟩ := entryOf_spec key tab (key e) hk
  rw [find?_renum_one setId getId hget tab (idOf_pos key tab (key e)) hg, outEnt, he]
  rfl

variable (hkey : ∀ e n, key (setId e n) = key e)
include hkey

theorem outEnt_key (hk : key e ∈ tab.map key) : key (outEnt key setId tab e) = key e := by
  obtain ⟨e0, he, hk0, _, _⟩ := entryOf_spec key tab (key e) hk
  rw [outEnt, he, hkey]; exact hk0

theorem idOf_renum (tab : List ε) (k : κ) : idOf key (renum setId 1 tab) k = idOf key tab k := by
  unfold idOf; rw [renum_map setId key hkey]

end OutEnt

end PV.Merge
