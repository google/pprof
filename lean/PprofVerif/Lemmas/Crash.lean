import PprofVerif.Model.Crash
import PprofVerif.Lemmas.OutcomeSafe
/-!
Lemmas for C09 (no panic in the modelled decision logic).  Every proof follows the code: a
checked access is shown to be inside its bounds where it stands (`Safe.idx`, `Safe.idxInt`, `sliceTo_ok`,
`sliceFrom_ok`), and the fact is carried along `>>=` and through `if` by `NoPanic.bind`/`Safe.bind` and
`NoPanic.ite`/`Safe.ite`.  `Safe x P` (`Lemmas/OutcomeSafe.lean`) adds to "no panic" what is known of the value
returned, for the accesses that depend on it; `NoPanic.safe` and `Safe.noPanic` pass between the two forms.
-/
namespace PV.Crash
open PV
open PV.Outcome (Safe)

def NoPanic {α} (x : Outcome α) : Prop := ∀ site, x ≠ .panic site

variable {α β : Type} {P : α → Prop} {Q : β → Prop}

theorem NoPanic.ok {a : α} : NoPanic (Outcome.ok a) := fun _ => nofun

theorem NoPanic.err {e : String} : NoPanic (Outcome.err e : Outcome α) := fun _ => nofun

theorem NoPanic.bind {x : Outcome α} {f : α → Outcome β}
    (hx : NoPanic x) (hf : ∀ a, NoPanic (f a)) : NoPanic (x >>= f) := by
  cases x with
  | ok a => exact hf a
  | err e => exact NoPanic.err
  | panic s => exact absurd rfl (hx s)

theorem NoPanic.ite {c : Prop} [Decidable c] {x y : Outcome α} (hx : c → NoPanic x) (hy : ¬c → NoPanic y) :
    NoPanic (if c then x else y) := by
  by_cases h : c
  · rw [if_pos h]; exact hx h
  · rw [if_neg h]; exact hy h

theorem NoPanic.ite_pure {c : Prop} [Decidable c] {a b : α} : NoPanic (if c then (Pure.pure a : Outcome α) else Pure.pure b) :=
  NoPanic.ite (fun _ => NoPanic.ok) fun _ => NoPanic.ok

theorem NoPanic.safe {x : Outcome α} (h : NoPanic x) : Safe x fun _ => True := .intro h fun _ _ => trivial

/-- at the trivial postcondition only, so that applying it fixes the postcondition of the `Safe`
proof it is applied to; elsewhere the first component does. -/
theorem Safe.noPanic {x : Outcome α} (h : Safe x fun _ => True) : NoPanic x := h.ne_panic

theorem idx_lt (site : String) : ∀ (l : List α) (i : Nat), i < l.length → ∃ a, idx site l i = .ok a ∧ a ∈ l
  | a :: _, 0, _ => ⟨a, rfl, List.mem_cons_self ..⟩
  | _ :: as, n+1, h =>
    have ⟨a, h1, h2⟩ := idx_lt site as n (Nat.lt_of_succ_lt_succ h)
    ⟨a, h1, List.mem_cons_of_mem _ h2⟩

theorem Safe.idx {site : String} {l : List α} {i : Nat} (h : i < l.length) : Safe (idx site l i) (· ∈ l) := by
  obtain ⟨a, e, ha⟩ := idx_lt site l i h
  rw [e]; exact Safe.ok ha

theorem Safe.idxInt {site : String} {l : List α} {i : Int} (h0 : 0 ≤ i) (h1 : i < l.length) :
    Safe (idxInt site l i) (· ∈ l) := by
  rw [Crash.idxInt, if_neg (Int.not_lt.2 h0)]
  exact Safe.idx (by omega)

theorem sliceTo_ok {site : String} {s : List α} {n : Int} (h0 : 0 ≤ n) (h1 : n ≤ s.length) :
    sliceTo site s n = .ok (s.take n.toNat) := if_pos ⟨h0, h1⟩

theorem sliceFrom_ok {site : String} {s : List α} {n : Int} (h0 : 0 ≤ n) (h1 : n ≤ s.length) :
    sliceFrom site s n = .ok (s.drop n.toNat) := if_pos ⟨h0, h1⟩

theorem splitN2_cases (sep : UInt8) : ∀ s : Str, (∃ a, splitN2 sep s = [a]) ∨ (∃ a b, splitN2 sep s = [a, b])
  | [] => .inl ⟨_, rfl⟩
  | b :: r => by
    unfold splitN2
    split
    · exact .inr ⟨_, _, rfl⟩
    · rcases splitN2_cases sep r with ⟨a, ha⟩ | ⟨a, c, ha⟩ <;> simp [ha]

theorem compileTagFilterG_noPanic {ptr : Str → Outcome (Option RangeKind)} (h : ∀ v, NoPanic (ptr v)) {value : Str} :
    NoPanic (compileTagFilterG ptr value) := by
  unfold compileTagFilterG
  split
  · exact NoPanic.ok
  · refine NoPanic.bind ?_ fun kv => NoPanic.bind (h _) fun r => ?_
    · split
      · next h2 =>
        exact NoPanic.bind (Safe.idx (by omega)).ne_panic fun _ =>
          NoPanic.bind (Safe.idx (by omega)).ne_panic fun _ => NoPanic.ok
      · exact NoPanic.ok
    · split <;> exact NoPanic.ok

theorem matchAt_len3 {s : Str} {m : List Str} {rest : Str} (h : matchAt s = some (m, rest)) :
    ∃ a b c, m = [a, b, c] := by
  unfold matchAt at h
  simp only at h
  split at h
  · cases h
  · cases h; exact ⟨_, _, _, rfl⟩

theorem findRangesF_len3 : ∀ (fuel k : Nat) (s : Str), ∀ m ∈ findRangesF fuel k s, ∃ a b c, m = [a, b, c]
  | 0, _, _ => by simp [findRangesF]
  | _+1, 0, _ => by simp [findRangesF]
  | fuel+1, k+1, s => by
    intro m hm
    unfold findRangesF at hm
    split at hm
    · next m0 rest h0 =>
      rcases List.mem_cons.1 hm with rfl | hm
      · exact matchAt_len3 h0
      · exact findRangesF_len3 fuel k rest m hm
    · split at hm
      · cases hm
      · exact findRangesF_len3 fuel (k+1) _ m hm

theorem NoPanic.submatches {ranges : List (List Str)} (h3 : ∀ m ∈ ranges, ∃ a b c, m = [a, b, c])
    {i : Nat} (hi : i < ranges.length) {s s0 s1 s2 : String} {k : Str → Str → Str → Outcome β}
    (hk : ∀ a b c, NoPanic (k a b c)) :
    NoPanic (do let r ← idx s ranges i; let w ← idx s0 r 0; let n ← idx s1 r 1; let u ← idx s2 r 2; k w n u) :=
  Safe.noPanic <| Safe.bind (Safe.idx hi) fun r hr => by
    obtain ⟨a, b, c, rfl⟩ := h3 r hr
    exact (hk a b c).safe

theorem parseTagFilterRangeG_noPanic {onOv : String → Outcome (Option RangeKind)}
    (h : ∀ s, NoPanic (onOv s)) {su : Int → Str → Str → Str} {filter : Str} :
    NoPanic (parseTagFilterRangeG onOv su filter) := by
  have h3 : ∀ m ∈ findRanges 2 filter, ∃ a b c, m = [a, b, c] := findRangesF_len3 _ _ _
  unfold parseTagFilterRangeG
  generalize findRanges 2 filter = ranges at h3
  refine NoPanic.ite (fun _ => NoPanic.ok) fun h0 => ?_
  refine NoPanic.submatches h3 (by omega) fun w n u => ?_
  cases parseIntDec 64 n with
  | none => exact h _
  | some v =>
    refine NoPanic.ite (fun _ => ?_) fun h1 => ?_
    · exact NoPanic.ite (fun _ => NoPanic.ok) fun _ => NoPanic.ite (fun _ => NoPanic.ok) fun _ =>
        NoPanic.ite_pure
    · refine NoPanic.submatches h3 (by omega) fun w' n' u' => ?_
      refine NoPanic.ite (fun _ => NoPanic.ok) fun _ => ?_
      cases parseIntDec 64 n' with
      | none => exact h _
      | some v2 => exact NoPanic.ite_pure

theorem candidateNames_guarded_noPanic {e : PathEnv} {path : Str} {m : MappingM} :
    NoPanic (candidateNames true e path m) := by
  unfold candidateNames
  refine NoPanic.ite (fun _ => NoPanic.ite (fun hg => ?_) fun _ => NoPanic.ite_pure) fun _ => NoPanic.ite_pure
  -- the guard `len(m.BuildID) > 2` covers both slice expressions
  have hlen : m.buildID.length > 2 := by simpa using hg
  rw [sliceTo_ok (by omega) (by omega), sliceFrom_ok (by omega) (by omega)]
  exact NoPanic.ite_pure

theorem locateOne_noPanic (e : PathEnv) (m : MappingM) : ∀ paths, NoPanic (locateOne true e paths m)
  | [] => NoPanic.ok
  | p :: rest => by
    unfold locateOne
    refine NoPanic.bind candidateNames_guarded_noPanic fun names => ?_
    split
    · exact NoPanic.ok
    · exact locateOne_noPanic e m rest

theorem locateAll_noPanic (e : PathEnv) (paths : List Str) : ∀ ms, NoPanic (locateAll true e paths ms)
  | [] => NoPanic.ok
  | m :: ms =>
    NoPanic.bind (locateOne_noPanic e m paths) fun _ =>
      NoPanic.bind (locateAll_noPanic e paths ms) fun _ => NoPanic.ok

theorem locateBinaries_noPanic {e : PathEnv} {paths : List Str} {ms : List MappingM} {x b : Str} :
    NoPanic (locateBinaries e paths ms x b) := by
  unfold locateBinaries locateBinariesG
  refine NoPanic.bind (locateAll_noPanic e paths ms) fun ms' => ?_
  simp only []
  split
  · -- `p.Mapping[0]` is read from a list that was just made non-empty
    refine NoPanic.bind (Safe.idx ?_).ne_panic fun _ => NoPanic.ok
    split
    · exact Nat.zero_lt_one
    · next h => exact Nat.pos_of_ne_zero h
  · exact NoPanic.ok

theorem set_noPanic {pf : Str → Bool} {c : Cfg} {f : Field} {v : Str} (hk : f.kind.supported = true) :
    NoPanic (set pf c f v) := by
  -- the `panic` branch is that of the kind `hk` excludes; every other branch returns or errs
  intro site
  unfold set
  split <;> (try split) <;> simp_all [Kind.supported]

theorem fields_supported : ∀ f ∈ fields, f.kind.supported = true := by
  decide

theorem lookupField_mem {tbl : List Field} {name : Str} {f : Field} (h : lookupField tbl name = some f) : f ∈ tbl := by
  unfold lookupField at h
  split at h
  · next hf => cases h; exact List.mem_of_find?_eq_some hf
  · exact List.mem_of_find?_eq_some h

theorem configure_noPanic {tbl : List Field} (ht : ∀ f ∈ tbl, f.kind.supported = true)
    {pf : Str → Bool} {c : Cfg} {name value : Str} : NoPanic (configure tbl pf c name value) := by
  unfold configure
  split
  · exact NoPanic.err
  · next f hf =>
    have hs := ht f (lookupField_mem hf)
    split
    · exact set_noPanic hs
    · split
      · exact set_noPanic hs
      · exact NoPanic.err

theorem findIx_lt {p : α → Bool} : ∀ {l : List α} {i : Nat}, findIx p l = some i → i < l.length
  | a :: r, i, h => by
    unfold findIx at h
    split at h
    · cases h; exact Nat.zero_lt_succ _
    · cases hr : findIx p r with
      | none => simp [hr] at h
      | some j =>
        simp only [hr, Option.map_some, Option.some.injEq] at h
        exact h ▸ Nat.succ_lt_succ (findIx_lt hr)

theorem sampleIndexByName_safe {p : Prof} {si : Str} :
    Safe (sampleIndexByName p si)
      fun i => -1 ≤ i ∧ i < p.sampleTypes.length ∧ (0 < p.sampleTypes.length → 0 ≤ i) := by
  unfold sampleIndexByName
  split
  · split
    · next j hj =>
      refine Safe.ok ?_
      split at hj
      · cases hj
      · have := findIx_lt hj
        omega
    · exact Safe.ok (by omega)
  · split
    · split
      · exact Safe.err
      · exact Safe.ok (by omega)
    · simp only
      split
      · next j hj =>
        have := findIx_lt hj
        exact Safe.ok (by omega)
      · exact Safe.err

theorem sampleValue_noPanic {p : Prof} {si : Str} {mean : Bool} {values : List Int}
    (hv : values.length = p.sampleTypes.length) : NoPanic (sampleValue p si mean values) := by
  unfold sampleValue
  simp only []
  split
  · exact NoPanic.err
  · refine Safe.noPanic (Safe.bind sampleIndexByName_safe fun index hr => ?_)
    refine Safe.bind (Safe.idxInt (by omega) hr.2.1) fun _ _ => ?_
    refine Safe.bind (Safe.idxInt (by omega) (by omega)) fun _ _ => ?_
    split
    · exact Safe.bind (Safe.idx (by omega)) fun _ _ => Safe.ok trivial
    · exact Safe.ok trivial

/-- what `strings.Fields` guarantees about its tokens and the argument loop relies on for `t[0]`. -/
def NoEmpty (ts : List Str) : Prop := ∀ t ∈ ts, t ≠ []

theorem argStep_safe {args : List Str} {i : Nat} {acc : ArgAcc} {t : Str} (ht : t ≠ []) (hi : i < args.length) :
    Safe (argStep args i acc t) fun r => i < r.1 ∧ r.1 ≤ args.length := by
  obtain ⟨c, r, rfl⟩ := List.exists_cons_of_ne_nil ht
  have hs : ∀ site, sliceFrom site (c :: r) 1 = .ok r := fun _ => sliceFrom_ok (by omega) (by simp; omega)
  have hstep : i < i + 1 ∧ i + 1 ≤ args.length := ⟨Nat.lt_succ_self i, hi⟩
  unfold argStep
  cases parseIntDec 32 (c :: r) with
  | some n => exact Safe.ok hstep
  | none =>
    simp only [idx, hs, Outcome.bind_ok]
    -- `>` (alone at the end of the line / alone / with a file name), `-` (`-cum` / ignore), focus
    refine Safe.ite
      (fun _ => Safe.ite (fun _ => Safe.ite (fun _ => Safe.err) fun _ => ?_) fun _ => Safe.ok hstep)
      fun _ => Safe.ite (fun _ => Safe.ite (fun _ => Safe.ok hstep) fun _ => Safe.ok hstep) fun _ => Safe.ok hstep
    exact Safe.bind (Safe.idx (by omega)) fun _ _ => Safe.ok (by omega)

theorem argLoop_noPanic {args : List Str} (hne : NoEmpty args) :
    ∀ fuel i acc, i ≤ args.length → args.length + 1 ≤ fuel + i → NoPanic (argLoop args fuel i acc)
  | 0, i, acc, hi, hf => by omega
  | fuel+1, i, acc, hi, hf => by
    unfold argLoop
    split
    · exact NoPanic.ok
    · refine Safe.noPanic (Safe.bind (Safe.idx (by omega)) fun t ht => ?_)
      refine Safe.bind (argStep_safe (hne t ht) (by omega)) fun r hr => ?_
      exact (argLoop_noPanic hne fuel r.1 r.2 hr.2 (by omega)).safe

theorem spanP_fst_length_le (p : UInt8 → Bool) : ∀ s : Str, (spanP p s).1.length ≤ s.length
  | [] => Nat.le_refl _
  | b :: r => by
    unfold spanP
    split
    · exact Nat.succ_le_succ (spanP_fst_length_le p r)
    · exact Nat.zero_le _

theorem tailDigits_length_le (s : Str) : (tailDigits s).length ≤ s.length := by
  have := spanP_fst_length_le isDigit s.reverse
  rwa [List.length_reverse, ← List.length_reverse] at this

theorem splitCmdName_safe {cmds : List (Str × Bool)} {name : Str} {args : List Str} (hne : NoEmpty args) :
    Safe (splitCmdName cmds name args) fun r => NoEmpty r.2.1 := by
  unfold splitCmdName
  split
  · exact Safe.ok hne
  · simp only []
    split
    · next hd =>
      have hle := tailDigits_length_le name
      rw [sliceTo_ok (by omega) (by omega)]
      -- the digit suffix that becomes an argument is non-empty by the test just made
      refine Safe.ok fun t ht => ?_
      rcases List.mem_cons.1 ht with rfl | ht
      · intro h0; simp [h0] at hd
      · exact hne t ht
    · exact Safe.ok hne

theorem unknownCmd_noPanic {α} {tbl : List Field} {name : Str} {args : List Str} :
    NoPanic (unknownCmd (α := α) tbl name args) := by
  unfold unknownCmd
  split
  · split
    · next h => exact NoPanic.bind (Safe.idx h).ne_panic fun _ => NoPanic.err
    · exact NoPanic.err
  · exact NoPanic.err

theorem takeParam_safe {name : Str} {hp : Bool} {args : List Str} (hne : NoEmpty args) :
    Safe (takeParam name hp args) fun r => NoEmpty r.2 := by
  unfold takeParam
  split
  · split
    · exact Safe.err
    · refine Safe.bind (Safe.idx (by omega)) fun _ _ => ?_
      rw [sliceFrom_ok (by omega) (by omega)]
      exact Safe.ok fun t ht => hne t (List.mem_of_mem_drop ht)
  · exact Safe.ok hne

theorem parseCommandLineG_noPanic {cmds : List (Str × Bool)} {tbl : List Field} {input : List Str} {cur : Cfg}
    (h0 : input ≠ []) (hne : NoEmpty input) : NoPanic (parseCommandLineG cmds tbl input cur) := by
  obtain ⟨t0, rest, rfl⟩ := List.exists_cons_of_ne_nil h0
  unfold parseCommandLineG
  rw [sliceTo_ok (by omega) (by simp; omega), sliceFrom_ok (by omega) (by simp; omega)]
  show NoPanic (splitCmdName cmds t0 rest >>= _)
  refine Safe.noPanic (Safe.bind (splitCmdName_safe fun t ht => hne t (List.mem_cons_of_mem _ ht))
    fun ⟨n, a, c⟩ hr => ?_)
  cases c with
  | none => exact unknownCmd_noPanic.safe
  | some hp =>
    refine Safe.bind (takeParam_safe hr) fun r' hr' => ?_
    exact Safe.bind (argLoop_noPanic hr' _ 0 _ (Nat.zero_le _) (Nat.le_refl _)).safe fun _ _ => Safe.ok trivial

theorem lastIndexFrom_bounds (pat : Str) : ∀ (s : Str) (i : Nat) (acc : Int),
    -1 ≤ acc → acc ≤ i + s.length → -1 ≤ lastIndexFrom pat s i acc ∧ lastIndexFrom pat s i acc ≤ i + s.length
  | [], i, acc, h0, h1 => by
    unfold lastIndexFrom
    split
    · exact ⟨by omega, by omega⟩
    · exact ⟨h0, h1⟩
  | b :: r, i, acc, h0, h1 => by
    unfold lastIndexFrom
    rw [List.length_cons] at h1 ⊢
    have := lastIndexFrom_bounds pat r (i+1) (if isPrefix pat (b :: r) then (i:Int) else acc)
      (by omega) (by omega)
    omega

theorem lastIndex_bounds (s pat : Str) : -1 ≤ lastIndex s pat ∧ lastIndex s pat ≤ s.length := by
  have := lastIndexFrom_bounds pat s 0 (-1) (by omega) (by omega)
  simpa [lastIndex] using this

theorem parseAssign_noPanic {e : Env} {input : Str} : NoPanic (parseAssign e input) := by
  unfold parseAssign
  rcases splitN2_cases 61 input with ⟨a, ha⟩ | ⟨a, b, ha⟩
  · rw [ha]; exact NoPanic.ok
  · rw [ha]
    have hb := lastIndex_bounds b (S "//:")
    show NoPanic ((if lastIndex b (S "//:") ≠ -1 then sliceTo _ b _ else pure b) >>= _)
    refine NoPanic.bind ?_ fun _ => NoPanic.ok
    split
    · rw [sliceTo_ok (by omega) (by omega)]; exact NoPanic.ok
    · exact NoPanic.ok

theorem resolveSampleIndex_noPanic {p : Prof} {v : Str} : NoPanic (resolveSampleIndex p v) := by
  unfold resolveSampleIndex
  rcases (sampleIndexByName_safe (p := p) (si := v)).cases with ⟨index, h, -⟩ | ⟨m, h⟩ <;> rw [h]
  · simp only []
    split
    · exact NoPanic.ok
    · exact NoPanic.bind (Safe.idxInt (by omega) (by omega)).ne_panic fun _ => NoPanic.ok
  · exact NoPanic.ok

/-- the assumptions on the external functions under which a session never panics -/
structure EnvOK (e : Env) : Prop where
  /-- `strings.Fields` never returns an empty token -/
  fields_nonempty : ∀ s, ∀ t ∈ e.fields s, t ≠ []
  /-- everything behind the parsed command returns or reports an error (campaign-tested, not proved) -/
  gen_noPanic : ∀ c cfg, NoPanic (e.gen c cfg)
  /-- every configurable field has a type `set` supports -/
  tbl_supported : ∀ f ∈ e.tbl, f.kind.supported = true

/-- a step of the session does not panic and leaves the profile in place. -/
abbrev KeepsProf (s : Sess) (x : Outcome (Sess × List Ev)) : Prop := Safe x fun r => r.1.prof = s.prof

theorem assign_keepsProf {e : Env} (he : EnvOK e) (s : Sess) (name value : Str) (hasEq : Bool) :
    KeepsProf s (assign e s name value hasEq) := by
  unfold assign
  split
  · exact Safe.ok rfl
  · refine Safe.bind (P := fun _ => True) ?_ fun ov _ => ?_
    · split
      · exact resolveSampleIndex_noPanic.safe
      · exact Safe.ok trivial
    · cases ov with
      | none => exact Safe.ok rfl
      | some v =>
        rcases (configure_noPanic he.tbl_supported : NoPanic (configure e.tbl e.parseFloatOk s.cfg name v)).safe.cases with ⟨c, h, -⟩ | ⟨m, h⟩ <;>
          simp only [h] <;> exact Safe.ok rfl

theorem printCurrentOptions_noPanic {s : Sess} (hst : s.prof.sampleTypes ≠ []) : NoPanic (printCurrentOptions s) := by
  unfold printCurrentOptions
  have hl : 0 < s.prof.sampleTypes.length := List.length_pos_iff.mpr hst
  split
  · exact NoPanic.bind (Safe.idxInt (by omega) (by omega)).ne_panic fun _ => NoPanic.ok
  · exact NoPanic.ok

theorem command_keepsProf {e : Env} (he : EnvOK e) (s : Sess) (hst : s.prof.sampleTypes ≠ []) (input : Str) :
    KeepsProf s (command e s input) := by
  unfold command
  refine Safe.ite (fun _ => Safe.ok rfl) fun hlen => Safe.bind (Safe.idx (by omega)) fun t0 _ => ?_
  refine Safe.ite (fun _ => Safe.bind (printCurrentOptions_noPanic hst).safe fun _ _ => Safe.ok rfl) fun _ =>
    Safe.ite (fun _ => Safe.ok rfl) fun _ => Safe.ite (fun _ => ?_) fun _ => ?_
  · rw [sliceFrom_ok (by omega) (by omega)]
    exact Safe.ok rfl
  · rcases (parseCommandLineG_noPanic (cmds := e.cmds) (tbl := e.tbl) (cur := s.cfg)
      (by intro h0; simp [h0] at hlen) (he.fields_nonempty input)).safe.cases with ⟨⟨cmd, cfg⟩, h, -⟩ | ⟨m, h⟩ <;> simp only [h]
    · rcases (he.gen_noPanic cmd cfg).safe.cases with ⟨u, h, -⟩ | ⟨m, h⟩ <;> simp only [h] <;> exact Safe.ok rfl
    · exact Safe.ok rfl

theorem stepOne_keepsProf (e : Env) (he : EnvOK e) (s : Sess) (hst : s.prof.sampleTypes ≠ []) (input : Str) :
    KeepsProf s (stepOne e s input) := by
  unfold stepOne
  refine Safe.bind parseAssign_noPanic.safe fun ⟨name, value, hasEq⟩ _ => ?_
  simp only []
  split
  · exact assign_keepsProf he s name value hasEq
  · exact command_keepsProf he s hst input

theorem stepMany_keepsProf (e : Env) (he : EnvOK e) : ∀ (inputs : List Str) (s : Sess), s.prof.sampleTypes ≠ [] →
    KeepsProf s (stepMany e s inputs)
  | [], s, _ => Safe.ok rfl
  | inp :: rest, s, hst => by
    unfold stepMany
    refine Safe.bind (stepOne_keepsProf e he s hst inp) fun ⟨s1, ev⟩ hs1 => ?_
    replace hs1 : s1.prof = s.prof := hs1
    simp only []
    split
    · exact Safe.ok hs1
    · exact Safe.bind (stepMany_keepsProf e he rest s1 (hs1 ▸ hst)) fun _ hs2 => Safe.ok (hs2.trans hs1)

theorem step_keepsProf (e : Env) (he : EnvOK e) (s : Sess) (hst : s.prof.sampleTypes ≠ []) (line : Str) :
    KeepsProf s (step e s line) :=
  stepMany_keepsProf e he _ s hst

theorem run_noPanic (e : Env) (he : EnvOK e) : ∀ (lines : List Str) (s : Sess), s.prof.sampleTypes ≠ [] →
    NoPanic (run e s lines)
  | [], s, _ => NoPanic.ok
  | l :: ls, s, hst => by
    unfold run
    refine Safe.noPanic (Safe.bind (step_keepsProf e he s hst l) fun ⟨s1, ev⟩ hs1 => ?_)
    replace hs1 : s1.prof = s.prof := hs1
    simp only []
    split
    · exact Safe.ok trivial
    · exact Safe.bind (run_noPanic e he ls s1 (hs1 ▸ hst)).safe fun _ _ => Safe.ok trivial

theorem completer_noPanic {fields : Str → List Str} {isCmd : Str → Bool} {matchVar fnComplete : Str → Str}
    {joinSp : List Str → Str} {line : Str} :
    NoPanic (completer fields isCmd matchVar fnComplete joinSp line) := by
  unfold completer
  refine NoPanic.ite (fun _ => NoPanic.ok) fun hlen => ?_
  refine NoPanic.bind (Safe.idx (by omega)).ne_panic fun t0 => ?_
  refine NoPanic.ite (fun _ => NoPanic.ok) fun _ => NoPanic.ite (fun h2 => ?_) fun _ =>
    NoPanic.ite (fun _ => ?_) fun _ => NoPanic.ok
  · exact NoPanic.bind (Safe.idx (by omega)).ne_panic fun _ => NoPanic.ok
  · refine NoPanic.bind (Safe.idxInt (by omega) (by omega)).ne_panic fun last => ?_
    refine NoPanic.bind (NoPanic.ite (fun hpre => ?_) fun _ => NoPanic.ok) fun _ => ?_
    · -- a token with prefix "-" has a first byte to cut off
      have : 1 ≤ last.length := by
        cases last with
        | nil => simp [isPrefix] at hpre
        | cons a r => exact Nat.succ_le_succ (Nat.zero_le _)
      rw [sliceFrom_ok (by omega) (by omega)]
      exact NoPanic.ok
    · rw [sliceTo_ok (by omega) (by omega)]
      exact NoPanic.ok

theorem fieldsAscii_nonempty : ∀ (s : Str) (t : Str), t ∈ fieldsAscii s → t ≠ []
  | [], t, h => by simp [fieldsAscii] at h
  | b :: r, t, h => by
    have ih := fieldsAscii_nonempty r
    -- whenever `b` is not dropped, it starts the first token, and the others are tokens of `r`
    have hc : ∀ {u : Str} {ts : List Str}, (∀ t ∈ ts, t ≠ []) → t ∈ (b :: u) :: ts → t ≠ [] := by
      intro u ts hts ht
      rcases List.mem_cons.1 ht with rfl | ht
      · exact List.cons_ne_nil _ _
      · exact hts t ht
    unfold fieldsAscii at h
    split at h
    · exact ih t h
    · split at h
      · exact hc ih h
      · split at h
        · exact hc ih h
        · split at h
          · next hr => exact hc (fun t ht => ih t (hr ▸ List.mem_cons_of_mem _ ht)) h
          · exact hc (fun _ ht => absurd ht List.not_mem_nil) h

/-- the demangler modes `demanglerModeToOptions` accepts. -/
def DemOK (st : SymOpts) : Prop :=
  st.demangler = [] ∨ st.demangler = S "full" ∨ st.demangler = S "none" ∨ st.demangler = S "templates"

theorem demangleOpt_demOK (st : SymOpts) (o : Str) (h : DemOK st) : DemOK (demangleOpt st o) := by
  unfold demangleOpt
  split
  · next hd =>
    unfold DemOK
    rcases hd with hd | hd | hd <;> simp [hd]
  · split <;> exact h

theorem symOptStep_demOK (st st' : SymOpts) (o : Str) (h : DemOK st) (hs : symOptStep st o = some st') : DemOK st' := by
  -- one link of the `if … then some a else …` chain: every option but `demangle=` yields an `a` with
  -- the demangler field of `st`
  have link : ∀ {c : Prop} [Decidable c] {a : SymOpts} {r : Option SymOpts},
      (if c then some a else r) = some st' → DemOK a → (r = some st' → DemOK st') → DemOK st' := by
    intro c _ a r e ha hr
    by_cases hc : c
    · rw [if_pos hc] at e; cases e; exact ha
    · rw [if_neg hc] at e; exact hr e
  unfold symOptStep at hs
  refine link hs h fun hs => ?_
  by_cases h2 : o = S "none" ∨ o = S "no"
  · rw [if_pos h2] at hs; cases hs
  rw [if_neg h2] at hs
  exact link hs h fun hs => link hs h fun hs => link hs h fun hs => link hs h fun hs => by
    cases hs; exact demangleOpt_demOK _ _ h

theorem symOptFold_demOK : ∀ (os : List Str) (st st' : SymOpts), DemOK st → symOptFold st os = some st' → DemOK st'
  | [], st, st', h, hs => by cases hs; exact h
  | o :: rest, st, st', h, hs => by
    unfold symOptFold at hs
    split at hs
    · cases hs
    · next st1 h1 => exact symOptFold_demOK rest st1 st' (symOptStep_demOK st st1 o h h1) hs

theorem symbolizeMode_noPanic {lower : Str → Str} {mode : Str} : NoPanic (symbolizeMode lower mode) := by
  unfold symbolizeMode
  split
  · exact NoPanic.ok
  · next st hst =>
    have h := symOptFold_demOK _ _ _ (Or.inl rfl) hst
    refine NoPanic.bind ?_ fun _ => NoPanic.ok
    -- the explicit panic is the branch where the mode is none of the four accepted ones
    unfold demanglerModeToOptions
    refine NoPanic.ite (fun _ => NoPanic.ok) fun h0 => NoPanic.ite (fun _ => NoPanic.ok) fun h1 =>
      NoPanic.ite (fun _ => NoPanic.ok) fun h2 => NoPanic.ite (fun _ => NoPanic.ok) fun h3 => ?_
    rcases h with h | h | h | h <;> contradiction

end PV.Crash
