import PprofVerif.Lemmas.CodecTotalPost
import PprofVerif.Lemmas.EncodeWF
import PprofVerif.Model.Parse
/-!
Composition C02 ← C01: `postDecode` keeps every integer of a `Ranged` wire message in its Go type, so
every profile returned by `ParseUncompressed` is `InRange` (hypothesis `hr` of C01's `parse_serialize` /
`copy_eq_normalize`).  Then `ParseData` (protobuf path) and a sample input, for the properties that
compose with C02.
-/
namespace PV
namespace Codec
open Wire
open Outcome (Safe mapM_safe)

theorem postDecode_inRange (x : ProfileX) (hx : x.Ranged) : (postDecode x).Safe InRange := by
  unfold postDecode
  refine Safe.bind (P := fun ms => ∀ m ∈ ms, m.id < two64 ∧ m.start < two64 ∧ m.limit < two64 ∧ m.offset < two64)
    (mapM_safe _ fun a ha => (postMapping_safe _ a).mono fun r ⟨e1, e2, e3, e4⟩ => by
      rw [e1, e2, e3, e4]; exact hx.mappings a ha) fun ms hms => ?_
  refine Safe.bind (P := fun fs => ∀ f ∈ fs, f.id < two64 ∧ InI64 f.startLine)
    (mapM_safe _ fun a ha => (postFunction_safe _ a).mono fun r ⟨e1, e2⟩ => by
      rw [e1, e2]; exact hx.functions a ha) fun fs hfs => ?_
  refine (mapM_safe _ fun m _ => postValueType_safe _ m).bind fun sts _ => ?_
  refine Safe.bind (P := fun ss => ∀ s ∈ ss, (∀ id ∈ s.locationIDs, id < two64) ∧ (∀ v ∈ s.values, InI64 v) ∧
      ∀ e ∈ s.numLabel, ∀ v ∈ e.2, InI64 v)
    (mapM_safe _ fun a ha => (postSample_safe _ a).mono fun r h => by
      obtain ⟨h1, h2, h3⟩ := h.2.2 (hx.samples a ha)
      exact ⟨h1 ▸ (hx.samples a ha).1, h2, h3⟩) fun ss hss => ?_
  refine (getString_safe _ _).bind fun df _ => (getString_safe _ _).bind fun kf _ => ?_
  refine (postValueType_safe _ _).bind fun pt _ => ?_
  refine (mapM_safe _ fun m _ => getString_safe _ m).bind fun cs _ => ?_
  refine (getString_safe _ _).bind fun dst _ => (getString_safe _ _).bind fun doc _ => ?_
  refine ⟨hx.timeNanos, hx.durationNanos, hx.period, ?_, hms, ?_, hfs⟩
  · -- a reference that does not resolve becomes id 0
    intro s hs
    obtain ⟨s0, hs0, rfl⟩ := List.mem_map.mp hs
    refine ⟨fun id hid => ?_, (hss s0 hs0).2⟩
    obtain ⟨id0, hid0, rfl⟩ := List.mem_map.mp hid
    split
    · exact (hss s0 hs0).1 id0 hid0
    · exact zero_lt_two64
  · intro l hl
    obtain ⟨a, ha, rfl⟩ := List.mem_map.mp hl
    obtain ⟨r1, r2, r3, r4⟩ := hx.locations a ha
    refine ⟨r1, ?_, r3, fun ln hln => ?_⟩
    · dsimp only; split
      · exact r2
      · exact zero_lt_two64
    · obtain ⟨b, hb, rfl⟩ := List.mem_map.mp hln
      obtain ⟨q1, q2, q3⟩ := r4 b hb
      refine ⟨?_, q2, q3⟩
      dsimp only; split
      · exact q1
      · exact zero_lt_two64

/-- **Every profile `ParseUncompressed` returns has all its integers in their Go types**
(ids/addresses uint64, values/lines int64): the range side condition of C01's round trip is
free for parser outputs. -/
theorem parseUncompressed_inRange (b : Bytes) (p : Profile) (h : parseUncompressed b = .ok p) : InRange p := by
  have : (parseUncompressed b).Safe InRange := by
    unfold parseUncompressed
    split
    · trivial
    · exact (unmarshal_safe b).bind postDecode_inRange
  exact this.of_ok h

end Codec
end PV

namespace PV
namespace Parse
open Wire (Bytes)

theorem parseData_ok_iff (b : Bytes) (p : Profile) :
    parseData b = .ok p ↔ Codec.parseUncompressed b = .ok p ∧ p.Valid := by
  unfold parseData Profile.Valid
  cases h : Codec.parseUncompressed b with
  | panic s => simp
  | err e => simp
  | ok q =>
    by_cases hv : q.validB = true
    · simp only [hv, if_true, Outcome.ok.injEq]
      constructor
      · rintro rfl; exact ⟨rfl, hv⟩
      · rintro ⟨rfl, _⟩; rfl
    · simp only [hv, Outcome.ok.injEq]
      constructor
      · intro h'; cases h'
      · rintro ⟨rfl, h2⟩; exact absurd h2 hv

/-- what an accepted input gives: everything C01's round trip asks of a profile except the size
side condition -/
theorem parseData_ok_contract (b : Bytes) (p : Profile) (h : parseData b = .ok p) :
    p.Valid ∧ p.unitsAligned = true ∧ p.mapsSorted = true ∧ Codec.InRange p := by
  obtain ⟨hp, hv⟩ := (parseData_ok_iff b p).mp h
  exact ⟨hv, ((Codec.parseUncompressed_safe b).of_ok hp).1, ((Codec.parseUncompressed_safe b).of_ok hp).2.1,
    Codec.parseUncompressed_inRange b p hp⟩

/-- a byte string the parser accepts (one sample type, one sample with a value and a numeric label
carrying a unit, string table ["", "a", "b"]) — the `exampleBytes` of Props/C02.lean -/
def sampleBytes : Bytes :=
  [0x0a, 0x04, 0x08, 0x01, 0x10, 0x02,
   0x12, 0x0a, 0x10, 0x05, 0x1a, 0x06, 0x08, 0x01, 0x18, 0x07, 0x20, 0x02,
   0x32, 0x00, 0x32, 0x01, 0x61, 0x32, 0x01, 0x62]

def sampleParsed : Profile :=
  { sampleType := [⟨[97], [98]⟩], defaultSampleType := [],
    samples := [⟨[], [5], [], [([97], [7])], [([97], [[98]])]⟩],
    mappings := [], locations := [], functions := [], comments := [], docURL := [], dropFrames := [],
    keepFrames := [], timeNanos := 0, durationNanos := 0, periodType := some ⟨[], []⟩, period := 0 }

theorem parseData_sampleBytes : parseData sampleBytes = .ok sampleParsed := by decide +kernel

theorem sampleParsed_encSizes : ∀ x, Codec.preEncode sampleParsed = .ok x → Codec.EncSizes x := by
  intro x hx
  have hx' : x = (match Codec.preEncode sampleParsed with | .ok y => y | _ => default) := by rw [hx]
  subst hx'
  exact Codec.EncSizes_of_counts (by decide) (by decide) (by decide) (by decide) (by decide)

end Parse
end PV
