import PprofVerif.Model.MeasureFacts
import Mathlib.Tactic.Ring
import Mathlib.Tactic.Linarith
/-!
Lemmas about the model of internal/measurement (C15).  `Q` is compared by cross-multiplication, so every
order fact is an integer inequality between products; `namespace Q` proves these once, by monotonicity of
multiplication, for rationals with the signs the callers have.  `Scale` is reduced to `convertFrom` on the
first family that knows the source unit (`scale_eq_core`, `scaleCore_eq`).
-/
namespace PV.Measure
open PV

namespace Q
theorem eqv_refl (a : Q) : eqv a a := rfl
theorem eqv_symm {a b : Q} (h : eqv a b) : eqv b a := by unfold eqv at *; exact h.symm
theorem eqv_trans {a b c : Q} (hb : 0 < b.den) (h1 : eqv a b) (h2 : eqv b c) : eqv a c := by
  unfold eqv at *
  refine Int.eq_of_mul_eq_mul_right (Int.natCast_pos.2 hb).ne' ?_
  rw [Int.mul_right_comm, h1, Int.mul_right_comm, h2, Int.mul_right_comm]

@[simp] theorem neg_neg (a : Q) : a.neg.neg = a := by
  cases a; simp [neg]

theorem neg_ofInt (v : Int) : (ofInt (-v)).neg = ofInt v := by simp [neg, ofInt]
theorem div_neg (a b : Q) : (a.neg).div b = (a.div b).neg := by simp [div, neg]
theorem abs_neg (a : Q) : a.neg.abs = a.abs := by simp [abs, neg]
theorem mul_ofInt_neg (v : Int) (f : Q) : (ofInt (-v)).mul f = ((ofInt v).mul f).neg := by
  simp [mul, ofInt, neg]

theorem le_total' (a b : Q) : le a b ∨ le b a := by unfold le; omega
theorem le_of_not_le {a b : Q} (h : ¬ le a b) : le b a := (le_total' a b).resolve_left h
theorem le_refl (a : Q) : le a a := Int.le_refl _
theorem le_of_eqv {a b : Q} (h : eqv a b) : le a b := Int.le_of_eq h

theorem le_trans' {a b c : Q} (hb : 0 < b.den) (h1 : le a b) (h2 : le b c) : le a c := by
  unfold le at *
  refine Int.le_of_mul_le_mul_right (a := b.den) ?_ (Int.natCast_pos.2 hb)
  calc a.num * c.den * b.den = a.num * b.den * c.den := Int.mul_right_comm ..
    _ ≤ b.num * a.den * c.den := Int.mul_le_mul_of_nonneg_right h1 (Int.natCast_nonneg _)
    _ = b.num * c.den * a.den := Int.mul_right_comm ..
    _ ≤ c.num * b.den * a.den := Int.mul_le_mul_of_nonneg_right h2 (Int.natCast_nonneg _)
    _ = c.num * a.den * b.den := Int.mul_right_comm ..

theorem nonneg_of_le {a b : Q} (ha : 0 ≤ a.num) (had : 0 < a.den) (h : le a b) : 0 ≤ b.num :=
  nonneg_of_mul_nonneg_left (Int.le_trans (Int.mul_nonneg ha (Int.natCast_nonneg _)) h)
    (Int.natCast_pos.2 had)

theorem ofInt_le_ofInt {v w : Int} (h : v ≤ w) : le (ofInt v) (ofInt w) :=
  Int.mul_le_mul_of_nonneg_right h (Int.natCast_nonneg _)

theorem mul_le_mul {a b c d : Q} (hab : le a b) (hcd : le c d) (hb : 0 ≤ b.num) (hc : 0 ≤ c.num) :
    le (a.mul c) (b.mul d) := by
  have := Int.mul_le_mul hab hcd (Int.mul_nonneg hc (Int.natCast_nonneg _))
    (Int.mul_nonneg hb (Int.natCast_nonneg _))
  show a.num * c.num * ((b.den * d.den : Nat) : Int) ≤ b.num * d.num * ((a.den * c.den : Nat) : Int)
  rw [Int.natCast_mul, Int.natCast_mul, mul_mul_mul_comm, mul_mul_mul_comm b.num]
  exact this

theorem le_mul_of_one_le {b f : Q} (h : le one b) (hf : 0 ≤ f.num) : le f (b.mul f) := by
  have := Int.mul_le_mul_of_nonneg_right h (Int.mul_nonneg hf (Int.natCast_nonneg f.den))
  show f.num * ((b.den * f.den : Nat) : Int) ≤ b.num * f.num * f.den
  rw [Int.natCast_mul, Int.mul_assoc b.num, Int.mul_left_comm]
  simpa only [one, Int.one_mul, Int.mul_one, Int.natCast_one] using this

theorem eqv_of_mul_eqv_mul {a b f : Q} (pn : 0 < f.num) (pd : 0 < f.den)
    (h : eqv (a.mul f) (b.mul f)) : eqv a b := by
  change a.num * f.num * ((b.den * f.den : Nat) : Int) = b.num * f.num * ((a.den * f.den : Nat) : Int) at h
  rw [Int.natCast_mul, Int.natCast_mul, mul_mul_mul_comm, mul_mul_mul_comm b.num] at h
  exact Int.eq_of_mul_eq_mul_right (Int.mul_pos pn (Int.natCast_pos.2 pd)).ne' h

theorem mul_eqv_mul_of_ratio {a b r c d : Q} (hr : 0 < r.den) (h1 : eqv a (b.mul r))
    (h2 : eqv (r.mul c) d) : eqv (a.mul c) (b.mul d) := by
  unfold eqv at *
  simp only [mul, Int.natCast_mul] at *
  refine Int.eq_of_mul_eq_mul_right (Int.natCast_pos.2 hr).ne' ?_
  calc a.num * c.num * (↑b.den * ↑d.den) * ↑r.den
      = a.num * (↑b.den * ↑r.den) * (c.num * ↑d.den) := by ring
    _ = b.num * ↑a.den * (r.num * c.num * ↑d.den) := by rw [h1]; ring
    _ = b.num * d.num * (↑a.den * ↑c.den) * ↑r.den := by rw [h2]; ring

theorem one_mul_eqv (a : Q) : eqv (one.mul a) a := by
  show 1 * a.num * a.den = a.num * ((1 * a.den : Nat) : Int)
  rw [Int.one_mul, Nat.one_mul]

theorem abs_of_nonneg {a : Q} (h : 0 ≤ a.num) : a.abs = a := by
  cases a; simp only [abs, Int.natAbs_of_nonneg h]

theorem div_num {a b : Q} (hb : 0 < b.num) : (a.div b).num = a.num * b.den := by
  simp only [div, Int.sign_eq_one_of_pos hb, Int.mul_one]

theorem div_den {a b : Q} (hb : 0 < b.num) : ((a.div b).den : Int) = a.den * b.num := by
  simp only [div, Int.natCast_mul, Int.natAbs_of_nonneg (Int.le_of_lt hb)]

theorem div_den_pos {a b : Q} (ha : 0 < a.den) (hb : b.num ≠ 0) : 0 < (a.div b).den :=
  Nat.mul_pos ha (Int.natAbs_pos.2 hb)

theorem div_nonneg {a b : Q} (ha : 0 ≤ a.num) (hb : 0 < b.num) : 0 ≤ (a.div b).num := by
  rw [div_num hb]; exact Int.mul_nonneg ha (Int.natCast_nonneg _)

theorem div_le_div {a b c d : Q} (hab : le a b) (hdc : le d c) (hb : 0 ≤ b.num)
    (hc : 0 < c.num) (hd : 0 < d.num) : le (a.div c) (b.div d) := by
  have := Int.mul_le_mul hab hdc (Int.mul_nonneg (Int.le_of_lt hd) (Int.natCast_nonneg _))
    (Int.mul_nonneg hb (Int.natCast_nonneg _))
  unfold le
  rw [div_num hc, div_num hd, div_den hc, div_den hd, mul_mul_mul_comm,
    mul_mul_mul_comm b.num, Int.mul_comm (c.den : Int), Int.mul_comm (d.den : Int)]
  exact this

theorem le_div_iff {a b c : Q} (hb : 0 < b.num) : le a (c.div b) ↔ le (a.mul b) c := by
  show a.num * ((c.div b).den : Int) ≤ (c.div b).num * a.den ↔
    a.num * b.num * c.den ≤ c.num * ((a.den * b.den : Nat) : Int)
  rw [div_num hb, div_den hb, Int.natCast_mul, Int.mul_comm (c.den : Int), ← Int.mul_assoc,
    Int.mul_comm (a.den : Int), ← Int.mul_assoc]

theorem one_le_div_iff {a b : Q} (hb : 0 < b.num) : le one (a.div b) ↔ le b a := by
  rw [le_div_iff hb]
  show 1 * b.num * a.den ≤ a.num * ((1 * b.den : Nat) : Int) ↔ b.num * a.den ≤ a.num * b.den
  rw [Int.one_mul, Nat.one_mul]

theorem div_mul_cancel (a b : Q) (hn : 0 < b.num) : eqv ((a.div b).mul b) a := by
  show (a.div b).num * b.num * a.den = a.num * (((a.div b).den * b.den : Nat) : Int)
  rw [Int.natCast_mul, div_num hn, div_den hn]; ring

theorem mul_div_assoc (a b c : Q) : eqv ((a.mul b).div c) (a.mul (b.div c)) := by
  unfold eqv div mul; simp only; push_cast; ring
end Q

theorem convertUnit_eq (F : Family) (v : Int) (frm dst : Str) :
    convertUnit F v frm dst = (sniffUnit F frm).map fun fu => convertFrom F fu v dst := by
  unfold convertUnit convertFrom
  cases sniffUnit F frm with
  | none => rfl
  | some fu =>
    simp only [Option.map_some]
    split
    · cases autoScale F ((Q.ofInt v).mul fu.factor) <;> rfl
    · cases sniffUnit F dst <;> rfl

theorem scaleCore_eq (T : Table) (v : Int) (frm dst : Str) :
    scaleCore T v frm dst =
      match firstFamily T frm with
      | some (F, fu) => convertFrom F fu v dst
      | none => passthrough v dst := by
  unfold scaleCore firstFamily passthrough
  induction T with
  | nil => rfl
  | cons F T ih =>
    rw [List.findSome?_cons, List.findSome?_cons, convertUnit_eq]
    cases sniffUnit F frm with
    | none => exact ih
    | some fu => rfl

theorem autoStep_neg (m : Q) : autoStep m.neg = autoStep m := by
  funext acc u; simp [autoStep, Q.abs_neg]

theorem autoScale_neg (F : Family) (m : Q) :
    autoScale F m.neg = (autoScale F m).map fun r => (r.1.neg, r.2) := by
  unfold autoScale
  rw [autoStep_neg]
  simp only
  split <;> simp [Q.div_neg]

theorem convertFrom_neg (F : Family) (fu : MUnit) (v : Int) (dst : Str) :
    convertFrom F fu (-v) dst = ((convertFrom F fu v dst).1.neg, (convertFrom F fu v dst).2) := by
  unfold convertFrom
  simp only [Q.mul_ofInt_neg]
  split
  · rw [autoScale_neg]
    cases autoScale F ((Q.ofInt v).mul fu.factor) <;> simp [Q.div_neg]
  · cases sniffUnit F dst <;> simp [Q.div_neg]

theorem scaleCore_neg (T : Table) (v : Int) (frm dst : Str) :
    scaleCore T (-v) frm dst = ((scaleCore T v frm dst).1.neg, (scaleCore T v frm dst).2) := by
  rw [scaleCore_eq, scaleCore_eq]
  cases firstFamily T frm with
  | none => rfl
  | some p => exact convertFrom_neg p.1 p.2 v dst

/-- In exact arithmetic the sign guard of `Scale` (measurement.go:129) is transparent. -/
theorem scale_eq_core (T : Table) (v : Int) (frm dst : Str) :
    scale T v frm dst = scaleCore T v frm dst := by
  unfold scale
  split
  · rename_i h
    have hv : negI64 v = -v := by
      unfold negI64; split
      · rename_i h2; exfalso; have := h.2; simp [negI64, h2, minInt64] at this
      · rfl
    rw [hv, ← scaleCore_neg, Int.neg_neg]
  · rfl

theorem autoStep_spec (m : Q) (acc : Q × Str) (u : MUnit) (hd : 0 < acc.1.den) (hu : PosU u) :
    0 < (autoStep m acc u).1.den ∧ Q.le acc.1 (autoStep m acc u).1 ∧
    (Qual m u → Q.le u.factor (autoStep m acc u).1) ∧
    (autoStep m acc u = acc ∨ autoStep m acc u = (u.factor, u.name) ∧ Qual m u) := by
  unfold autoStep
  by_cases h : Q.le acc.1 u.factor ∧ Q.le Q.one (m.abs.div u.factor)
  · rw [if_pos (by simpa only [Q.leB, Bool.and_eq_true, decide_eq_true_eq] using h)]
    exact ⟨hu.2, h.1, fun _ => Q.le_refl _, Or.inr ⟨rfl, h.2⟩⟩
  · rw [if_neg (by simpa only [Q.leB, Bool.and_eq_true, decide_eq_true_eq] using h)]
    exact ⟨hd, Q.le_refl _, fun hq => Q.le_of_not_le fun hle => h ⟨hle, hq⟩, Or.inl rfl⟩

theorem autoFold_spec (m : Q) : ∀ (us : List MUnit) (acc : Q × Str),
    (∀ w ∈ us, PosU w) → 0 < acc.1.den →
    (us.foldl (autoStep m) acc = acc ∨
      ∃ u ∈ us, us.foldl (autoStep m) acc = (u.factor, u.name) ∧ Qual m u) ∧
    Q.le acc.1 (us.foldl (autoStep m) acc).1 ∧
    ∀ w ∈ us, Qual m w → Q.le w.factor (us.foldl (autoStep m) acc).1
  | [], acc, _, _ => ⟨Or.inl rfl, Q.le_refl _, fun _ h => nomatch h⟩
  | u :: us, acc, hp, hd => by
    obtain ⟨hu, hp⟩ := List.forall_mem_cons.1 hp
    rw [List.foldl_cons]
    obtain ⟨hd', hle, hqu, hacc⟩ := autoStep_spec m acc u hd hu
    obtain ⟨hr, hge, hmax⟩ := autoFold_spec m us (autoStep m acc u) hp hd'
    refine ⟨?_, Q.le_trans' hd' hle hge, List.forall_mem_cons.2
      ⟨fun h => Q.le_trans' hd' (hqu h) hge, hmax⟩⟩
    rcases hr with hr | ⟨w, hw, hr⟩
    · rcases hacc with e | ⟨e, hq⟩
      · exact Or.inl (hr.trans e)
      · exact Or.inr ⟨u, List.mem_cons_self, hr.trans e, hq⟩
    · exact Or.inr ⟨w, List.mem_cons_of_mem _ hw, hr⟩

/-- `autoScale` picks the unit with the largest factor among those that keep the magnitude at
or above one, and fails exactly when there is none. -/
theorem autoScale_spec (F : Family) (m : Q) (hpos : ∀ u ∈ F.units, PosU u) :
    match autoScale F m with
    | none => ∀ u ∈ F.units, ¬ Qual m u
    | some r => ∃ u ∈ F.units, r = (m.div u.factor, u.name) ∧ Qual m u ∧
        ∀ w ∈ F.units, Qual m w → Q.le w.factor u.factor := by
  obtain ⟨hr, _, hmax⟩ := autoFold_spec m F.units (Q.zero, []) hpos Nat.one_pos
  unfold autoScale
  rcases hr with hr | ⟨u, hu, hr, hq⟩
  · -- nothing chosen: a qualifying unit would have a factor ≤ 0
    rw [hr] at hmax ⊢
    intro u hu hq
    have h : u.fnum * ((1 : Nat) : Int) ≤ 0 * u.fden := hmax u hu hq
    have := (hpos u hu).1
    omega
  · rw [hr] at hmax ⊢
    rw [if_neg (show u.factor.num ≠ 0 from (hpos u hu).1.ne')]
    exact ⟨u, hu, rfl, hq, hmax⟩

theorem findByAlias_some {F : Family} {a : Str} {u : MUnit} (h : findByAlias F a = some u) :
    u ∈ F.units ∧ a ∈ u.aliases := by
  unfold findByAlias at h
  have h1 := List.mem_of_find?_eq_some h
  have h2 := List.find?_some h
  exact ⟨h1, by simpa using h2⟩

theorem trimS_cases : ∀ s : Str, trimS s = s ∨ s = trimS s ++ [115]
  | [] => Or.inl rfl
  | [c] => by
    unfold trimS
    by_cases h : c = 115 <;> simp [h]
  | c :: d :: cs => by
    rw [show trimS (c :: d :: cs) = c :: trimS (d :: cs) by rw [trimS]]
    exact (trimS_cases (d :: cs)).imp (congrArg _) fun h => by rw [List.cons_append, ← h]

/-- a string that `sniffUnit` resolves is, lower-cased, a name of the unit or the plural of one -/
theorem sniffUnit_some {F : Family} {s : Str} {u : MUnit} (h : sniffUnit F s = some u) :
    u ∈ F.units ∧ ∃ a ∈ unitNames u, a = asciiLower s ∨ asciiLower s = a ++ [115] := by
  unfold sniffUnit at h
  split at h
  · rename_i u' hu
    cases h
    have : u.name = s := by simpa using List.find?_some hu
    exact ⟨List.mem_of_find?_eq_some hu, _, List.mem_cons_self, Or.inl (this ▸ rfl)⟩
  · simp only at h
    split at h
    · rename_i u' hu
      cases h
      exact ⟨(findByAlias_some hu).1, _, List.mem_cons_of_mem _ (findByAlias_some hu).2, Or.inl rfl⟩
    · split at h
      · exact ⟨(findByAlias_some h).1, _, List.mem_cons_of_mem _ (findByAlias_some h).2,
          trimS_cases _⟩
      · cases h

theorem firstFamily_some {T : Table} {s : Str} {F : Family} {u : MUnit}
    (h : firstFamily T s = some (F, u)) : F ∈ T ∧ sniffUnit F s = some u := by
  obtain ⟨G, hG, hs⟩ := List.exists_of_findSome?_eq_some h
  obtain ⟨w, hw, he⟩ := Option.map_eq_some_iff.1 hs
  cases he
  exact ⟨hG, hw⟩

theorem posU_of_table {T : Table} (hpos : factorsPosB T = true) {F : Family} (hF : F ∈ T) :
    PosU F.default ∧ ∀ u ∈ F.units, PosU u := by
  unfold factorsPosB at hpos
  rw [List.all_eq_true] at hpos
  have h := hpos F hF
  simp only [Bool.and_eq_true, List.all_eq_true, posQ, Gen.Units.RawUnit.factor] at h
  exact ⟨⟨of_decide_eq_true h.1.1, of_decide_eq_true h.1.2⟩,
    fun u hu => ⟨of_decide_eq_true (h.2 u hu).1, of_decide_eq_true (h.2 u hu).2⟩⟩

theorem convertFrom_of_sniff {F : Family} {fu tu : MUnit} {v : Int} {dst : Str}
    (hd : isAuto dst = false) (ht : sniffUnit F dst = some tu) :
    convertFrom F fu v dst = (((Q.ofInt v).mul fu.factor).div tu.factor, tu.name) := by
  simp only [convertFrom, hd, ht, Bool.false_eq_true, if_false]

theorem firstFamily_posU {T : Table} (hpos : factorsPosB T = true) {s : Str} {F : Family} {u : MUnit}
    (h : firstFamily T s = some (F, u)) : u ∈ F.units ∧ PosU F.default ∧ ∀ w ∈ F.units, PosU w :=
  ⟨(sniffUnit_some (firstFamily_some h).2).1, posU_of_table hpos (firstFamily_some h).1⟩

theorem convertFrom_magnitude (F : Family) (fu : MUnit) (v : Int) (dst : Str)
    (hd : PosU F.default) (hu : ∀ u ∈ F.units, PosU u) :
    ∃ u, (u ∈ F.units ∨ u = F.default) ∧ PosU u ∧ (convertFrom F fu v dst).2 = u.name ∧
      (convertFrom F fu v dst).1 = ((Q.ofInt v).mul fu.factor).div u.factor := by
  unfold convertFrom
  simp only
  split
  · have hs := autoScale_spec F ((Q.ofInt v).mul fu.factor) hu
    cases ha : autoScale F ((Q.ofInt v).mul fu.factor) with
    | none => exact ⟨F.default, Or.inr rfl, hd, rfl, rfl⟩
    | some r =>
      rw [ha] at hs
      obtain ⟨u, hu', rfl, _, _⟩ := hs
      exact ⟨u, Or.inl hu', hu u hu', rfl, rfl⟩
  · cases hsn : sniffUnit F dst with
    | none => exact ⟨F.default, Or.inr rfl, hd, rfl, rfl⟩
    | some tu => exact ⟨tu, Or.inl (sniffUnit_some hsn).1, hu tu (sniffUnit_some hsn).1, rfl, rfl⟩

theorem round2_of_nonneg {q : Q} (hn : 0 ≤ q.num) (hd : 0 < q.den) :
    round2 q = ⟨(200 * q.num + q.den) / (2 * q.den), 100⟩ := by
  unfold round2
  rw [if_neg (Nat.pos_iff_ne_zero.1 hd)]
  congr 1
  push_cast
  rw [abs_of_nonneg hn]
  rcases Int.lt_or_eq_of_le hn with hpos | hz
  · rw [Int.sign_eq_one_of_pos hpos, Int.one_mul]
  · -- the sign is 0, and so is `0 / d` rounded
    rw [← hz, Int.sign_zero, Int.zero_mul, Int.mul_zero, Int.zero_add,
      Int.ediv_eq_zero_of_lt (Int.natCast_nonneg _) (by omega)]

theorem ediv_mono_cross {A B C D : Int} (hB : 0 < B) (hD : 0 < D) (h : A * D ≤ C * B) :
    A / B ≤ C / D := by
  rw [Int.le_ediv_iff_mul_le hD]
  refine Int.le_of_mul_le_mul_right (Int.le_trans ?_ h) hB
  rw [Int.mul_right_comm]
  exact Int.mul_le_mul_of_nonneg_right (Int.ediv_mul_le A (ne_of_gt hB)) (le_of_lt hD)

theorem round2_mono {a b : Q} (ha : 0 ≤ a.num) (had : 0 < a.den) (hbd : 0 < b.den)
    (h : Q.le a b) : Q.le (round2 a) (round2 b) := by
  rw [round2_of_nonneg ha had, round2_of_nonneg (Q.nonneg_of_le ha had h) hbd]
  refine Int.mul_le_mul_of_nonneg_right (ediv_mono_cross (by omega) (by omega) ?_) (Int.natCast_nonneg _)
  unfold Q.le at h
  linarith

theorem round2_fix {q : Q} (hn : 0 ≤ q.num) (hd : 0 < q.den)
    (hc : (100 * q.num) % q.den = 0) : Q.eqv (round2 q) q := by
  obtain ⟨k, hk⟩ := Int.dvd_of_emod_eq_zero hc
  have hd' : (0 : Int) < q.den := Int.natCast_pos.2 hd
  have h2 : (200 * q.num + q.den) / (2 * q.den) = k := by
    rw [show 200 * q.num = 2 * (100 * q.num) from by rw [← Int.mul_assoc]; rfl, hk, ← Int.mul_assoc,
      Int.add_comm, Int.add_mul_ediv_left _ _ (by omega), Int.ediv_eq_zero_of_lt hd'.le (by omega),
      Int.zero_add]
  rw [round2_of_nonneg hn hd, h2]
  show k * q.den = q.num * (100 : Nat)
  rw [Int.mul_comm, ← hk, Int.mul_comm]; rfl

theorem round2_ge_one {q : Q} (hd : 0 < q.den) (h : Q.le Q.one q) : Q.le Q.one (round2 q) := by
  have h1 : Q.le ⟨100, 100⟩ (round2 q) := round2_mono (a := Q.one) (by decide) (by decide) hd h
  unfold Q.le at *
  simp only [Q.one] at *
  omega

theorem qual_iff_le {m : Q} {u : MUnit} (hu : PosU u) (hm : 0 ≤ m.num) :
    Qual m u ↔ Q.le u.factor m := by
  unfold Qual
  rw [Q.abs_of_nonneg hm, Q.one_le_div_iff hu.1]

theorem qual_self {v : Int} (hv : v ≠ 0) {u : MUnit} (hu : PosU u) :
    Qual ((Q.ofInt v).mul u.factor) u := by
  refine (Q.one_le_div_iff hu.1).2 ?_
  show u.fnum * ((1 * u.fden : Nat) : Int) ≤ ((v * u.fnum).natAbs : Int) * u.fden
  rw [Nat.one_mul, Int.natAbs_mul, Int.natCast_mul, Int.natAbs_of_nonneg hu.1.le]
  exact Int.mul_le_mul_of_nonneg_right (le_mul_of_one_le_left hu.1.le (by omega))
    (Int.natCast_nonneg _)

theorem not_qual_zero {u : MUnit} (hu : PosU u) {f : Q} (hf : 0 < f.den) :
    ¬ Qual ((Q.ofInt 0).mul f) u := by
  intro h
  have h : u.fnum * ((1 * f.den : Nat) : Int) ≤ ((0 * f.num).natAbs : Int) * u.fden :=
    (Q.one_le_div_iff hu.1).1 h
  rw [Int.zero_mul, Int.natAbs_zero, Nat.one_mul, Int.natCast_zero, Int.zero_mul] at h
  exact absurd h (Int.not_le.2 (Int.mul_pos hu.1 (Int.natCast_pos.2 hf)))

/-- the label read back with its unit, `round2 (m / f) · f`, is monotone in `m` when `f` is the largest
of a set of unit sizes not above `m` (`l1 l2 max1 max2`: what `autoScale_spec` gives) and the step between
two sizes is a whole number of hundredths (`hcent`: `centesimalB`) -/
theorem label_mono {m1 m2 f1 f2 : Q} (h0 : 0 ≤ m1.num) (hd1 : 0 < m1.den) (hd2 : 0 < m2.den)
    (p1 : 0 < f1.num) (q1 : 0 < f1.den) (p2 : 0 < f2.num) (q2 : 0 < f2.den)
    (hle : Q.le m1 m2) (l1 : Q.le f1 m1) (l2 : Q.le f2 m2)
    (max1 : Q.le f2 m1 → Q.le f2 f1) (max2 : Q.le f1 m2 → Q.le f1 f2)
    (hcent : Q.lt f1 f2 → (100 * f2.num * f1.den) % (f2.den * f1.num) = 0) :
    Q.le ((round2 (m1.div f1)).mul f1) ((round2 (m2.div f2)).mul f2) := by
  have h02 := Q.nonneg_of_le h0 hd1 hle
  have x1n := Q.div_nonneg h0 p1
  have x1d := Q.div_den_pos hd1 p1.ne'
  have x2d := Q.div_den_pos hd2 p2.ne'
  have one_le : Q.le Q.one (round2 (m2.div f2)) :=
    round2_ge_one x2d ((Q.one_le_div_iff p2).2 l2)
  have r2n := Q.nonneg_of_le (a := Q.one) (by decide) (by decide) one_le
  by_cases h : Q.le f2 m1
  · -- units of the same size: rounding is monotone
    exact Q.mul_le_mul (round2_mono x1n x1d x2d (Q.div_le_div hle (max1 h) h02 p1 p2))
      (max2 (Q.le_trans' hd1 l1 hle)) r2n p1.le
  · -- a unit step `R = f2 / f1` lies between the two values, and rounding does not move it
    have Rn := Q.div_nonneg p2.le p1
    have Rd := Q.div_den_pos q2 p1.ne'
    have lt12 : Q.lt f1 f2 := by
      unfold Q.lt
      by_contra hcon
      exact h (Q.le_trans' q1 (by unfold Q.le; omega) l1)
    have Rfix : Q.eqv (round2 (f2.div f1)) (f2.div f1) :=
      round2_fix Rn Rd (by rw [Q.div_num p1, Q.div_den p1, ← Int.mul_assoc]; exact hcent lt12)
    have hr := round2_mono x1n x1d Rd
      (Q.div_le_div (Q.le_of_not_le h) (Q.le_refl f1) p2.le p1 p1)
    have A : Q.le ((round2 (m1.div f1)).mul f1) f2 := (Q.le_div_iff p1).1
      (Q.le_trans' (by rw [round2_of_nonneg Rn Rd]; exact Nat.succ_pos 99) hr (Q.le_of_eqv Rfix))
    exact Q.le_trans' q2 A (Q.le_mul_of_one_le one_le p2.le)

theorem pairwiseB_forall {α} (r : α → α → Bool) : ∀ (l : List α), pairwiseB r l = true →
    ∀ x ∈ l, ∀ y ∈ l, x ≠ y → r x y = true ∨ r y x = true
  | [], _, x, hx, _, _, _ => by cases hx
  | a :: l, h, x, hx, y, hy, hne => by
    unfold pairwiseB at h
    rw [Bool.and_eq_true, List.all_eq_true] at h
    rcases List.mem_cons.1 hx with rfl | hx' <;> rcases List.mem_cons.1 hy with rfl | hy'
    · exact absurd rfl hne
    · exact Or.inl (h.1 y hy')
    · exact Or.inr (h.1 x hx')
    · exact pairwiseB_forall r l h.2 x hx' y hy' hne

theorem mem_allAliases {F : Family} {u : MUnit} {a : Str} (hu : u ∈ F.units) (ha : a ∈ unitNames u) :
    a ∈ allAliases F := by
  unfold allAliases; exact List.mem_flatMap.2 ⟨u, hu, ha⟩

theorem aliasClash_of_spell {a b l : Str} (ha : a = l ∨ l = a ++ [115])
    (hb : b = l ∨ l = b ++ [115]) : aliasClash a b = true := by
  simp only [aliasClash, Bool.or_eq_true, beq_iff_eq]
  rcases ha with rfl | rfl <;> rcases hb with rfl | h
  · exact Or.inl (Or.inl rfl)
  · exact Or.inl (Or.inr h)
  · exact Or.inr rfl
  · exact Or.inl (Or.inl (List.append_cancel_right h))

theorem uniqueFamily_of_disjoint (T : Table) (h : aliasesDisjointB T = true) : UniqueFamily T := by
  intro s F G u w hF hG hu hw
  by_contra hne
  obtain ⟨hu1, a, ha, hal⟩ := sniffUnit_some hu
  obtain ⟨hw1, b, hb, hbl⟩ := sniffUnit_some hw
  have haF := mem_allAliases hu1 ha
  have hbG := mem_allAliases hw1 hb
  rcases pairwiseB_forall _ T h F hF G hG hne with hr | hr
  · have := List.all_eq_true.1 (List.all_eq_true.1 hr a haF) b hbG
    rw [aliasClash_of_spell hal hbl] at this
    cases this
  · have := List.all_eq_true.1 (List.all_eq_true.1 hr b hbG) a haF
    rw [aliasClash_of_spell hbl hal] at this
    cases this

theorem compatU_of_compatible {T : Table} {x y : VT} (h : compatible T x y = true) :
    CompatU T x.unit y.unit := by
  unfold compatible at h
  rw [Bool.and_eq_true, Bool.or_eq_true] at h
  rcases h.2 with h1 | h1
  · exact Or.inl (eq_of_beq h1)
  · obtain ⟨F, hF, hb⟩ := List.any_eq_true.1 h1
    rw [Bool.and_eq_true] at hb
    exact Or.inr ⟨F, hF, Option.isSome_iff_exists.1 hb.1, Option.isSome_iff_exists.1 hb.2⟩

theorem CompatU.symm {T : Table} {a b : Str} (h : CompatU T a b) : CompatU T b a := by
  rcases h with h | ⟨F, hF, h1, h2⟩
  · exact Or.inl h.symm
  · exact Or.inr ⟨F, hF, h2, h1⟩

theorem CompatU.trans {T : Table} (hU : UniqueFamily T) {a b c : Str}
    (h1 : CompatU T a b) (h2 : CompatU T b c) : CompatU T a c := by
  rcases h1 with rfl | ⟨F, hF, ha, hb⟩
  · exact h2
  · rcases h2 with rfl | ⟨G, hG, hb', hc⟩
    · exact Or.inr ⟨F, hF, ha, hb⟩
    · obtain ⟨u, hu⟩ := hb
      obtain ⟨w, hw⟩ := hb'
      have : F = G := hU b F G u w hF hG hu hw
      subst this
      exact Or.inr ⟨F, hF, ha, hc⟩

theorem firstFamily_of_sniff {T : Table} (hU : UniqueFamily T) {F : Family} (hF : F ∈ T) {s : Str}
    {u : MUnit} (hs : sniffUnit F s = some u) : firstFamily T s = some (F, u) := by
  cases h : firstFamily T s with
  | none =>
    unfold firstFamily at h
    rw [List.findSome?_eq_none_iff] at h
    have := h F hF
    simp [hs] at this
  | some p =>
    obtain ⟨G, w⟩ := p
    obtain ⟨hG, hw⟩ := firstFamily_some h
    have : G = F := hU s G F w u hG hF hw hs
    subst this
    rw [hs] at hw; cases hw; rfl

theorem isAuto_false_of_sniff {T : Table} (hA : autoNotUnitB T = true) {F : Family} (hF : F ∈ T)
    {s : Str} {u : MUnit} (hs : sniffUnit F s = some u) : isAuto s = false := by
  have h := List.all_eq_true.1 hA F hF
  rw [Bool.and_eq_true] at h
  rw [← Bool.not_eq_true]
  intro hc
  rcases Bool.or_eq_true_iff.1 hc with h1 | h1 <;> rw [eq_of_beq h1] at hs <;> simp [hs] at h

theorem phys_of_sniff {T : Table} (hU : UniqueFamily T) {F : Family} (hF : F ∈ T) {s : Str}
    {u : MUnit} (hs : sniffUnit F s = some u) : phys T s = u.factor := by
  unfold phys; rw [firstFamily_of_sniff hU hF hs]

/-- conversion between compatible units keeps the physical size: `Scale(v, a, b) · size(b) = v · size(a)` -/
theorem scale_phys {T : Table} (hpos : factorsPosB T = true) (hU : UniqueFamily T)
    (hA : autoNotUnitB T = true) {a b : Str} (h : CompatU T a b) (v : Int) :
    Q.eqv ((scale T v a b).1.mul (phys T b)) ((Q.ofInt v).mul (phys T a)) := by
  rw [scale_eq_core, scaleCore_eq]
  have both : ∀ F ∈ T, ∀ ua ub, sniffUnit F a = some ua → sniffUnit F b = some ub →
      Q.eqv ((convertFrom F ua v b).1.mul ub.factor) ((Q.ofInt v).mul ua.factor) := by
    intro F hF ua ub ha hb
    rw [convertFrom_of_sniff (isAuto_false_of_sniff hA hF hb) hb]
    exact Q.div_mul_cancel _ _ ((posU_of_table hpos hF).2 ub (sniffUnit_some hb).1).1
  rcases h with rfl | ⟨F, hF, ⟨ua, ha⟩, ⟨ub, hb⟩⟩
  · cases hff : firstFamily T a with
    | none =>
      unfold phys passthrough
      simp only [hff]
      exact Q.eqv_refl _
    | some p =>
      obtain ⟨F, ua⟩ := p
      obtain ⟨hF, ha⟩ := firstFamily_some hff
      unfold phys
      simp only [hff]
      exact both F hF ua ua ha ha
  · rw [firstFamily_of_sniff hU hF ha, phys_of_sniff hU hF ha, phys_of_sniff hU hF hb]
    exact both F hF ua ub ha hb

/-- `ratios[i], _ = Scale(1, st.Unit, sampleType[i].Unit)` of `ScaleProfiles` is the quotient of the sizes -/
theorem ratio_phys {T : Table} (hpos : factorsPosB T = true) (hU : UniqueFamily T)
    (hA : autoNotUnitB T = true) {a b : Str} (h : CompatU T a b) :
    Q.eqv ((scale T 1 a b).1.mul (phys T b)) (phys T a) := by
  have h := scale_phys hpos hU hA h 1
  change _ * ((1 * (phys T a).den : Nat) : Int) = 1 * (phys T a).num * _ at h
  rwa [Nat.one_mul, Int.one_mul] at h

theorem commonStep_ok {T : Table} {m t r : VT} (h : commonStep T m t = .ok r) :
    compatible T m t = true ∧ (r = t ∨ r = m) := by
  unfold commonStep at h
  split at h
  · cases h
  · rename_i hc
    refine ⟨by simpa using hc, ?_⟩
    split at h <;> cases h
    · exact Or.inl rfl
    · exact Or.inr rfl

theorem commonFold_ok {T : Table} (hU : UniqueFamily T) : ∀ (ts : List VT) (m r : VT),
    commonFold T m ts = .ok r → r ∈ m :: ts ∧ ∀ t ∈ m :: ts, CompatU T t.unit r.unit
  | [], m, r, h => by
    cases h
    exact ⟨List.mem_singleton_self _, List.forall_mem_singleton.2 (Or.inl rfl)⟩
  | t :: ts, m, r, h => by
    unfold commonFold at h
    cases hs : commonStep T m t with
    | ok m' =>
      rw [hs] at h
      obtain ⟨hc, hm'⟩ := commonStep_ok hs
      have hmt : CompatU T m.unit t.unit := compatU_of_compatible hc
      obtain ⟨h1, h2⟩ := commonFold_ok hU ts m' r h
      obtain ⟨hr, h2⟩ := List.forall_mem_cons.1 h2
      -- the running minimum `m'` is `t` or `m`, and these two are compatible
      have hmr : CompatU T m.unit r.unit ∧ CompatU T t.unit r.unit := by
        rcases hm' with rfl | rfl
        · exact ⟨hmt.trans hU hr, hr⟩
        · exact ⟨hr, hmt.symm.trans hU hr⟩
      refine ⟨?_, List.forall_mem_cons.2 ⟨hmr.1, List.forall_mem_cons.2 ⟨hmr.2, h2⟩⟩⟩
      rcases List.mem_cons.1 h1 with rfl | h1
      · rcases hm' with rfl | rfl <;> simp
      · exact List.mem_cons_of_mem _ (List.mem_cons_of_mem _ h1)
    | err e => rw [hs] at h; cases h
    | panic s => rw [hs] at h; cases h

theorem commonValueType_ok {T : Table} (hU : UniqueFamily T) {l : List VT} {c : VT}
    (h : commonValueType T l = .ok (some c)) : c ∈ l ∧ ∀ t ∈ l, CompatU T t.unit c.unit := by
  match l, h with
  | [], h => cases h
  | [_], h => cases h
  | t0 :: t1 :: rest, h =>
    simp only [commonValueType] at h
    cases hf : commonFold T t0 (t1 :: rest) with
    | ok m =>
      rw [hf] at h
      cases h
      exact commonFold_ok hU _ _ _ hf
    | err e => rw [hf] at h; cases h
    | panic s => rw [hf] at h; cases h

theorem commons_spec {T : Table} {ps : List MProf} : ∀ (is : List Nat) (cs : List (Option VT)),
    commons T ps is = .ok cs →
    cs.length = is.length ∧
      ∀ k (h1 : k < is.length) (h2 : k < cs.length),
        commonValueType T (column ps is[k]) = .ok cs[k]
  | [], cs, h => by
    simp only [commons] at h; cases h; exact ⟨rfl, fun k h1 => absurd h1 (by simp)⟩
  | i :: is, cs, h => by
    simp only [commons] at h
    cases hc : commonValueType T (column ps i) with
    | ok c =>
      rw [hc] at h; simp only at h
      cases hr : commons T ps is with
      | ok cs' =>
        rw [hr] at h; simp only at h; cases h
        obtain ⟨hl, hk⟩ := commons_spec is cs' hr
        refine ⟨congrArg Nat.succ hl, fun k h1 h2 => ?_⟩
        cases k with
        | zero => exact hc
        | succ k => exact hk k (Nat.lt_of_succ_lt_succ h1) (Nat.lt_of_succ_lt_succ h2)
      | err e => rw [hr] at h; cases h
      | panic s => rw [hr] at h; cases h
    | err e => rw [hc] at h; cases h
    | panic s => rw [hc] at h; cases h

theorem scale_den_pos {T : Table} (hpos : factorsPosB T = true) (v : Int) (a b : Str) :
    0 < (scale T v a b).1.den := by
  rw [scale_eq_core, scaleCore_eq]
  cases hff : firstFamily T a with
  | none => exact Nat.one_pos
  | some p =>
    obtain ⟨F, ua⟩ := p
    obtain ⟨hua, hd, hu⟩ := firstFamily_posU hpos hff
    obtain ⟨u, _, pu, _, hval⟩ := convertFrom_magnitude F ua v b hd hu
    simp only
    rw [hval]
    exact Q.div_den_pos (Nat.mul_pos Nat.one_pos (hu ua hua).2) pu.1.ne'

theorem scaleType_spec {T : Table} (hpos : factorsPosB T = true) (hU : UniqueFamily T)
    (hA : autoNotUnitB T = true) (st : VT) (c : Option VT)
    (hc : ∀ cv, c = some cv → CompatU T st.unit cv.unit) :
    (scaleType T st c).1.typ = st.typ ∧ 0 < (scaleType T st c).2.den ∧
    Q.eqv ((scaleType T st c).2.mul (phys T (scaleType T st c).1.unit)) (phys T st.unit) := by
  cases c with
  | none => exact ⟨rfl, Nat.one_pos, Q.one_mul_eqv _⟩
  | some cv => exact ⟨rfl, scale_den_pos hpos _ _ _, ratio_phys hpos hU hA (hc cv rfl)⟩

theorem scaleOne_harmonised {T : Table} (hpos : factorsPosB T = true) (hU : UniqueFamily T)
    (hA : autoNotUnitB T = true) (pc : Option VT) (cs : List (Option VT)) (p : MProf)
    (hlen : cs.length = p.sampleTypes.length)
    (hcs : ∀ i (h1 : i < p.sampleTypes.length) (h2 : i < cs.length) cv, cs[i] = some cv →
      CompatU T p.sampleTypes[i].unit cv.unit)
    (hpc : ∀ pt cv, p.periodType = some pt → pc = some cv → CompatU T pt.unit cv.unit) :
    Harmonised T p (scaleOne T pc cs p) := by
  unfold Harmonised scaleOne
  simp only [List.length_map, List.length_zipWith, hlen, Nat.min_self, List.getElem_map,
    List.getElem_zipWith, true_and]
  refine ⟨?_, ?_⟩
  · intro i h1 _ _
    exact scaleType_spec hpos hU hA _ _ (fun cv hcv => hcs i h1 (by omega) cv hcv)
  · cases hp : p.periodType with
    | none => simp
    | some pt =>
      cases hpc' : pc with
      | none => simp [Q.eqv, Q.mul, Q.ofInt]
      | some cv =>
        simp only
        exact ⟨trivial, scale_phys hpos hU hA (hpc pt cv hp hpc') p.period⟩

theorem scaleProfiles_spec {T : Table} (hpos : factorsPosB T = true) (hU : UniqueFamily T)
    (hA : autoNotUnitB T = true) (ps : List MProf) (out : List MProfOut)
    (h : scaleProfiles T ps = .ok out) :
    ∃ f : MProf → MProfOut, out = ps.map f ∧ ∀ p ∈ ps, Harmonised T p (f p) := by
  unfold scaleProfiles at h
  match ps, h with
  | [], h => cases h; exact ⟨fun p => scaleOne T none [] p, rfl, by simp⟩
  | p0 :: rest, h =>
    simp only at h
    cases hpc : commonValueType T ((p0 :: rest).filterMap (·.periodType)) with
    | err e => rw [hpc] at h; cases h
    | panic s => rw [hpc] at h; cases h
    | ok pc =>
      rw [hpc] at h; simp only at h
      split at h
      · cases h
      · rename_i hlen
        cases hcs : commons T (p0 :: rest) (List.range p0.sampleTypes.length) with
        | err e => rw [hcs] at h; cases h
        | panic s => rw [hcs] at h; cases h
        | ok cs =>
          rw [hcs] at h; simp only at h; cases h
          obtain ⟨hl, hk⟩ := commons_spec _ _ hcs
          rw [List.length_range] at hl
          have hall : ∀ p ∈ p0 :: rest, p.sampleTypes.length = p0.sampleTypes.length :=
            List.forall_mem_cons.2 ⟨rfl, fun p hp => Decidable.byContradiction fun hne =>
              hlen (List.any_eq_true.2 ⟨p, hp, by simpa using hne⟩)⟩
          refine ⟨scaleOne T pc cs, rfl, ?_⟩
          intro p hp
          apply scaleOne_harmonised hpos hU hA pc cs p (by rw [hl, hall p hp])
          · intro i h1 h2 cv hcv
            have hi : i < (List.range p0.sampleTypes.length).length := by
              rw [List.length_range, ← hall p hp]; exact h1
            have := hk i hi h2
            rw [List.getElem_range, hcv] at this
            exact (commonValueType_ok hU this).2 _ (List.mem_filterMap.2 ⟨p, hp, by simp [h1]⟩)
          · intro pt cv hpt hcv
            rw [hcv] at hpc
            exact (commonValueType_ok hU hpc).2 pt (List.mem_filterMap.2 ⟨p, hp, hpt⟩)

theorem sum_mul_ratio (r : Q) : ∀ vs : List Int,
    Q.eqv (Q.sum (vs.map fun v => (Q.ofInt v).mul r)) ((Q.ofInt vs.sum).mul r)
  | [] => by simp [Q.sum, Q.zero, Q.eqv, Q.mul, Q.ofInt]
  | v :: vs => by
    have ih := sum_mul_ratio r vs
    rw [List.map_cons, List.sum_cons, Q.sum]
    generalize Q.sum (vs.map fun v => (Q.ofInt v).mul r) = S at ih ⊢
    change S.num * ((1 * r.den : Nat) : Int) = vs.sum * r.num * S.den at ih
    show (v * r.num * S.den + S.num * ((1 * r.den : Nat) : Int)) * ((1 * r.den : Nat) : Int) =
      (v + vs.sum) * r.num * ((1 * r.den * S.den : Nat) : Int)
    rw [Int.add_mul, ih, Nat.one_mul, Int.natCast_mul]
    ring

theorem filterMap_zipWith_col (rows : List (List Int)) (rs : List Q) (i : Nat) (hi : i < rs.length)
    (hrows : ∀ s ∈ rows, s.length = rs.length) :
    (rows.map fun s => List.zipWith (fun v r => (Q.ofInt v).mul r) s rs).filterMap (·[i]?) =
      (rows.filterMap (·[i]?)).map fun v => (Q.ofInt v).mul rs[i] := by
  induction rows with
  | nil => rfl
  | cons s rows ih =>
    have hs : s.length = rs.length := hrows s (by simp)
    have hi' : i < s.length := by omega
    have ih' := ih (fun t ht => hrows t (by simp [ht]))
    simp only [List.map_cons, List.filterMap_cons]
    rw [List.getElem?_eq_getElem (by simp [hs, hi]), List.getElem?_eq_getElem hi']
    simp only [List.getElem_zipWith, List.map_cons]
    rw [ih']

theorem harmonised_totals {T : Table} {p : MProf} {o : MProfOut} (h : Harmonised T p o)
    (hrows : ∀ s ∈ p.samples, s.length = p.sampleTypes.length)
    (i : Nat) (h1 : i < p.sampleTypes.length) (h2 : i < o.sampleTypes.length) :
    Q.eqv ((colTotalQ o.samples i).mul (phys T o.sampleTypes[i].unit))
      ((Q.ofInt (colTotal p.samples i)).mul (phys T p.sampleTypes[i].unit)) := by
  obtain ⟨_, hl2, hcol, hs, _⟩ := h
  have h3 : i < o.ratios.length := by omega
  obtain ⟨_, hden, hr⟩ := hcol i h1 h2 h3
  unfold colTotalQ colTotal
  rw [hs, filterMap_zipWith_col p.samples o.ratios i h3 (fun s hs' => by rw [hrows s hs', hl2])]
  exact Q.mul_eqv_mul_of_ratio hden (sum_mul_ratio _ _) hr

theorem scaleByRatio_eq_tdiv (v : Int) (r : Q) (hd : r.den ≠ 0) :
    scaleByRatio v r = (v * r.num).tdiv r.den := by
  unfold scaleByRatio
  rw [if_neg hd]
  generalize v * r.num = a
  rcases a with (_ | n) | n
  · exact (Int.zero_mul _).trans (congrArg Nat.cast (Nat.zero_div _)).symm
  · exact Int.one_mul _
  · exact Int.neg_one_mul _

theorem pctRatio_of_ne {t : Int} (ht : t ≠ 0) (v : Int) :
    pctRatio v t = ⟨(v.natAbs : Int) * 100, t.natAbs⟩ := by
  simp [pctRatio, ht, Q.mul, Q.abs, Q.div, Q.ofInt, Int.natAbs_mul, Int.natAbs_sign_of_ne_zero ht]

theorem minStep_congr {x y : Int × Int} (h1 : x.1.natAbs = y.1.natAbs) (h2 : x.2.natAbs = y.2.natAbs)
    (m : Nat) : minStep m x = minStep m y := by
  unfold minStep; rw [h1, h2]

theorem minMagnitude_congr {a b : List (Int × Int)} (h : SameMagnitudes a b) :
    minMagnitude a = minMagnitude b := by
  unfold minMagnitude
  generalize 0 = m0
  induction h generalizing m0 with
  | nil => rfl
  | cons h1 h2 _ ih => rw [List.foldl_cons, List.foldl_cons, minStep_congr h1 h2]; exact ih _

theorem sameMagnitudes_neg (a : List (Int × Int)) :
    SameMagnitudes (a.map fun n => (-n.1, -n.2)) a := by
  induction a with
  | nil => exact SameMagnitudes.nil
  | cons x xs ih => exact SameMagnitudes.cons (by simp) (by simp) ih

theorem all_all_guard {α β} (l : List α) (m : List β) (p : α → β → Bool) (c : α → α → β → β → Bool) :
    (l.all fun u => l.all fun w => m.all fun s => m.all fun t => !(p u s && p w t) || c u w s t) =
    (l.all fun u => m.all fun s => !p u s || l.all fun w => m.all fun t => !p w t || c u w s t) := by
  rw [Bool.eq_iff_iff]
  simp only [List.all_eq_true, Bool.or_eq_true, Bool.not_eq_true', Bool.and_eq_false_iff]
  constructor
  · intro h u hu s hs
    cases hp : p u s
    · exact Or.inl rfl
    · exact Or.inr fun w hw t ht => (h u hu w hw s hs t ht).imp_left fun h' => h'.resolve_left (by simp [hp])
  · intro h u hu w hw s hs t ht
    rcases h u hu s hs with h1 | h1
    · exact Or.inl (Or.inl h1)
    · exact (h1 w hw t ht).imp_left Or.inr

/-- `familyMatches` with the size ratios compared only under a matching pair `(u, s)`: n³ instead
of n⁴ tests of `unitMatches` for a family of n units -/
def familyMatchesFast (F : Family) (S : Spec.Units.SFamily) : Bool :=
  F.units.length == S.units.length &&
  (F.units.all fun u => S.units.any fun s => unitMatches u s) &&
  (S.units.all fun s => F.units.any fun u => unitMatches u s) &&
  (F.units.all fun u => S.units.all fun s => !unitMatches u s ||
    F.units.all fun w => S.units.all fun t => !unitMatches w t ||
      closeB (u.factor.mul ⟨t.num, t.den⟩) (w.factor.mul ⟨s.num, s.den⟩))

theorem familyMatchesFast_eq (F : Family) (S : Spec.Units.SFamily) :
    familyMatchesFast F S = familyMatches F S := by
  unfold familyMatchesFast familyMatches
  rw [all_all_guard]

/-- `aliasClash` decided on the first bytes where both strings have one: two strings that clash
begin alike -/
def aliasClashFast : Str → Str → Bool
  | x :: a, y :: b => x == y && aliasClash a b
  | a, b => aliasClash a b

theorem aliasClashFast_eq (a b : Str) : aliasClashFast a b = aliasClash a b := by
  rcases a with _ | ⟨x, a⟩ <;> rcases b with _ | ⟨y, b⟩ <;> try rfl
  simp only [aliasClashFast, aliasClash, List.cons_append, List.cons_beq_cons,
    Bool.and_or_distrib_left, BEq.comm (a := y)]

end PV.Measure
