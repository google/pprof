import PprofVerif.Lemmas.DotDocLex
/-! C18: the tokens of the document model parse into its statements. -/
namespace PV.Dot

def attrVals : List Attr → List (Bytes × Bytes)
  | [] => []
  | a :: as => (a.key, a.val.raw) :: attrVals as

def nodesOf : List Stmt → List NodeStmt
  | [] => []
  | .node i as :: ss => ⟨i, attrVals as⟩ :: nodesOf ss
  | .edge _ _ _ :: ss => nodesOf ss

def edgesOf : List Stmt → List (Bytes × Bytes)
  | [] => []
  | .node _ _ :: ss => edgesOf ss
  | .edge s d _ :: ss => (s, d) :: edgesOf ss

/-- the next token neither opens another attribute list nor is a `;`: `pAttrLists` and `skipSemi` leave such
input as it is -/
def NoCont : List Tok → Prop
  | .lbrack :: _ => False
  | .semi :: _ => False
  | _ => True

theorem idVal_id {w : Bytes} (h : isKw w = false) : idVal (.id w) = some w := by simp [idVal, h]

theorem attrVal_tok {a : Attr} (ha : AttrOK a) : attrVal a.val.tok = some a.val.raw := by
  have := ha.valNoKw
  cases hv : a.val with
  | bare w => rw [hv] at this; simp [AVal.tok, AVal.raw, attrVal, this]
  | quoted b => simp [AVal.tok, AVal.raw, attrVal]

theorem skipSep_attrToks (as : List Attr) (rest : List Tok) :
    skipSep (attrToks as ++ .rbrack :: rest) = attrToks as ++ .rbrack :: rest := by
  cases as <;> simp [attrToks, skipSep]

theorem pAttrItems_attrToks (as : List Attr) (has : ∀ a ∈ as, AttrOK a) : ∀ (f : Nat), (attrToks as).length < f →
    ∀ rest, pAttrItems f (attrToks as ++ .rbrack :: rest) = some (attrVals as, rest) := by
  induction as with
  | nil =>
    intro f hf rest
    cases f with
    | zero => cases hf
    | succ f => simp [attrToks, attrVals, pAttrItems]
  | cons a t ih =>
    intro f hf rest
    cases f with
    | zero => cases hf
    | succ f =>
      obtain ⟨ha, ht⟩ := List.forall_mem_cons.mp has
      have iht := ih ht f (by simp only [attrToks, List.length_cons] at hf; omega) rest
      simp only [attrToks, List.cons_append, pAttrItems, idVal_id ha.keyNoKw, attrVal_tok ha,
        skipSep_attrToks, iht, attrVals]

theorem pAttrLists_nocont (f : Nat) (rest : List Tok) (hr : NoCont rest) : pAttrLists (f + 1) rest = some ([], rest) := by
  cases rest with
  | nil => rfl
  | cons t r => cases t <;> first | rfl | exact hr.elim

theorem pAttrLists_attrToks (as : List Attr) (has : ∀ a ∈ as, AttrOK a) (f : Nat) (hf : (attrToks as).length + 2 < f)
    (rest : List Tok) (hr : NoCont rest) :
    pAttrLists f (.lbrack :: (attrToks as ++ .rbrack :: rest)) = some (attrVals as, rest) := by
  cases f with
  | zero => cases hf
  | succ f =>
    cases f with
    | zero => omega
    | succ f =>
      simp only [pAttrLists, pAttrItems_attrToks as has (f + 1) (by omega) rest, pAttrLists_nocont f rest hr,
        List.append_nil]

theorem skipSemi_nocont (rest : List Tok) (hr : NoCont rest) : skipSemi rest = rest := by
  cases rest with
  | nil => rfl
  | cons t r => cases t <;> first | rfl | exact hr.elim

theorem pStmts_id {w : Bytes} (h : isKw w = false) (f depth : Nat) (r : List Tok) :
    pStmts (f + 1) depth (.id w :: r) = stmtAfterId (pStmts f depth) f w r := by
  have hk := h
  simp only [isKw, Bool.or_eq_false_iff, decide_eq_false_iff_not] at hk
  simp only [pStmts, hk, h, if_false, Bool.or_self, Bool.false_eq_true, decide_false]

/-- `ts` is a run of statements up to and including the closing brace, followed by `rest`.  No
parsing function calls itself without consuming a token, so any fuel above the number of tokens
will do. -/
def Parses (depth : Nat) (ts : List Tok) (acc : Acc) (rest : List Tok) : Prop :=
  ∀ f, ts.length < f → pStmts f depth ts = some (acc, rest)

theorem Parses.rbrace (depth : Nat) (rest : List Tok) : Parses depth (.rbrace :: rest) Acc.empty rest := by
  intro f hf
  cases f with
  | zero => cases hf
  | succ f => simp only [pStmts]

theorem node_fuel {i : Bytes} {as : List Attr} {ts : List Tok} {f : Nat}
    (hf : ((Stmt.node i as).toks ++ ts).length < f + 1) : ts.length < f ∧ (attrToks as).length + 2 < f := by
  simp only [Stmt.toks, List.cons_append, List.length_cons, List.length_append] at hf
  omega

theorem Parses.node {depth : Nat} {i : Bytes} {as : List Attr} {ts rest : List Tok} {more : Acc}
    (hi : isKw i = false) (has : ∀ a ∈ as, AttrOK a) (hr : NoCont ts) (h : Parses depth ts more rest) :
    Parses depth ((Stmt.node i as).toks ++ ts) ((Acc.mk [⟨i, attrVals as⟩] []).append more) rest := by
  intro f hf
  cases f with
  | zero => cases hf
  | succ f =>
    have hl := node_fuel hf
    simp only [Stmt.toks, List.cons_append, List.append_assoc, List.nil_append, pStmts_id hi, stmtAfterId,
      pAttrLists_attrToks as has f hl.2 ts hr, skipSemi_nocont ts hr, h f hl.1]

theorem pEdgeRhs_one (f : Nat) (s d : Bytes) (hd : isKw d = false) (r : List Tok) (hr : match r with | .arrow :: _ => False | _ => True) :
    pEdgeRhs (f + 2) s (.arrow :: .id d :: r) = some ([(s, d)], r) := by
  have h2 : pEdgeRhs (f + 1) d r = some ([], r) := by
    cases r with
    | nil => rfl
    | cons t r' => cases t <;> first | rfl | exact hr.elim
  simp only [pEdgeRhs, idVal_id hd, h2]

theorem Parses.edge {depth : Nat} {s d : Bytes} {as : List Attr} {ts rest : List Tok} {more : Acc}
    (hs : isKw s = false) (hd : isKw d = false) (has : ∀ a ∈ as, AttrOK a) (hr : NoCont ts)
    (h : Parses depth ts more rest) :
    Parses depth ((Stmt.edge s d as).toks ++ ts) ((Acc.mk [] [(s, d)]).append more) rest := by
  intro f hf
  simp only [Stmt.toks, List.cons_append, List.length_cons, List.length_append] at hf
  obtain ⟨f, rfl⟩ := Nat.exists_eq_add_of_le' (Nat.le_of_lt (Nat.lt_of_le_of_lt (Nat.le_add_left 3 _) hf))
  have hl : ts.length < f + 2 ∧ (attrToks as).length + 2 < f + 2 := by omega
  simp only [Stmt.toks, List.cons_append, List.append_assoc, List.nil_append, pStmts_id hs, stmtAfterId,
    pEdgeRhs_one f s d hd (Tok.lbrack :: (attrToks as ++ Tok.rbrack :: ts)) trivial,
    pAttrLists_attrToks as has (f + 2) hl.2 ts hr, skipSemi_nocont ts hr, h (f + 2) hl.1]

theorem nocont_stmtsToks (ss : List Stmt) (rest : List Tok) : NoCont (stmtsToks ss ++ .rbrace :: rest) := by
  cases ss with
  | nil => simp [stmtsToks, NoCont]
  | cons s t => cases s <;> simp [stmtsToks, Stmt.toks, NoCont]

theorem Parses.stmts (ss : List Stmt) (hss : ∀ s ∈ ss, StmtOK s) (depth : Nat) (rest : List Tok) :
    Parses depth (stmtsToks ss ++ .rbrace :: rest) ⟨nodesOf ss, edgesOf ss⟩ rest := by
  induction ss with
  | nil => exact Parses.rbrace depth rest
  | cons s t ih =>
    obtain ⟨hs, ht⟩ := List.forall_mem_cons.mp hss
    have iht := ih ht
    simp only [stmtsToks, List.append_assoc]
    cases s with
    | node i as => exact Parses.node hs.1.2 hs.2 (nocont_stmtsToks t rest) iht
    | edge a b as => exact Parses.edge hs.1.2 hs.2.1.2 hs.2.2 (nocont_stmtsToks t rest) iht

def legendNodes : Option (Bytes × List Attr) → List NodeStmt
  | none => []
  | some (lid, as) => [⟨unquote lid, attrVals as⟩]

theorem Parses.defaults {depth : Nat} {ts rest : List Tok} {acc : Acc} (hr : NoCont ts) (h : Parses depth ts acc rest) :
    Parses depth (defaultsToks ++ ts) acc rest := by
  intro f hf
  cases f with
  | zero => cases hf
  | succ f =>
    have hl := node_fuel (i := kwNode) (as := defaultAttrs) hf
    have h1 : ¬ (kwNode = kwSubgraph) := by decide
    have h2 : kwNode.map lower = kwNode := rfl
    simp only [defaultsToks, Stmt.toks, List.cons_append, List.append_assoc, List.nil_append, pStmts, h1, h2, if_false, if_true,
      Bool.true_or, decide_true, pAttrLists_attrToks defaultAttrs defaultAttrs_ok f hl.2 ts hr,
      skipSemi_nocont ts hr, h f hl.1]

/-- the legend is a subgraph holding one node statement with a quoted identifier -/
theorem Parses.legend {legend : Option (Bytes × List Attr)} {ts rest : List Tok} {more : Acc}
    (hl : ∀ p, legend = some p → ∀ a ∈ p.2, AttrOK a) (hr : NoCont ts)
    (h : Parses 1 ts more rest) :
    Parses 1 (legendToks legend ++ ts) ((Acc.mk (legendNodes legend) []).append more) rest := by
  cases legend with
  | none => exact h
  | some p =>
    obtain ⟨lid, as⟩ := p
    have has := hl (lid, as) rfl
    intro f hf
    simp only [legendToks, List.cons_append, List.length_cons, List.length_append, List.length_nil] at hf
    obtain ⟨f, rfl⟩ := Nat.exists_eq_add_of_le' (Nat.le_of_lt (Nat.lt_of_le_of_lt (Nat.le_add_left 3 _) hf))
    have hlen : ts.length < f + 2 ∧ (attrToks as).length + 2 < f + 1 := by omega
    have h1 : kwSubgraph.map lower = kwSubgraph := rfl
    have h2 : idVal (.id bClusterL) = some bClusterL := rfl
    have hnc : NoCont (Tok.rbrace :: ts) := trivial
    simp only [legendToks, List.cons_append, List.append_assoc, List.nil_append, pStmts, h1, if_true,
      skipOptName, h2, stmtAfterId, pAttrLists_attrToks as has (f + 1) hlen.2 (Tok.rbrace :: ts) hnc,
      skipSemi_nocont _ hnc, skipSemi_nocont ts hr, legendNodes, h (f + 2) hlen.1]
    rfl

theorem parseToks_doc (title : Bytes) (legend : Option (Bytes × List Attr)) (stmts : List Stmt)
    (hl : ∀ p, legend = some p → ∀ a ∈ p.2, AttrOK a)
    (hs : ∀ s ∈ stmts, StmtOK s) :
    parseToks (docToks title legend stmts) =
      some ⟨some (unquote title), legendNodes legend ++ nodesOf stmts, edgesOf stmts⟩ := by
  have h1 : kwDigraph.map lower = kwDigraph := rfl
  have hnc := nocont_stmtsToks stmts []
  have hnc' : NoCont (legendToks legend ++ (stmtsToks stmts ++ [Tok.rbrace])) := by
    cases legend with
    | none => exact hnc
    | some p => trivial
  have hp := Parses.defaults hnc' (Parses.legend hl hnc (Parses.stmts stmts hs 1 []))
  unfold Parses at hp
  unfold parseToks docToks
  simp only [h1, if_true, optName, idVal]
  rw [hp]
  · rfl
  · simp only [List.length_cons]; omega

end PV.Dot
