import PprofVerif.Lemmas.Order
import PprofVerif.Lemmas.Sprint
/-!
# C08 — lemmas for the repaired tie-breaks

* `thenByIndex`: a strict weak order followed by a tie-break on an index (ComposeDot after
  fixes/C08-calltree-deterministic.patch: edge comparator, then (source node id, destination node id))
  is a strict weak order that separates any two elements with different indices.
* `determines_info_of_fields`: a comparator that compares all eight fields of NodeInfo untransformed
  (compareNodes after fixes/C08-comparenodes-fieldwise-tiebreak.patch) determines the NodeInfo.
-/
namespace PV.Order

/-- `lt`, and where `lt` cannot separate, the smaller index first -/
def thenByIndex {α : Type} (lt : α → α → Bool) (idx : α → Nat) (a b : α) : Bool :=
  lt a b || (!lt b a && decide (idx a < idx b))

theorem thenByIndex_strictWeak {α : Type} {lt : α → α → Bool} (h : StrictWeak lt) (idx : α → Nat) :
    StrictWeak (thenByIndex lt idx) := by
  have left : ∀ a b c, lt a b = true → lt c b = false → lt a c = true := by
    intro a b c hab hcb
    cases hac : lt a c with
    | true => rfl
    | false => have := h.negTrans b c a hcb hac; rw [hab] at this; exact absurd this (by simp)
  have right : ∀ a b c, lt b a = false → lt b c = true → lt a c = true := by
    intro a b c hba hbc
    cases hac : lt a c with
    | true => rfl
    | false => have := h.negTrans c a b hac hba; rw [hbc] at this; exact absurd this (by simp)
  refine ⟨?_, ?_, ?_⟩
  · intro a; simp [thenByIndex, h.irrefl]
  · intro a b c hab hbc
    simp only [thenByIndex, Bool.or_eq_true, Bool.and_eq_true, Bool.not_eq_true', decide_eq_true_eq] at hab hbc ⊢
    rcases hab with hab | ⟨hba, hi⟩
    · rcases hbc with hbc | ⟨hcb, _⟩
      · exact Or.inl (h.trans a b c hab hbc)
      · exact Or.inl (left a b c hab hcb)
    · rcases hbc with hbc | ⟨hcb, hj⟩
      · exact Or.inl (right a b c hba hbc)
      · by_cases hac : lt a c = true
        · exact Or.inl hac
        · refine Or.inr ⟨h.negTrans a b c hba hcb, by omega⟩
  · intro a b c hba hcb
    simp only [thenByIndex, Bool.or_eq_false_iff, Bool.and_eq_false_iff, Bool.not_eq_false', decide_eq_false_iff_not] at hba hcb ⊢
    obtain ⟨hba1, hba2⟩ := hba
    obtain ⟨hcb1, hcb2⟩ := hcb
    refine ⟨h.negTrans a b c hba1 hcb1, ?_⟩
    by_cases hac : lt a c = true
    · exact Or.inl hac
    · right
      have hab : lt a b = false := by
        cases hab : lt a b with
        | false => rfl
        | true => exact absurd (left a b c hab hcb1) hac
      have hbc : lt b c = false := by
        cases hbc : lt b c with
        | false => rfl
        | true => exact absurd (right a b c hba1 hbc) hac
      have h1 : ¬ idx b < idx a := hba2.resolve_left (by rw [hab]; exact Bool.false_ne_true)
      have h2 : ¬ idx c < idx b := hcb2.resolve_left (by rw [hbc]; exact Bool.false_ne_true)
      omega

theorem thenByIndex_separates {α : Type} (lt : α → α → Bool) (idx : α → Nat) (a b : α)
    (h1 : thenByIndex lt idx a b = false) (h2 : thenByIndex lt idx b a = false) : idx a = idx b := by
  simp only [thenByIndex, Bool.or_eq_false_iff, Bool.and_eq_false_iff, Bool.not_eq_false', decide_eq_false_iff_not] at h1 h2
  obtain ⟨hab, h1'⟩ := h1
  obtain ⟨hba, h2'⟩ := h2
  have : ¬ idx a < idx b := h1'.resolve_left (by rw [hba]; exact Bool.false_ne_true)
  have : ¬ idx b < idx a := h2'.resolve_left (by rw [hab]; exact Bool.false_ne_true)
  omega

end PV.Order

namespace PV.GraphOrder
open PV.Order

/-- the eight field projections of NodeInfo -/
def infoFieldProjs : List NodeProj :=
  [.Info_Name, .Info_OrigName, .Info_Address, .Info_File, .Info_StartLine, .Info_Lineno, .Info_Columnno, .Info_Objfile]

/-- all eight fields are compared untransformed -/
def comparesAllInfoFields {π : Type} [DecidableEq π] (lift : NodeProj → π) (ks : List (KD π)) : Bool :=
  infoFieldProjs.all (fun p => hasIdKey (lift p) ks)

theorem determines_info_of_fields {π α : Type} [DecidableEq π] (get : π → α → Key) (lift : NodeProj → π)
    (nd : α → Node) (hget : ∀ p a, p ∈ infoFieldProjs → get (lift p) a = NodeProj.getBase p (nd a))
    (ks : List (KD π)) (h : comparesAllInfoFields lift ks = true) :
    KeysDetermineIdentity (ks.map (KD.toDesc get)) (fun a => (nd a).info) := by
  intro a b hall
  have key : ∀ p ∈ infoFieldProjs, NodeProj.getBase p (nd a) = NodeProj.getBase p (nd b) := by
    intro p hp
    have hk : hasIdKey (lift p) ks = true := List.all_eq_true.mp h p hp
    have := determines_of_hasIdKey get ks (lift p) (fun x => get (lift p) x) hk (fun _ _ e => e) a b hall
    rw [← hget p a hp, ← hget p b hp]; exact this
  have e1 := key .Info_Name (by decide)
  have e2 := key .Info_OrigName (by decide)
  have e3 := key .Info_Address (by decide)
  have e4 := key .Info_File (by decide)
  have e5 := key .Info_StartLine (by decide)
  have e6 := key .Info_Lineno (by decide)
  have e7 := key .Info_Columnno (by decide)
  have e8 := key .Info_Objfile (by decide)
  simp only [NodeProj.getBase] at e1 e2 e3 e4 e5 e6 e7 e8
  show (nd a).info = (nd b).info
  cases ha : (nd a).info; cases hb : (nd b).info
  simp only [ha, hb] at e1 e2 e3 e4 e5 e6 e7 e8
  simp only [NodeInfo.mk.injEq]
  exact ⟨skey_inj e1, skey_inj e2, Int.ofNat.inj (ikey_inj e3), skey_inj e4, ikey_inj e5, ikey_inj e6, ikey_inj e7, skey_inj e8⟩

end PV.GraphOrder
