import PprofVerif.Spec.StacksAggregate
import PprofVerif.Lemmas.ProfileValid
/-! C17: the frames of a sample.  The index loops of `makeInitialStacks` (`internal/report/stacks.go`) read exactly
the frames of the specification and fail exactly where it is undefined (`resolve_spec`); on a valid profile every
read succeeds (`valid_resolve`); under a granularity that keeps inlined frames, the frames of the aggregated view
are those of the profile, one for one, `aggFrame` applied to each (`sampleFrames_aggregate`). -/
namespace PV.Stacks
open PV

def toOpt {α} : Outcome α → Option α | .ok a => some a | _ => none

theorem toOpt_eq_some {α} {x : Outcome α} {a : α} : toOpt x = some a ↔ x = .ok a := by
  cases x <;> simp [toOpt]

theorem toOpt_bind {α β} (x : Outcome α) (f : α → Outcome β) :
    toOpt (x >>= f) = (toOpt x).bind fun a => toOpt (f a) := by
  cases x <;> rfl

theorem toOpt_mapO {α β} (f : α → Outcome β) (l : List α) :
    toOpt (mapO f l) = Spec.optMap (fun a => toOpt (f a)) l := by
  induction l with
  | nil => rfl
  | cons a r ih =>
    rw [mapO, Spec.optMap, ← ih]
    cases f a <;> cases mapO f r <;> rfl

theorem optMap_eq_some_iff {α β} {g : α → Option β} {l : List α} {bs : List β} :
    Spec.optMap g l = some bs ↔ l.map g = bs.map some := by
  induction l generalizing bs with
  | nil => cases bs <;> simp [Spec.optMap]
  | cons a r ih =>
    rw [Spec.optMap, List.map_cons]
    split
    · next b bs' ha hr =>
      rw [ha, ih.1 hr, ← List.map_cons, Option.some.injEq,
        List.map_inj_right fun _ _ => Option.some.inj]
    · next hn =>
      refine ⟨nofun, fun h => ?_⟩
      cases bs with
      | nil => cases h
      | cons b bs' =>
        obtain ⟨ha, hr⟩ := List.cons.inj h
        exact absurd (ih.2 hr) (hn b bs' ha)

theorem optMap_map {α α' β} (g : α' → Option β) (h : α → α') (l : List α) :
    Spec.optMap g (l.map h) = Spec.optMap (fun a => g (h a)) l := by
  induction l with
  | nil => rfl
  | cons a r ih => rw [List.map_cons, Spec.optMap, ih, Spec.optMap]

theorem optMap_comp_map {α β β'} (g : α → Option β) (k : β → β') (l : List α) :
    Spec.optMap (fun a => (g a).map k) l = (Spec.optMap g l).map (·.map k) := by
  induction l with
  | nil => rfl
  | cons a r ih =>
    rw [Spec.optMap, ih, Spec.optMap]
    cases g a <;> cases Spec.optMap g r <;> rfl

theorem optMap_reverse {α β} (g : α → Option β) (l : List α) :
    Spec.optMap g l.reverse = (Spec.optMap g l).map List.reverse := by
  ext bs
  rw [Option.map_eq_some_iff, optMap_eq_some_iff, List.map_reverse]
  constructor
  · intro h
    refine ⟨bs.reverse, optMap_eq_some_iff.2 ?_, List.reverse_reverse _⟩
    rw [List.map_reverse, ← h, List.reverse_reverse]
  · rintro ⟨cs, h, rfl⟩
    rw [optMap_eq_some_iff.1 h, List.map_reverse]

theorem exists_optMap_eq_some {α β} (g : α → Option β) (l : List α) (h : ∀ a ∈ l, ∃ b, g a = some b) :
    ∃ bs, Spec.optMap g l = some bs := by
  induction l with
  | nil => exact ⟨[], rfl⟩
  | cons a r ih =>
    obtain ⟨b, hb⟩ := h a List.mem_cons_self
    obtain ⟨bs, hbs⟩ := ih fun a' ha' => h a' (List.mem_cons_of_mem _ ha')
    exact ⟨b :: bs, by rw [Spec.optMap, hb, hbs]⟩

theorem downFrom_eq {α} (xs : List α) : ∀ n, n ≤ xs.length →
    downFrom xs n = .ok (((xs.take n).zipIdx.map (fun p => (p.2, p.1))).reverse)
  | 0, _ => rfl
  | j+1, h => by
    have hj : j < xs.length := h
    rw [downFrom, List.getElem?_eq_getElem hj, downFrom_eq xs j (Nat.le_of_lt hj),
      List.take_succ_eq_append_getElem hj, List.zipIdx_append, List.map_append, List.reverse_append,
      List.length_take, Nat.min_eq_left (Nat.le_of_lt hj), Nat.zero_add]
    rfl

/-- a Go loop `for j := len(xs)-1; j >= 0; j--` whose body may fail, seen from the specification:
the body applied to the numbered elements, results in reverse order. -/
theorem toOpt_downFrom_mapO {α β} (xs : List α) (f : Nat × α → Outcome β) :
    toOpt (downFrom xs xs.length >>= mapO f) =
      (Spec.optMap (fun q => toOpt (f (q.2, q.1))) xs.zipIdx).map List.reverse := by
  rw [downFrom_eq xs _ (Nat.le_refl _), List.take_length]
  show toOpt (mapO f _) = _
  rw [toOpt_mapO, optMap_reverse, optMap_map]

theorem flagLines_eq (lines : List Line) : ∀ k,
    (lines.zipIdx k).map (fun p => (p.1, decide (p.2 ≠ k + lines.length - 1))) = Spec.flagLines lines := by
  induction lines with
  | nil => intro k; rfl
  | cons l t ih =>
    intro k
    cases t with
    | nil => exact congrArg (fun b => [(l, b)]) (decide_eq_false (fun h => h rfl))
    | cons l' r =>
      -- the last index is the same number seen from position `k` and from `k+1`
      have e : k + (l :: l' :: r).length - 1 = k + 1 + (l' :: r).length - 1 :=
        Nat.add_right_comm k r.length 1
      rw [List.zipIdx_cons, List.map_cons, Spec.flagLines, ← ih (k+1), e]
      exact congrArg (fun b => (l, b) :: _) (decide_eq_true (Nat.ne_of_lt
        (Nat.lt_of_lt_of_le (Nat.lt_succ_self k) (Nat.le_add_right _ _))))

theorem locFrames_spec (p : Profile) (loc : Location) :
    toOpt (locFrames p loc) = (Spec.locFramesLeafFirst p loc).map List.reverse := by
  rw [Spec.locFramesLeafFirst, ← flagLines_eq loc.lines 0, optMap_map]
  refine (toOpt_downFrom_mapO loc.lines _).trans (congrArg (Option.map List.reverse) ?_)
  congr 1
  funext q
  simp only [Nat.zero_add]
  cases p.findFunction q.1.functionID <;> rfl

theorem sampleFrames_spec (p : Profile) (s : Sample) :
    toOpt (sampleFrames p s) = Spec.sampleFrames p s := by
  have h : sampleFrames p s = (downFrom s.locationIDs s.locationIDs.length >>= mapO fun il =>
      match p.findLocation il.2 with
      | some loc => locFrames p loc
      | none => .panic "nil Location") >>= fun fss => pure fss.flatten := by
    rw [sampleFrames]; cases downFrom s.locationIDs s.locationIDs.length <;> rfl
  have hstep : (fun q : Nat × Nat => toOpt (match p.findLocation q.1 with
      | some loc => locFrames p loc
      | none => .panic "nil Location")) = fun q =>
      ((p.findLocation q.1).bind (Spec.locFramesLeafFirst p)).map List.reverse := by
    funext q
    cases p.findLocation q.1 with
    | none => rfl
    | some loc => exact locFrames_spec p loc
  rw [h, toOpt_bind, toOpt_downFrom_mapO, hstep, optMap_comp_map,
    ← optMap_map (fun id => (p.findLocation id).bind (Spec.locFramesLeafFirst p)) Prod.fst,
    List.zipIdx_map_fst, Spec.sampleFrames]
  cases Spec.optMap (fun id => (p.findLocation id).bind (Spec.locFramesLeafFirst p)) s.locationIDs with
  | none => rfl
  | some fss =>
    show some (((fss.map List.reverse).reverse).flatten) = some fss.flatten.reverse
    rw [List.reverse_flatten]

theorem resolve_spec (p : Profile) (idx : Nat) : toOpt (resolve p idx) = Spec.resolve p idx := by
  rw [resolve, toOpt_mapO, Spec.resolve]
  congr 1
  funext s
  rw [toOpt_bind, Spec.resolveOne, ← sampleFrames_spec]
  simp only [sampleValue]
  cases s.values[idx]? <;> cases sampleFrames p s <;> rfl

theorem fst_mem_of_mem_flagLines {l : List Line} {a : Line × Bool} (h : a ∈ Spec.flagLines l) :
    a.1 ∈ l := by
  rw [← flagLines_eq l 0] at h
  obtain ⟨q, hq, rfl⟩ := List.mem_map.1 h
  exact (List.mem_zipIdx hq).2.2 ▸ List.getElem_mem _

theorem valid_resolve (p : Profile) (idx : Nat) (hv : p.Valid) (hi : idx < p.sampleType.length) :
    ∃ rs, resolve p idx = .ok rs := by
  have hloc : ∀ loc ∈ p.locations, ∃ fs, Spec.locFramesLeafFirst p loc = some fs := by
    intro loc hloc
    apply exists_optMap_eq_some
    intro a ha
    obtain ⟨_, fn, hfn, _⟩ := hv.findFunction hloc (fst_mem_of_mem_flagLines ha)
    exact ⟨_, congrArg (Option.map _) hfn⟩
  suffices ∃ rs, Spec.resolve p idx = some rs by
    obtain ⟨rs, h⟩ := this
    exact ⟨rs, toOpt_eq_some.1 ((resolve_spec p idx).trans h)⟩
  apply exists_optMap_eq_some
  intro s hsm
  have hlen := hv.values_length hsm
  obtain ⟨fss, hfss⟩ := exists_optMap_eq_some (fun id => (p.findLocation id).bind (Spec.locFramesLeafFirst p))
    s.locationIDs (by
      intro id hid
      obtain ⟨_, loc, hfl, hin⟩ := hv.findLocation hsm hid
      obtain ⟨fs, hfs⟩ := hloc loc hin
      exact ⟨fs, by rw [hfl]; exact hfs⟩)
  exact ⟨_, by rw [Spec.resolveOne, List.getElem?_eq_getElem (hlen ▸ hi), Spec.sampleFrames, hfss]; rfl⟩

open Spec

theorem flagLines_map (h : Line → Line) (l : List Line) :
    flagLines (l.map h) = (flagLines l).map (fun x => (h x.1, x.2)) := by
  induction l with
  | nil => rfl
  | cons a t ih =>
    cases t with
    | nil => rfl
    | cons b r => rw [List.map_cons, List.map_cons, flagLines, ← List.map_cons, ih]; rfl

theorem findFunction_aggregate (f : AggFlags) (hn : f.none = false) (p : Profile) (i : Nat) :
    (aggregate f p).findFunction i = (p.findFunction i).map (aggFunction f) := by
  simp only [aggregate, hn, Profile.findFunction]
  exact ListFacts.find?_map_of_key_eq (aggFunction f) (·.id) (fun _ => rfl) p.functions i

theorem findLocation_aggregate (f : AggFlags) (hn : f.none = false) (p : Profile) (i : Nat) :
    (aggregate f p).findLocation i = (p.findLocation i).map (aggLocation f) := by
  simp only [aggregate, hn, Profile.findLocation]
  exact ListFacts.find?_map_of_key_eq (aggLocation f) (·.id) (fun _ => rfl) p.locations i

theorem locFrames_aggregate (f : AggFlags) (hn : f.none = false) (hi : f.inlines = true)
    (p : Profile) (loc : Location) :
    locFramesLeafFirst (aggregate f p) (aggLocation f loc) =
      (locFramesLeafFirst p loc).map (·.map (aggFrame f)) := by
  simp only [locFramesLeafFirst, aggLocation, hi, if_true, flagLines_map]
  rw [optMap_map, ← optMap_comp_map]
  congr 1
  funext a
  rw [findFunction_aggregate f hn]
  show Option.map _ (Option.map (aggFunction f) (p.findFunction a.1.functionID)) = _
  cases p.findFunction a.1.functionID <;> rfl

theorem sampleFrames_aggregate (f : AggFlags) (hn : f.none = false) (hi : f.inlines = true)
    (p : Profile) (s : Sample) :
    Spec.sampleFrames (aggregate f p) s = (Spec.sampleFrames p s).map (·.map (aggFrame f)) := by
  have hpt : (fun id => ((aggregate f p).findLocation id).bind (locFramesLeafFirst (aggregate f p))) =
      fun id => ((p.findLocation id).bind (locFramesLeafFirst p)).map (·.map (aggFrame f)) := by
    funext id
    rw [findLocation_aggregate f hn]
    cases p.findLocation id with
    | none => rfl
    | some loc => exact locFrames_aggregate f hn hi p loc
  rw [Spec.sampleFrames, hpt, optMap_comp_map, Spec.sampleFrames]
  cases optMap (fun id => (p.findLocation id).bind (locFramesLeafFirst p)) s.locationIDs with
  | none => rfl
  | some fss => simp [List.map_flatten, List.map_reverse]

end PV.Stacks
