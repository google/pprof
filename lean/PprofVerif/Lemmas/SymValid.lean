import PprofVerif.Lemmas.SymBasic
import PprofVerif.Lemmas.ListFacts
/-!
Lemmas for C12: the function table.  Every property of the table that `alloc` keeps and
`rescan` re-establishes survives the whole run (`symbolizeTables_inv`); three instances: the table
only grows, new ids are fresh unless the id counter wrapped, and the counter does not wrap while the
largest id of the input plus the number of functions added fits a uint64.  Core Lean only.
-/
namespace PV.Sym
open PV

def HasId (fs : List Function) (i : Nat) : Prop := ∃ f ∈ fs, f.id = i
def LinesIn (fs : List Function) (l : Location) : Prop := ∀ ln ∈ l.lines, HasId fs ln.functionID
def LocsIn (fs : List Function) (locs : List Location) : Prop := ∀ l ∈ locs, LinesIn fs l

/-- unique non-zero ids (`idsNodup` of the id list). -/
def Good (fs : List Function) : Prop := (fs.map (·.id)).Nodup ∧ 0 ∉ fs.map (·.id)

/-- the table grows by appending functions whose name is their system name. -/
def Ext (fs fs' : List Function) : Prop := ∃ extra, fs' = fs ++ extra ∧ ∀ g ∈ extra, g.name = g.systemName

theorem Ext.refl (fs : List Function) : Ext fs fs := ⟨[], by simp, by simp⟩
theorem Ext.trans {a b c : List Function} (h1 : Ext a b) (h2 : Ext b c) : Ext a c := by
  obtain ⟨e1, rfl, p1⟩ := h1
  obtain ⟨e2, rfl, p2⟩ := h2
  exact ⟨e1 ++ e2, List.append_assoc .., fun g hg => (List.mem_append.mp hg).elim (p1 g) (p2 g)⟩
theorem Ext.subset {a b : List Function} (h : Ext a b) : ∀ f ∈ a, f ∈ b := by
  obtain ⟨e, rfl, _⟩ := h
  exact fun f hf => List.mem_append_left _ hf

theorem HasId.mono {a b : List Function} (h : Ext a b) {i} (hi : HasId a i) : HasId b i := by
  obtain ⟨f, hf, e⟩ := hi; exact ⟨f, h.subset f hf, e⟩
theorem LinesIn.mono {a b : List Function} (h : Ext a b) {l} (hl : LinesIn a l) : LinesIn b l :=
  fun ln hln => (hl ln hln).mono h
theorem LocsIn.mono {a b : List Function} (h : Ext a b) {locs} (hl : LocsIn a locs) : LocsIn b locs :=
  fun l hl' => (hl l hl').mono h

theorem Good.map {h : Function → Function} (hid : ∀ f, (h f).id = f.id) {fs : List Function}
    (hg : Good fs) : Good (fs.map h) := by
  unfold Good
  rwa [List.map_map, (funext hid : (·.id) ∘ h = (·.id))]

theorem LocsIn.map {h : Function → Function} (hid : ∀ f, (h f).id = f.id) {fs : List Function}
    {locs : List Location} (hl : LocsIn fs locs) : LocsIn (fs.map h) locs := fun l hl' ln hln =>
  have ⟨f, hf, e⟩ := hl l hl' ln hln
  ⟨h f, List.mem_map_of_mem hf, (hid f).trans e⟩

/-- `P` is an invariant of the table while ids are handed out (inside one `doLocalSymbolize` or
one `symbolizeMapping`), `Q` between these phases: each phase starts with `rescan`. -/
structure TabInv (P Q : FTab → Prop) : Prop where
  alloc : ∀ {t} name file sl, P t → P (t.alloc name file sl).1
  rescan : ∀ {t}, Q t → P t.rescan
  weaken : ∀ {t}, P t → Q t

section
variable {P Q : FTab → Prop} (I : TabInv P Q) {σ τ : Type} {tool : ObjTool σ} {isSourceURL : Str → Bool}
  {z : Symz τ} {force : Bool} {sources : Sources}
include I

theorem addFunction_inv {st : LSt} {fr : Frame} (h : P st.tab) : P (addFunction st fr).1.tab := by
  fun_cases addFunction st fr
  · exact h
  · exact I.alloc _ _ _ h

theorem symFrames_inv {st : LSt} {m : Mapping} {frs : List Frame} (h : P st.tab) :
    P (symFrames st m frs).1.tab := by
  fun_induction symFrames st m frs
  case case1 => exact h
  case case2 ih => exact ih (addFunction_inv I h)

theorem symLocation_inv {s : σ} {st : LSt} {m : Mapping} {l : Location} (h : P st.tab) :
    P (symLocation tool s st m l).2.1.tab := by
  fun_cases symLocation tool s st m l
  · exact symFrames_inv I h
  · exact h

theorem symLocs_inv {mid : Nat} {s : σ} {st : LSt} {m : Mapping} {locs : List Location} (h : P st.tab) :
    P (symLocs tool mid s st m locs).2.1.tab := by
  fun_induction symLocs tool mid s st m locs
  case case1 => exact h
  case case2 ih => exact ih (symLocation_inv I h)
  case case3 ih => exact ih h

theorem localMapping_inv {s : σ} {st : LSt} {locs : List Location} {m : Mapping} (h : P st.tab) :
    P (localMapping tool isSourceURL force s st locs m).2.1.tab := by
  fun_cases localMapping tool isSourceURL force s st locs m
  · exact h
  · exact h
  · exact symLocs_inv I h
  · exact h

theorem localLoop_inv {s : σ} {st : LSt} {locs : List Location} {ms : List Mapping} (h : P st.tab) :
    P (localLoop tool isSourceURL force s st locs ms).2.1.tab := by
  fun_induction localLoop tool isSourceURL force s st locs ms
  case case1 => exact h
  case case2 ih => exact ih (localMapping_inv I h)

theorem doLocal_inv {s : σ} {tab : FTab} {locs : List Location} {ms : List Mapping} (h : Q tab) :
    Q (doLocal tool isSourceURL force s tab locs ms).2.1 :=
  I.weaken (localLoop_inv I (I.rescan h))

theorem internName_inv {st : ZSt} {name : Str} (h : P st.tab) : P (internName st name).1.tab := by
  fun_cases internName st name
  · exact h
  · exact I.alloc _ _ _ h

theorem symzLines_inv {parseLine : Str → Option (Outcome Nat × Str)} {negOff : Int}
    {st : ZSt} {lines : List Str} (h : P st.tab) : P (symzLines parseLine negOff st lines).1.tab := by
  fun_induction symzLines parseLine negOff st lines
  case case1 => exact h
  case case2 ih => exact ih h
  case case3 => exact h
  case case4 ih => exact ih (internName_inv I h)
  case case5 => exact h

theorem symbolizeMapping_inv {src : Str} {off : Int} {mid : Nat} {t : τ} {tab : FTab} {locs : List Location}
    (h : Q tab) : Q (symbolizeMapping z src off mid t tab locs).2.1 := by
  fun_cases symbolizeMapping z src off mid t tab locs
  case case5 => exact h
  case case1 => exact h
  case case2 => exact h
  all_goals exact I.weaken (symzLines_inv I (I.rescan h))

theorem remoteMapping_inv {t : τ} {tab : FTab} {locs : List Location} {m : Mapping} (h : Q tab) :
    Q (remoteMapping z force sources t tab locs m).2.1 := by
  fun_cases remoteMapping z force sources t tab locs m
  case case1 => exact h
  case case2 => exact h
  all_goals exact symbolizeMapping_inv I h

theorem remoteLoop_inv {t : τ} {tab : FTab} {locs : List Location} {ms : List Mapping} (h : Q tab) :
    Q (remoteLoop z force sources t tab locs ms).2.1 := by
  fun_induction remoteLoop z force sources t tab locs ms
  case case1 => exact h
  case case2 => exact remoteMapping_inv I h
  case case3 ih => exact ih (remoteMapping_inv I h)

theorem symbolizeTables_inv (env : Env σ τ) (o : Opts) (sources : Sources) (p : Profile)
    (s : σ) (t : τ) (h : Q ⟨p.functions, 0, false⟩) : Q (symbolizeTables env o sources p s t).2.1 := by
  unfold symbolizeTables
  extract_lets tab0 l
  have hl : Q l.2.1 := by
    unfold l
    split
    · exact doLocal_inv I h
    · exact h
  split
  · exact remoteLoop_inv I hl
  · exact hl

end

theorem tabInv_ext (fs : List Function) :
    TabInv (fun t => Ext fs t.functions) (fun t => Ext fs t.functions) where
  alloc _ _ _ h := h.trans ⟨[_], rfl, by simp⟩
  rescan h := h
  weaken h := h

theorem symbolizeTables_ext {σ τ} (env : Env σ τ) (o : Opts) (sources : Sources) (p : Profile)
    (s : σ) (t : τ) : Ext p.functions (symbolizeTables env o sources p s t).2.1.functions :=
  symbolizeTables_inv (tabInv_ext p.functions) env o sources p s t (Ext.refl _)

def FGood (t : FTab) : Prop := t.wrapped = false → Good t.functions
/-- the bound by `top` is what makes the next id fresh; between phases it is forgotten (`FGood`) and
`rescan` restores it. -/
def FInv (t : FTab) : Prop := t.wrapped = false → Good t.functions ∧ ∀ f ∈ t.functions, f.id ≤ t.top

theorem maxFuncID_le_iff (fs : List Function) (B : Nat) : maxFuncID fs ≤ B ↔ ∀ f ∈ fs, f.id ≤ B :=
  (ListFacts.foldl_max_le_iff Function.id fs 0 B).trans (and_iff_right (Nat.zero_le B))

theorem maxFuncID_ge (fs : List Function) : ∀ f ∈ fs, f.id ≤ maxFuncID fs :=
  (maxFuncID_le_iff fs _).mp (Nat.le_refl _)

theorem Good.snoc {fs : List Function} {top : Nat} (g : Function) (h : Good fs)
    (hb : ∀ f ∈ fs, f.id ≤ top) (hg : top < g.id) : Good (fs ++ [g]) := by
  have hfresh : g.id ∉ fs.map (·.id) := fun hm =>
    have ⟨f, hf, (e : f.id = g.id)⟩ := List.mem_map.mp hm
    Nat.not_lt.mpr (e ▸ hb f hf) hg
  constructor
  · rw [List.map_append, List.nodup_append]
    refine ⟨h.1, List.pairwise_singleton .., fun a ha b hb' e => ?_⟩
    have e' : a = g.id := e.trans (List.mem_singleton.mp hb')
    exact hfresh (e' ▸ ha)
  · rw [List.map_append, List.mem_append]
    rintro (h0 | h0)
    · exact h.2 h0
    · have e : 0 = g.id := List.mem_singleton.mp h0
      exact Nat.not_lt_zero _ (e ▸ hg)

theorem tabInv_good : TabInv FInv FGood where
  alloc {t} name file sl h := by
    intro hw
    simp only [FTab.alloc, Bool.or_eq_false_iff, decide_eq_false_iff_not, Nat.not_le] at hw ⊢
    obtain ⟨hg, hb⟩ := h hw.1
    rw [Nat.mod_eq_of_lt hw.2]
    refine ⟨hg.snoc _ hb (Nat.lt_succ_self _), ?_⟩
    intro f hf
    rcases List.mem_append.mp hf with hf | hf
    · exact Nat.le_succ_of_le (hb f hf)
    · rw [List.mem_singleton.mp hf]; exact Nat.le_refl _
  rescan h := fun hw => ⟨h hw, maxFuncID_ge _⟩
  weaken h := fun hw => (h hw).1

/-- `M` = largest id of the input table, `n0` = its length, `k` = the number of functions added. -/
def WInv (M n0 : Nat) (t : FTab) : Prop :=
  ∃ k, t.functions.length = n0 + k ∧ (∀ f ∈ t.functions, f.id ≤ M + k) ∧ t.top ≤ M + k ∧
    (M + k < two64 → t.wrapped = false)

theorem tabInv_winv (M n0 : Nat) : TabInv (WInv M n0) (WInv M n0) where
  alloc {t} name file sl h := by
    obtain ⟨k, hk, h2, h3, h4⟩ := h
    have hid : (t.top + 1) % two64 ≤ M + (k + 1) := Nat.le_trans (Nat.mod_le _ _) (Nat.succ_le_succ h3)
    refine ⟨k + 1, List.length_append.trans (congrArg (· + 1) hk), fun f hf => ?_, hid, fun hb => ?_⟩
    · rcases List.mem_append.mp hf with hf | hf
      · exact Nat.le_succ_of_le (h2 f hf)
      · rw [List.mem_singleton.mp hf]; exact hid
    · show (t.wrapped || decide (two64 ≤ t.top + 1)) = false
      rw [h4 (Nat.lt_of_succ_lt hb), Bool.false_or, decide_eq_false_iff_not, Nat.not_le]
      exact Nat.lt_of_le_of_lt (Nat.succ_le_succ h3) hb
  rescan h := h.imp fun _ h => ⟨h.1, h.2.1, (maxFuncID_le_iff _ _).mpr h.2.1, h.2.2.2⟩
  weaken h := h

theorem symbolizeTables_winv {σ τ} (env : Env σ τ) (o : Opts) (sources : Sources) (p : Profile)
    (s : σ) (t : τ) :
    WInv (maxFuncID p.functions) p.functions.length (symbolizeTables env o sources p s t).2.1 :=
  symbolizeTables_inv (tabInv_winv _ _) env o sources p s t
    ⟨0, rfl, maxFuncID_ge _, Nat.zero_le _, fun _ => rfl⟩

end PV.Sym
