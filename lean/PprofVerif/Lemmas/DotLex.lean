import PprofVerif.Lemmas.DotEscape
/-! C18: the lexer, token by token.  `Lexes s ts` = some amount of fuel lexes `s` into `ts`; it implies
`lex s = some ts` (fuel above the input length is irrelevant). -/
namespace PV.Dot

def Lexes (s : Bytes) (ts : List Tok) : Prop := ∃ f, lexF f s = some ts

theorem scanA_eq : ∀ (s : Bytes) {esc : Bool} {b r : Bytes}, scanA esc s = some (b, r) → s = b ++ DQ :: r := by
  intro s
  induction s with
  | nil => intro esc b r h; cases esc <;> simp [scanA] at h
  | cons x t ih =>
    intro esc b r h
    have key : ∀ e, (scanA e t).map (fun p => (x :: p.1, p.2)) = some (b, r) → x :: t = b ++ DQ :: r := by
      intro e hm
      obtain ⟨p, hp, hpe⟩ := Option.map_eq_some_iff.mp hm
      cases hpe
      rw [ih hp]; rfl
    cases esc
    · simp only [scanA] at h
      split at h
      · rename_i hx; cases h; rw [hx]; rfl
      · split at h
        · exact key true h
        · exact key false h
    · exact key false h

theorem ite_ne {α} {c : Prop} [Decidable c] {a b x : α} (ha : a ≠ x) (hb : b ≠ x) : (if c then a else b) ≠ x := by
  split <;> assumption

theorem ne_of_isIdByte {b c : UInt8} (hb : isIdByte b = true) (hc : isIdByte c = false) : b ≠ c :=
  fun e => by rw [e, hc] at hb; cases hb

/-- No branch of `bcls` but the one guarded by `isIdByte` yields `.idb`, and the bytes tested for before it are not
identifier bytes. -/
theorem bcls_eq_idb {b : UInt8} : bcls b = .idb ↔ isIdByte b = true := by
  constructor
  · intro h
    cases hi : isIdByte b with
    | true => rfl
    | false =>
      refine absurd h ?_
      simp only [bcls, hi, Bool.false_eq_true, if_false]
      repeat' apply ite_ne
      all_goals nofun
  · intro h
    simp (disch := decide) only [bcls, isSpace, ne_of_isIdByte h, h, if_true, if_false, Bool.or_false, decide_false,
      Bool.false_eq_true]

theorem lexStep_progress (s : Bytes) :
    (lexStep s = .eof → s = []) ∧ (∀ r, lexStep s = .skip r → r.length < s.length) ∧
      (∀ t r, lexStep s = .tok t r → r.length < s.length) := by
  cases s with
  | nil => simp [lexStep]
  | cons b r =>
    simp only [lexStep]
    cases hc : bcls b with
    | space => simp
    | bad => simp
    | punct t => simp
    | quote =>
      cases hsq : scanQ r with
      | none => simp
      | some p =>
        have hl := congrArg List.length (scanA_eq r hsq)
        simp at hl ⊢; omega
    | dash =>
      cases r with
      | nil => simp
      | cons c r' =>
        simp only
        split
        · simp; omega
        · simp
    | idb =>
      simp only
      split
      · have := (List.dropWhile_sublist isIdByte (l := r)).length_le
        simp [List.dropWhile, bcls_eq_idb.mp hc]; omega
      · simp

theorem lexStep_eof (s : Bytes) (h : lexStep s = .eof) : s = [] := (lexStep_progress s).1 h

theorem lexF_of_length_lt : ∀ {f : Nat} {s : Bytes} {ts : List Tok}, lexF f s = some ts →
    ∀ f', s.length < f' → lexF f' s = some ts := by
  intro f
  induction f with
  | zero => intro s ts h; simp [lexF] at h
  | succ f ih =>
    intro s ts h f' hf'
    cases f' with
    | zero => omega
    | succ f' =>
      simp only [lexF] at h ⊢
      have hl := (lexStep_progress s).2
      cases hst : lexStep s with
      | eof => simpa [hst] using h
      | fail => simp [hst] at h
      | skip r =>
        simp only [hst] at h ⊢
        exact ih h f' (by have := hl.1 r hst; omega)
      | tok t r =>
        simp only [hst] at h ⊢
        cases hr : lexF f r with
        | none => simp [hr] at h
        | some ts' =>
          rw [ih hr f' (by have := hl.2 t r hst; omega)]
          simpa [hr] using h

theorem Lexes.toLex {s : Bytes} {ts : List Tok} (h : Lexes s ts) : lex s = some ts := by
  obtain ⟨f, hf⟩ := h
  exact lexF_of_length_lt hf _ (Nat.lt_succ_self _)

theorem Lexes.nil : Lexes [] [] := ⟨1, by simp [lexF, lexStep]⟩

theorem Lexes.skip {s r : Bytes} {ts : List Tok} (hs : lexStep s = .skip r) (h : Lexes r ts) : Lexes s ts := by
  obtain ⟨f, hf⟩ := h
  exact ⟨f + 1, by simp [lexF, hs, hf]⟩

theorem Lexes.step {s r : Bytes} {t : Tok} {ts : List Tok} (hs : lexStep s = .tok t r) (h : Lexes r ts) :
    Lexes s (t :: ts) := by
  obtain ⟨f, hf⟩ := h
  exact ⟨f + 1, by simp [lexF, hs, hf]⟩

theorem Lexes.space {b : UInt8} {r ts} (hb : bcls b = .space) (h : Lexes r ts) : Lexes (b :: r) ts :=
  Lexes.skip (by simp only [lexStep, hb]) h

theorem Lexes.punct {b : UInt8} {t : Tok} {r ts} (hb : bcls b = .punct t) (h : Lexes r ts) : Lexes (b :: r) (t :: ts) :=
  Lexes.step (by simp only [lexStep, hb]) h

theorem Lexes.sp {r ts} (h : Lexes r ts) : Lexes (0x20 :: r) ts := Lexes.space (by decide) h
theorem Lexes.nl {r ts} (h : Lexes r ts) : Lexes (0x0a :: r) ts := Lexes.space (by decide) h
theorem Lexes.lbrace {r ts} (h : Lexes r ts) : Lexes (0x7b :: r) (.lbrace :: ts) := Lexes.punct (by decide) h
theorem Lexes.rbrace {r ts} (h : Lexes r ts) : Lexes (0x7d :: r) (.rbrace :: ts) := Lexes.punct (by decide) h
theorem Lexes.lbrack {r ts} (h : Lexes r ts) : Lexes (0x5b :: r) (.lbrack :: ts) := Lexes.punct (by decide) h
theorem Lexes.rbrack {r ts} (h : Lexes r ts) : Lexes (0x5d :: r) (.rbrack :: ts) := Lexes.punct (by decide) h
theorem Lexes.eq {r ts} (h : Lexes r ts) : Lexes (0x3d :: r) (.eq :: ts) := Lexes.punct (by decide) h
theorem Lexes.arrow {r ts} (h : Lexes r ts) : Lexes (0x2d :: 0x3e :: r) (.arrow :: ts) :=
  Lexes.step (by simp only [lexStep, show bcls 0x2d = .dash by decide, if_true]) h

theorem Lexes.str {body r : Bytes} {ts : List Tok} (hb : qsafeB body = true) (h : Lexes r ts) :
    Lexes (DQ :: body ++ DQ :: r) (.str body :: ts) := by
  refine Lexes.step ?_ h
  simp only [List.cons_append, lexStep, show bcls DQ = .quote by decide, scanQ_of_qsafeB body hb r]

/-- what a bare identifier must look like -/
structure IdOK (w : Bytes) : Prop where
  ne : w ≠ []
  idb : ∀ b ∈ w, isIdByte b = true
  valid : validId w = true

theorem Lexes.id {w : Bytes} {d : UInt8} {r : Bytes} {ts : List Tok} (hw : IdOK w) (hd : isIdByte d = false)
    (h : Lexes (d :: r) ts) : Lexes (w ++ d :: r) (.id w :: ts) := by
  refine Lexes.step ?_ h
  have ht : (w ++ d :: r).takeWhile isIdByte = w := by simp [List.takeWhile_append_of_pos hw.idb, hd]
  have hdr : (w ++ d :: r).dropWhile isIdByte = d :: r := by simp [List.dropWhile_append_of_pos hw.idb, hd]
  obtain ⟨x, t, rfl⟩ := List.exists_cons_of_ne_nil hw.ne
  rw [List.cons_append] at ht hdr ⊢
  simp only [lexStep, bcls_eq_idb.mpr (hw.idb x (by simp)), ht, hdr, hw.valid, if_true]

end PV.Dot
