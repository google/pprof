import PprofVerif.Lemmas.Varint
/-! Wire-field round trips: what `decodeField` returns on the output of each field encoder. -/
namespace PV.Wire

theorem toI64_toU64 (i : Int) (h : InI64 i) : toI64 (toU64 i) = i := by
  unfold InI64 two63 at h
  unfold toI64 toU64 two64 two63
  simp only [Nat.cast_ofNat]
  split <;> omega

theorem toU64_lt (i : Int) : toU64 i < two64 := by
  unfold toU64 two64
  simp only [Nat.cast_ofNat]
  omega

theorem decodeField_encodeUint64 (tag x : Nat) (ht : tag * 8 < two64) (hx : x < two64) (rest : Bytes) :
    decodeField (encodeUint64 tag x ++ rest) = .ok ({ num := tag, typ := 0, u64 := x, data := [] }, rest) := by
  unfold decodeField encodeUint64
  rw [List.append_assoc, decodeVarint_encodeVarint _ ht, Outcome.bind_ok]
  simp only [Nat.mul_mod_left, Nat.mul_div_left tag (show 0 < 8 by decide), decodeVarint_encodeVarint _ hx,
    Outcome.bind_ok]
  rfl

/-- `encodeString` and the packed encoders write the same shape (`encodeMessage` of their payload). -/
theorem decodeField_encodeMessage (tag : Nat) (body : Bytes) (ht : tag * 8 + 2 < two64)
    (hl : body.length < two64) (rest : Bytes) :
    decodeField (encodeMessage tag body ++ rest) = .ok ({ num := tag, typ := 2, u64 := 0, data := body }, rest) := by
  unfold decodeField encodeMessage encodeLength
  rw [List.append_assoc, List.append_assoc, decodeVarint_encodeVarint _ ht, Outcome.bind_ok]
  have h1 : (tag * 8 + 2) / 8 = tag := by rw [Nat.mul_comm, Nat.mul_add_div (by decide)]; rfl
  simp only [h1, Nat.mul_add_mod' tag 8 2, decodeVarint_encodeVarint _ hl, Outcome.bind_ok, List.length_append,
    List.take_left', List.drop_left']
  exact if_neg (Nat.not_lt.mpr (Nat.le_add_right _ _))

end PV.Wire
