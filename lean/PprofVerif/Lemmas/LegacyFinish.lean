import PprofVerif.Lemmas.LegacyMap
/-!
Helper lemmas for C14: the assembled profile refers to the documented addresses —
location ids handed to the samples resolve to the raw (adjusted) addresses.
-/
namespace PV.Legacy
open PV

/-- address of the location with a given id -/
def addrOf (p : Profile) (id : Nat) : Option Nat := (p.locations.find? (·.id == id)).map (·.address)

theorem assignAll_length (ms : List Mapping) (fake : Option Nat) (addrs : List Nat) :
    (assignAll ms fake addrs).2.length = addrs.length := by
  induction addrs generalizing ms fake with
  | nil => rfl
  | cons a r ih => simp [assignAll, ih]

theorem remapMappingIDs_length (ms : List Mapping) (addrs : List Nat) :
    (remapMappingIDs ms addrs).2.length = addrs.length := by
  simp [remapMappingIDs, assignAll_length]

def mkLoc (p : (Nat × Nat) × Nat) : Location :=
  { id := p.2 + 1, mappingID := p.1.2, address := p.1.1, lines := [], isFolded := false }

theorem find_loc (pairs : List (Nat × Nat)) (k : Nat) (a : Nat) (ha : a ∈ pairs.map Prod.fst) :
    (((pairs.zipIdx k).map mkLoc).find? (·.id == (pairs.map Prod.fst).idxOf a + k + 1)).map (·.address) = some a := by
  induction pairs generalizing k with
  | nil => simp at ha
  | cons x ps ih =>
    obtain ⟨x1, x2⟩ := x
    simp only [List.map_cons, List.zipIdx_cons, List.find?_cons, List.idxOf_cons, mkLoc]
    by_cases hx : x1 = a
    · subst hx; simp
    · have ha' : a ∈ ps.map Prod.fst := by
        simp only [List.map_cons, List.mem_cons] at ha
        rcases ha with h | h
        · exact absurd h.symm hx
        · exact h
      have hne : (k + 1 == List.idxOf a (ps.map Prod.fst) + 1 + k + 1) = false := by
        simp only [beq_eq_false_iff_ne]; omega
      have hx' : (x1 == a) = false := by simp [hx]
      simp only [hx', cond_false, hne]
      have := ih (k + 1) ha'
      rw [show List.idxOf a (ps.map Prod.fst) + 1 + k + 1 = List.idxOf a (ps.map Prod.fst) + (k + 1) + 1 by omega]
      exact this

theorem finish_locations (h : Header) (tf fin : List RawSample) (parsed : List Mapping) :
    ∃ mapIdx : List Nat, mapIdx.length = (dedup (tf.flatMap (·.addrs))).length ∧
      (finish h tf fin parsed).locations = (((dedup (tf.flatMap (·.addrs))).zip mapIdx).zipIdx.map mkLoc) := by
  refine ⟨(remapMappingIDs (massageMappings parsed) (dedup (tf.flatMap (·.addrs)))).2, remapMappingIDs_length _ _, ?_⟩
  simp only [finish]
  rfl

theorem finish_addrOf (h : Header) (tf fin : List RawSample) (parsed : List Mapping) (a : Nat)
    (ha : a ∈ tf.flatMap (·.addrs)) :
    addrOf (finish h tf fin parsed) (idOf (dedup (tf.flatMap (·.addrs))) a) = some a := by
  obtain ⟨mapIdx, hlen, hl⟩ := finish_locations h tf fin parsed
  have hfst : ((dedup (tf.flatMap (·.addrs))).zip mapIdx).map Prod.fst = dedup (tf.flatMap (·.addrs)) :=
    List.map_fst_zip (by omega)
  have hmem : a ∈ ((dedup (tf.flatMap (·.addrs))).zip mapIdx).map Prod.fst := by
    rw [hfst]; exact (mem_dedup _ _).2 ha
  have := find_loc _ 0 a hmem
  rw [hfst] at this
  unfold addrOf idOf
  rw [hl]
  simpa using this

theorem finish_samples (h : Header) (tf fin : List RawSample) (parsed : List Mapping) :
    (finish h tf fin parsed).samples = fin.map (fun s =>
      { locationIDs := s.addrs.map (idOf (dedup (tf.flatMap (·.addrs)))), values := s.values,
        label := [], numLabel := s.numLabel, numUnit := [] }) := rfl

theorem finish_stack (h : Header) (tf fin : List RawSample) (parsed : List Mapping) (s : RawSample)
    (hs : ∀ a ∈ s.addrs, a ∈ tf.flatMap (·.addrs)) :
    (s.addrs.map (idOf (dedup (tf.flatMap (·.addrs))))).map (addrOf (finish h tf fin parsed)) = s.addrs.map some := by
  rw [List.map_map]
  apply List.map_congr_left
  intro a ha
  exact finish_addrOf h tf fin parsed a (hs a ha)

theorem finish_getElem (h : Header) (tf fin : List RawSample) (parsed : List Mapping) (i : Nat) (s : RawSample)
    (hi : fin[i]? = some s) (hs : ∀ a ∈ s.addrs, a ∈ tf.flatMap (·.addrs)) :
    ∃ t, (finish h tf fin parsed).samples[i]? = some t ∧ t.values = s.values ∧
      t.locationIDs.map (addrOf (finish h tf fin parsed)) = s.addrs.map some :=
  ⟨_, by rw [finish_samples, List.getElem?_map, hi]; rfl, rfl, finish_stack h tf fin parsed s hs⟩

end PV.Legacy
