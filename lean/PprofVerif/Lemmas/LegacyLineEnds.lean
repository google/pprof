import PprofVerif.Lemmas.LegacyCount
import PprofVerif.Lemmas.LegacyHeap
import PprofVerif.Lemmas.LegacyContention
import PprofVerif.Lemmas.LegacyThread
/-!
Helper lemmas for C14: line-ending and termination variants of the text formats.  `bufio.ScanLines`
reads the same lines whatever mixture of `\n` / `\r\n` terminates them and whether or not the last
line is terminated (`splitLines_renderLines`), so the `parse ∘ print` theorems of the Scanner-based
parsers (count, heap, contention, threadz) hold for every such rendering of the document's lines.
-/
namespace PV.Legacy
open PV

theorem parseGoCount_renderLines (cs : List Bool) (nf : Bool) (d : CountDoc) (h : d.wf = true)
    (hlast : nf = true → d.lines.getLast? ≠ some []) :
    parseGoCount (renderLines cs nf d.lines) = .ok (expectedCount d) := by
  rw [← parseGoCount_printCount d h, parseGoCount, parseGoCount, splitLines_printCount d h,
    splitLines_renderLines cs nf d.lines (d.lines_ok h) hlast]

theorem parseHeap_renderLines (scale : ScaleFn) (cs : List Bool) (nf : Bool) (d : HeapDoc) (h : d.wf = true)
    (hlast : nf = true → d.lines.getLast? ≠ some []) :
    parseHeap scale (renderLines cs nf d.lines) = .ok (expectedHeap scale d) := by
  rw [← parseHeap_printHeap scale d h, parseHeap, parseHeap, splitLines_printHeap d h,
    splitLines_renderLines cs nf d.lines (d.lines_ok h) hlast]

theorem parseContention_renderLines (cyc : CycFn) (cs : List Bool) (nf : Bool) (d : ContDoc) (h : d.wf = true)
    (hlast : nf = true → d.lines.getLast? ≠ some []) :
    parseContention cyc (renderLines cs nf d.lines) = .ok (expectedContention cyc d) := by
  rw [← parseContention_printContention cyc d h, parseContention, parseContention, splitLines_printContention d h,
    splitLines_renderLines cs nf d.lines (d.lines_ok h) hlast]

theorem parseThread_renderLines (cs : List Bool) (nf : Bool) (d : ThreadDoc) (h : d.wf = true)
    (hlast : nf = true → d.lines.getLast? ≠ some []) :
    parseThread (renderLines cs nf d.lines) = .ok (expectedThread d) := by
  rw [← parseThread_printThread d h, parseThread, parseThread, splitLines_printThread d h,
    splitLines_renderLines cs nf d.lines (d.lines_ok h) hlast]

end PV.Legacy
