import PprofVerif.Lemmas.CodecSchemaFactsDec
/-!
The regenerated wire schema (`Gen/CodecSchema.lean`, written by tools/extract/codecschema.go from
profile/encode.go and profile/proto.go on every run) against the schema and the constants of the
model.  Proofs of the obligations `Props/C01.lean` and `Props/C02.lean` list under "wire schema";
a change of the Go schema makes one of the `decide`/`rfl` proofs below fail.
-/
namespace PV.CodecSchema.Facts
open PV PV.Wire PV.Codec PV.CodecSchema PV.Spec.CodecSchemaExpected

theorem schema_encoders_are_model :
    (∀ p : ProfileX, encodeBy ProfileX.dict p ProfileX.encSchema = some p.encode) ∧
    (∀ p : ValueTypeX, encodeBy ValueTypeX.dict p ValueTypeX.encSchema = some p.encode) ∧
    (∀ p : SampleX, encodeBy SampleX.dict p SampleX.encSchema = some p.encode) ∧
    (∀ p : LabelX, encodeBy LabelX.dict p LabelX.encSchema = some p.encode) ∧
    (∀ p : MappingX, encodeBy MappingX.dict p MappingX.encSchema = some p.encode) ∧
    (∀ p : LocationX, encodeBy LocationX.dict p LocationX.encSchema = some p.encode) ∧
    (∀ p : LineX, encodeBy LineX.dict p LineX.encSchema = some p.encode) ∧
    (∀ p : FunctionX, encodeBy FunctionX.dict p FunctionX.encSchema = some p.encode) :=
  ⟨ProfileX.encode_eq, ValueTypeX.encode_eq, SampleX.encode_eq, LabelX.encode_eq, MappingX.encode_eq,
   LocationX.encode_eq, LineX.encode_eq, FunctionX.encode_eq⟩

/-- A message is its decoder side (what `decoder_schema_matches` compares) and its `encode` method. -/
theorem messages_eq_of_parts : ∀ {a b : List Gen.CodecSchema.Message},
    a.map decoderPart = b.map decoderPart → a.map (·.enc) = b.map (·.enc) → a = b
  | [], [], _, _ => rfl
  | ⟨_, _, _, _⟩ :: _, ⟨_, _, _, _⟩ :: _, hd, he => by
    injection hd with hd hds
    injection he with he hes
    cases hd; cases he
    rw [messages_eq_of_parts hds hes]

/-- The `encode` methods the model expects.  Rendering them involves no dictionary lookup, so
both the regenerated and the expected schema reduce to this list of literals, and comparing each
with it by `rfl` keeps the unifier away from the decoder tables. -/
def expectedEncoders : List (List Gen.CodecSchema.EncStmt) :=
  [ProfileX.encSchema, ValueTypeX.encSchema, SampleX.encSchema, LabelX.encSchema, MappingX.encSchema,
   LocationX.encSchema, LineX.encSchema, FunctionX.encSchema].map (·.map renderEnc)

/-- The schema regenerated from profile/encode.go is the schema of the model: same message types
in the same order, same statements (tag, encoder, field, guard) in every `encode` method, same
decoder closure (shape, receiver type, field, nested message type) at every table index. -/
theorem codec_schema_matches : Gen.CodecSchema.all = expectedSchema := by
  first
  | exact messages_eq_of_parts decoder_schema_matches
      ((rfl : _ = expectedEncoders).trans (rfl : expectedSchema.map (·.enc) = expectedEncoders).symm)
  | fail "OBLIGATION codec_schema_matches no longer holds: the encode methods / decoder tables of profile/encode.go are not the wire schema of the model (diff lean/PprofVerif/Gen/CodecSchema.lean against Model/CodecSchema.lean)"

/-- proto.go `encodeUint64s`/`encodeInt64s` switch to the packed form at the threshold the model
uses, for every tag and every list. -/
theorem packed_threshold_matches (tag : Nat) :
    (∀ xs : List Nat, encodeUint64s tag xs =
      if xs.length > Gen.CodecSchema.proto.packedThresholdUint64s
      then encodeMessage tag (xs.flatMap encodeVarint) else xs.flatMap (encodeUint64 tag)) ∧
    (∀ xs : List Int, encodeInt64s tag xs =
      if xs.length > Gen.CodecSchema.proto.packedThresholdInt64s
      then encodeMessage tag ((xs.map toU64).flatMap encodeVarint) else xs.flatMap (encodeInt64 tag)) := by
  first
  | (refine ⟨fun xs => rfl, fun xs => ?_⟩
     simp [encodeInt64s, encodeUint64s, Gen.CodecSchema.proto, List.flatMap_map]
     rfl)
  | fail "OBLIGATION packed_threshold_matches no longer holds: the packed-encoding threshold of proto.go encodeUint64s/encodeInt64s is not the model's (Model/Wire.lean: > 2); the round trip may still hold, the model no longer describes the bytes written"

theorem intern_order_model : internTable probe = some ([] :: internSites.map (·.marker)) := by
  first
  | decide +kernel
  | fail "OBLIGATION intern_order_model no longer holds: Codec.preEncode does not intern the probe's strings in the order of Spec.internSites"

/-- preEncode of profile/encode.go calls `addString` in the order of `internSites` (same expressions
under the same loops and conditions). -/
theorem intern_order_matches :
    Gen.CodecSchema.emptyStringInternedFirst = true ∧ Gen.CodecSchema.internOrder = expectedInternOrder := by
  first
  | decide +kernel
  | fail "OBLIGATION intern_order_matches no longer holds: preEncode of profile/encode.go no longer calls addString in the model's order (or under other loops/conditions)"

end PV.CodecSchema.Facts
