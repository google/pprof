import PprofVerif.Lemmas.LegacyMapSection
import PprofVerif.Model.LegacyThread
/-!
Helper lemmas for C14: threadz profiles — `parseThread (printThread d) = ok (expectedThread d)`.
-/
namespace PV.Legacy
open PV

/-! ### `findHex` does not see the blanks `TrimSpace` removes -/
theorem isSpace_neutral {b : UInt8} (h : isSpace b = true) : b.toNat ≠ 48 ∧ b.toNat ≠ 120 ∧ isHexLower b = false := by
  have : b.toNat ≤ 32 := by
    simp only [isSpace, isReSpace, Bool.or_eq_true, beq_iff_eq] at h; omega
  simp only [isHexLower, isDigit, Bool.or_eq_false_iff, decide_eq_false_iff_not]
  omega

theorem findHexGo_suffix_spaces (suf : Str) (h : ∀ b ∈ suf, isSpace b = true) (st : HexSt) :
    findHexGo suf st = findHexGo [] st := by
  cases suf with
  | nil => rfl
  | cons c t =>
    have hc := isSpace_neutral (h c (by simp))
    have ht : findHexGo t .s0 = [] := findHexGo_none t (fun b hb => (isSpace_neutral (h b (by simp [hb]))).1)
    cases st <;> simp [findHexGo, hc.2.1, hc.2.2, hexRestart_of_ne hc.1, ht]

theorem findHexGo_append_spaces (S suf : Str) (h : ∀ b ∈ suf, isSpace b = true) (st : HexSt) :
    findHexGo (S ++ suf) st = findHexGo S st := by
  induction S generalizing st with
  | nil => simpa using findHexGo_suffix_spaces suf h st
  | cons b S ih =>
    cases st with
    | s0 => simp [findHexGo, ih]
    | s1 => simp only [List.cons_append, findHexGo]; split <;> simp [ih]
    | s2 => simp only [List.cons_append, findHexGo]; split <;> simp [ih]
    | s3 acc => simp only [List.cons_append, findHexGo]; split <;> simp [ih]

theorem findHex_trimSpace (s : Str) : findHex (trimSpace s) = findHex s := by
  obtain ⟨pre, suf, hs, hpre, hsuf⟩ := trimSpace_decomp s
  conv => rhs; rw [hs]
  unfold findHex
  rw [findHexGo_skip pre _ (fun b hb => (isSpace_neutral (hpre b hb)).1), findHexGo_append_spaces _ _ hsuf]

def ThreadLabel.all : List ThreadLabel := [.none, .pc, .pc2, .creator]

theorem ThreadLabel.mem_all (lb : ThreadLabel) : lb ∈ ThreadLabel.all := by cases lb <;> decide

theorem ThreadLabel.not_mem_print (lb : ThreadLabel) {c : UInt8} (h : c ∈ [48, 118, 45, 10, 13]) : c ∉ lb.print := by
  have : ∀ lb ∈ ThreadLabel.all, ∀ c ∈ [48, 118, 45, 10, 13], c ∉ lb.print := by decide +kernel
  exact this lb lb.mem_all c h

def symText (o : Option Str) : Str := match o with | none => [] | some t => asc ": " ++ t

theorem symText_some (t : Str) : symText (some t) = 58 :: 32 :: t := by
  rw [symText, show asc ": " = [58, 32] by decide +kernel]; rfl

theorem ThreadLine.print_eq (w : Nat) (l : ThreadLine) :
    l.print w = sp l.indent ++ (l.label.print ++ (printAddrs w l.addrs ++ symText l.sym)) := by
  unfold ThreadLine.print symText
  simp only [List.append_assoc]
  cases l.sym <;> rfl

theorem symText_bytes {o : Option Str} (h : o.all symOK = true) :
    ∀ b ∈ symText o, b.toNat ≠ 48 ∧ b.toNat ≠ 118 ∧ isPrint b = true := by
  cases o with
  | none => exact fun b hb => absurd hb List.not_mem_nil
  | some t =>
    rw [symText_some]
    simp only [Option.all_some, symOK, List.all_eq_true, Bool.and_eq_true, bne_iff_ne, ne_eq] at h
    intro b hb
    rcases List.mem_cons.1 hb with rfl | hb
    · decide
    rcases List.mem_cons.1 hb with rfl | hb
    · decide
    · exact ⟨(h b hb).1.2, (h b hb).2, (h b hb).1.1⟩

theorem symText_stops (o : Option Str) : Stops isHexLower (symText o) := by
  cases o with
  | none => exact Stops_nil _
  | some t => rw [symText_some]; simp; decide

theorem ThreadLine.findHex (w : Nat) (l : ThreadLine) (h : l.sym.all symOK = true) :
    findHex (l.print w) = l.addrs.map (hexPad w) := by
  have h0 : ∀ b ∈ sp l.indent ++ l.label.print, b.toNat ≠ 48 := fun b hb =>
    ne_of_not_mem (c := 48) (by simp [not_mem_sp, l.label.not_mem_print]) b hb
  rw [l.print_eq, Legacy.findHex, ← List.append_assoc, findHexGo_skip _ _ h0,
    findHexGo_printAddrs w l.addrs _ (symText_stops _),
    findHexGo_none _ (fun b hb => (symText_bytes h b hb).1), List.append_nil]

theorem ThreadLine.not_mem_print (w : Nat) (l : ThreadLine) (h : l.sym.all symOK = true) {c : UInt8}
    (h1 : c ≠ 32 ∧ isAddrText c = false) (h2 : c ∈ [48, 118, 45, 10, 13]) (h3 : c.toNat = 118 ∨ isPrint c = false) :
    c ∉ l.print w := by
  rw [l.print_eq]
  simp only [List.mem_append, not_or]
  refine ⟨not_mem_sp h1.1 _, l.label.not_mem_print h2, not_mem_printAddrs h1.2 _ _, fun hm => ?_⟩
  have := symText_bytes h c hm
  rcases h3 with h3 | h3
  · exact this.2.1 h3
  · rw [this.2.2] at h3; cases h3

/-- the trimmed line is empty or starts with a byte other than `-`: its first non-blank byte comes
before the symbol text, where there is no `-` -/
theorem ThreadLine.trim_head (w : Nat) (l : ThreadLine) :
    trimSpace (l.print w) = [] ∨ ∃ c t, trimSpace (l.print w) = c :: t ∧ c ≠ 45 := by
  have h45 : (45 : UInt8) ∉ sp l.indent ++ (l.label.print ++ printAddrs w l.addrs) := by
    simp only [List.mem_append, not_or]
    exact ⟨not_mem_sp (by decide) _, l.label.not_mem_print (by simp), not_mem_printAddrs (by decide) _ _⟩
  rw [l.print_eq]
  cases l.sym with
  | none =>
    rw [symText, List.append_nil]
    cases hq : trimSpace (sp l.indent ++ (l.label.print ++ printAddrs w l.addrs)) with
    | nil => exact Or.inl rfl
    | cons c t =>
      refine Or.inr ⟨c, t, rfl, fun e => h45 ?_⟩
      rw [← e]; exact trimSpace_mem (by rw [hq]; exact List.mem_cons_self ..)
  | some s =>
    have e : sp l.indent ++ (l.label.print ++ (printAddrs w l.addrs ++ symText (some s))) =
        (sp l.indent ++ (l.label.print ++ printAddrs w l.addrs) ++ [58]) ++ 32 :: s := by
      rw [symText_some]; simp only [List.append_assoc, List.cons_append, List.nil_append]
    obtain ⟨c, t, hct, hc⟩ := trimSpace_head_mem _ (32 :: s) ⟨58, List.mem_append_right _ (List.mem_singleton_self _), by decide⟩
    rw [e]
    refine Or.inr ⟨c, t, hct, fun e => ?_⟩
    rcases List.mem_append.1 hc with hc | hc
    · exact h45 (e ▸ hc)
    · rw [List.mem_singleton.1 hc] at e; exact absurd e (by decide)

theorem sameMarker_table :
    (118 : UInt8) ∈ asc "same as previous thread" ∧
    (stopsB isSpace sameMarker = true ∧ stopsB isSpace sameMarker.reverse = true ∧ LineOK sameMarker) ∧
    sameMarker.isEmpty = false ∧ hasPrefix (asc "---") sameMarker = false ∧
      containsSub (asc "same as previous thread") sameMarker = true := by
  decide +kernel

theorem threadSample_blanks (n : Nat) (R : List Str) (same : Bool) (acc : List Nat) :
    ∀ last, threadSample last (List.replicate n [] ++ R) same acc = threadSample (if n = 0 then last else []) R same acc := by
  induction n with
  | zero => intro last; rfl
  | succ n ih =>
    intro last
    have : trimSpace ([] : Str) = [] := by decide
    simp only [List.replicate_succ, List.cons_append, threadSample, this, List.isEmpty_nil, if_true]
    rw [ih []]
    cases n <;> simp

theorem threadSample_boundary (l : Str) (hl : IsBoundary l) (more : List Str) (same : Bool) (acc : List Nat) (last : Str) :
    threadSample last (l :: more) same acc = .ok (l, more, if same then [] else acc) := by
  obtain ⟨t, rfl⟩ := hl.dash
  simp [threadSample, hl.1, hl.2]

theorem threadSample_line (w : Nat) (l : ThreadLine) (hs : l.sym.all symOK = true) (ha : ∀ a ∈ l.addrs, a < two64)
    (R : List Str) (same : Bool) (acc : List Nat) (last : Str) :
    threadSample last (l.print w :: R) same acc = threadSample (trimSpace (l.print w)) R same (acc ++ l.addrs) := by
  have hfh : findHex (trimSpace (l.print w)) = l.addrs.map (hexPad w) := by rw [findHex_trimSpace, l.findHex w hs]
  rcases l.trim_head w with h0 | ⟨c, t, hct, hc⟩
  · have : l.addrs = [] := List.map_eq_nil_iff.1 (by rw [← hfh, h0]; rfl)
    simp [threadSample, h0, this]
  · have h1 : hasPrefix (asc "---") (trimSpace (l.print w)) = false := by rw [hct]; exact hasPrefix_dashes_ne _ hc
    have h2 : containsSub (asc "same as previous thread") (trimSpace (l.print w)) = false :=
      Bool.eq_false_iff.2 fun hq => l.not_mem_print w hs (by decide) (by simp) (by decide)
        (trimSpace_mem (mem_of_containsSub hq 118 sameMarker_table.1))
    have h3 : parseHexAddresses (trimSpace (l.print w)) = some l.addrs := by
      unfold parseHexAddresses; rw [hfh]; exact parseHexList_map w l.addrs ha
    have h4 : (trimSpace (l.print w)).isEmpty = false := by rw [hct]; rfl
    rw [threadSample]
    simp only [h4, h1, h2, h3, Bool.false_eq_true, if_false]

theorem threadSample_stack (w : Nat) (ls : List ThreadLine)
    (h : ∀ l ∈ ls, l.sym.all symOK = true ∧ ∀ a ∈ l.addrs, a < two64)
    (next : Str) (hn : IsBoundary next) (more : List Str) (acc : List Nat) :
    ∀ last, threadSample last (ls.flatMap (fun l => List.replicate l.blanks [] ++ [l.print w]) ++ next :: more) false acc
      = .ok (next, more, acc ++ ls.flatMap (·.addrs)) := by
  induction ls generalizing acc with
  | nil => intro last; simpa using threadSample_boundary next hn more false acc last
  | cons l ls ih =>
    intro last
    simp only [List.flatMap_cons, List.append_assoc, List.cons_append, List.nil_append]
    rw [threadSample_blanks, threadSample_line w l (h l (by simp)).1 (h l (by simp)).2,
      ih (fun x hx => h x (by simp [hx]))]
    simp

theorem threadSample_same (blanks indent : Nat) (next : Str) (hn : IsBoundary next) (more : List Str) (last : Str) :
    threadSample last (List.replicate blanks [] ++ [sp indent ++ sameMarker] ++ next :: more) false []
      = .ok (next, more, []) := by
  obtain ⟨_, ⟨hs1, hs2, _⟩, hm⟩ := sameMarker_table
  have ht : trimSpace (sp indent ++ sameMarker) = sameMarker :=
    trimSpace_replicate indent sameMarker (Stops_of_stopsB hs1) (Stops_of_stopsB hs2)
  simp only [List.append_assoc, List.singleton_append]
  rw [threadSample_blanks, threadSample]
  simp only [ht, hm, Bool.false_eq_true, if_false, if_true]
  rw [threadSample_boundary next hn more true [] sameMarker]
  rfl

/-- the two texts differ at a position present in both -/
def mismatch : Str → Str → Bool
  | a :: p, b :: s => a != b || mismatch p s
  | _, _ => false

theorem stripPrefix_mismatch {p a : Str} (h : mismatch p a = true) (r : Str) : stripPrefix p (a ++ r) = none := by
  induction p generalizing a with
  | nil => cases a <;> cases h
  | cons x p ih =>
    cases a with
    | nil => cases h
    | cons y a =>
      by_cases e : x = y
      · subst e; simp only [mismatch, bne_self_eq_false, Bool.false_or] at h
        simp only [List.cons_append, stripPrefix, beq_self_eq_true, if_true, ih h]
      · exact stripPrefix_cons_ne _ _ e

theorem threadOpen_lit : hasPrefix (asc "---") (asc "--- Thread ") = true ∧
    mismatch (asc "---- no stack trace for") (asc "--- Thread ") = true ∧ LineOK (asc "--- Thread ") := by
  decide +kernel

theorem threadName_lit : asc " (name: " ≠ [] ∧ stopsB isXDigit (asc " (name: ") = true ∧ LineOK (asc " (name: ") := by
  decide +kernel

theorem threadClose_lit : (asc ") stack: ---" ≠ [] ∧ stopsB isSpace (asc ") stack: ---").reverse = true) ∧
    stopsB isDigit (asc ") stack: ---") = true ∧ LineOK (asc ") stack: ---") := by
  decide +kernel

theorem ThreadRec.headerLine_assoc (r : ThreadRec) :
    r.headerLine = asc "--- Thread " ++ (hex r.id ++ (asc " (name: " ++ (r.name ++ ([47] ++ (dec r.tid ++ asc ") stack: ---"))))) := by
  simp only [ThreadRec.headerLine, List.append_assoc]

theorem ThreadRec.header_boundary (r : ThreadRec) : IsBoundary r.headerLine := by
  refine .intro ?_ (Stops_reverse_append threadClose_lit.1.1 (Stops_of_stopsB threadClose_lit.1.2))
  rw [r.headerLine_assoc]; exact hasPrefix_append_of threadOpen_lit.1 _

theorem ThreadRec.not_noStack (r : ThreadRec) : hasPrefix (asc "---- no stack trace for") r.headerLine = false := by
  rw [r.headerLine_assoc, hasPrefix, stripPrefix_mismatch threadOpen_lit.2.1]; rfl

theorem matchThreadTailAt_tail (tid : Nat) :
    matchThreadTailAt ([47] ++ (dec tid ++ asc ") stack: ---")) = some () := by
  unfold matchThreadTailAt
  rw [stripPrefix_append]
  simp only [Option.bind_eq_bind, Option.bind_some]
  rw [reDigits_dec (Stops_of_stopsB threadClose_lit.2.1)]
  simp only [Option.bind_some, stripPrefix_self]
  rfl

theorem ThreadRec.isThreadStart (r : ThreadRec) : isThreadStart r.headerLine = true := by
  have hS : Stops isXDigit (asc " (name: " ++ (r.name ++ ([47] ++ (dec r.tid ++ asc ") stack: ---")))) :=
    Stops_append_of_ne_nil threadName_lit.1 (Stops_of_stopsB threadName_lit.2.1)
  have hm : (matchThreadStartAt r.headerLine).isSome = true := by
    rw [r.headerLine_assoc]
    unfold matchThreadStartAt
    rw [stripPrefix_append]
    simp only [Option.bind_eq_bind, Option.bind_some]
    rw [takeWhile_append_stops (hex_isXDigit r.id) hS, dropWhile_append_stops (hex_isXDigit r.id) hS]
    simp only [isEmpty_false_of_ne_nil (hex_ne_nil r.id), Bool.false_eq_true, if_false, stripPrefix_append, Option.bind_some]
    exact searchRe_isSome_append _ _ _ (by rw [matchThreadTailAt_tail]; rfl)
  unfold Legacy.isThreadStart
  cases hq : matchThreadStartAt r.headerLine with
  | none => rw [hq] at hm; cases hm
  | some u => rw [searchRe_of_some hq]; rfl

/-- what one record does to the samples collected so far (newest first) -/
def ThreadRec.step (r : ThreadRec) (acc : List RawSample) : List RawSample :=
  match r.body with
  | .same _ _ => bumpLast acc
  | .stack ls => { addrs := adjustCallers (ls.flatMap (·.addrs)), values := [1], numLabel := [] } :: acc

theorem threadSamplesRev_eq (rs : List ThreadRec) (acc : List RawSample) :
    threadSamplesRev rs acc = rs.foldl (fun a r => r.step a) acc := by
  induction rs generalizing acc with
  | nil => rfl
  | cons r rs ih =>
    rw [List.foldl_cons, ← ih]
    unfold ThreadRec.step
    cases hb : r.body <;> simp [threadSamplesRev, hb]

theorem threadSamplesRev_same (rs : List ThreadRec) {r : ThreadRec} {blanks indent : Nat} (hr : r.body = .same blanks indent) :
    threadSamplesRev (rs ++ [r]) [] = bumpLast (threadSamplesRev rs []) := by
  rw [threadSamplesRev_eq, threadSamplesRev_eq, List.foldl_append]
  simp [ThreadRec.step, hr]

theorem bumpLast_length (l : List RawSample) : (bumpLast l).length = l.length := by cases l <;> rfl

theorem bumpLast_cons {s : RawSample} (rest : List RawSample) {v : Int} {vs : List Int} (hv : s.values = v :: vs) :
    ∃ s', bumpLast (s :: rest) = s' :: rest ∧ s'.values = (v + 1) :: vs ∧ s'.addrs = s.addrs :=
  ⟨_, rfl, by simp [hv], rfl⟩

theorem threadLoop_rec (w : Nat) (r : ThreadRec) (hr : r.wf = true) (f : Nat) (next : Str) (hn : IsBoundary next)
    (more : List Str) (acc : List RawSample) :
    threadLoop (f+1) r.headerLine (r.body.lines w ++ next :: more) acc = threadLoop f next more (r.step acc) := by
  simp only [ThreadRec.wf, Bool.and_eq_true, Bool.not_eq_true', List.all_eq_true, Option.isNone_iff_eq_none] at hr
  obtain ⟨⟨⟨_, hsent⟩, _⟩, hbody⟩ := hr
  rw [threadLoop]
  simp only [hsent, r.not_noStack, r.isThreadStart, Bool.false_eq_true, if_false, Bool.not_true]
  unfold ThreadRec.step
  cases hb : r.body with
  | same blanks indent =>
    simp only [ThreadBody.lines]
    rw [threadSample_same blanks indent next hn more []]
    simp
  | stack ls =>
    rw [hb] at hbody
    simp only [Bool.and_eq_true, List.all_eq_true, bne_iff_ne, ne_eq, decide_eq_true_eq] at hbody
    simp only [ThreadBody.lines]
    rw [threadSample_stack w ls (fun l hl => ⟨(hbody.1 l hl).2, (hbody.1 l hl).1⟩) next hn more [] []]
    have hne : (ls.flatMap (·.addrs)).isEmpty = false := by
      cases hq : ls.flatMap (·.addrs) with
      | nil => exact absurd hq hbody.2
      | cons _ _ => rfl
    simp [hne]

/-- run the loop on a non-empty list of lines -/
def loopOn (fuel : Nat) (ls : List Str) (acc : List RawSample) : Outcome (List RawSample × Str × List Str) :=
  match ls with
  | [] => .err "unrecognized"
  | x :: xs => threadLoop fuel x xs acc

theorem flatMap_lines_cons (w : Nat) (rs : List ThreadRec) {E : List Str} (hE : ∃ e more, E = e :: more ∧ IsBoundary e) :
    ∃ e more, rs.flatMap (ThreadRec.lines w) ++ E = e :: more ∧ IsBoundary e ∧ (rs ≠ [] → ∃ r ∈ rs, e = r.headerLine) := by
  cases rs with
  | nil => obtain ⟨e, more, h1, h2⟩ := hE; exact ⟨e, more, h1, h2, fun h => absurd rfl h⟩
  | cons r rs => exact ⟨r.headerLine, _, rfl, r.header_boundary, fun _ => ⟨r, List.mem_cons_self .., rfl⟩⟩

theorem loopOn_recs (w : Nat) (rs : List ThreadRec) (h : ∀ r ∈ rs, r.wf = true) (E : List Str)
    (hE : ∃ e more, E = e :: more ∧ IsBoundary e) (f : Nat) (acc : List RawSample) :
    loopOn (f + rs.length) (rs.flatMap (ThreadRec.lines w) ++ E) acc = loopOn f E (rs.foldl (fun a r => r.step a) acc) := by
  induction rs generalizing acc with
  | nil => simp
  | cons r rs ih =>
    obtain ⟨e, more, hem, he, _⟩ := flatMap_lines_cons w rs hE
    have hlen : f + (r :: rs).length = (f + rs.length) + 1 := by simp; omega
    simp only [List.flatMap_cons, ThreadRec.lines, List.cons_append, List.append_assoc, loopOn, hlen]
    rw [hem, threadLoop_rec w r (h r (by simp)) _ e he more acc]
    have := ih (fun x hx => h x (by simp [hx])) (r.step acc)
    rw [hem] at this
    simpa [loopOn] using this

theorem noStack_pieces :
    (hasPrefix (asc "---- no stack trace for") (asc "---- no stack trace for ") = true ∧
      hasPrefix (asc "---") (asc "---- no stack trace for ") = true) ∧
    (asc " threads ----" ≠ [] ∧ stopsB isSpace (asc " threads ----").reverse = true) ∧
    ∀ c ∈ [58, 10, 13], c ∉ asc "---- no stack trace for " ∧ c ∉ asc " threads ----" := by
  decide +kernel

theorem not_digit_of_mark {c : UInt8} (hc : c ∈ [58, 10, 13]) : isDigit c = false := by
  simp only [List.mem_cons, List.not_mem_nil, or_false] at hc
  rcases hc with rfl | rfl | rfl <;> decide

theorem noStackLine_not_mem (n : Nat) {c : UInt8} (hc : c ∈ [58, 10, 13]) : c ∉ noStackLine n := by
  simp only [noStackLine, List.mem_append, not_or]
  exact ⟨⟨(noStack_pieces.2.2 c hc).1, not_mem_dec (not_digit_of_mark hc) n⟩, (noStack_pieces.2.2 c hc).2⟩

theorem noStackLine_boundary (n : Nat) : IsBoundary (noStackLine n) := by
  refine .intro ?_ (Stops_reverse_append noStack_pieces.2.1.1 (Stops_of_stopsB noStack_pieces.2.1.2))
  rw [noStackLine, List.append_assoc]; exact hasPrefix_append_of noStack_pieces.1.2 _

theorem noStackLine_prefix (n : Nat) : hasPrefix (asc "---- no stack trace for") (noStackLine n) = true := by
  rw [noStackLine, List.append_assoc]; exact hasPrefix_append_of noStack_pieces.1.1 _

theorem ThreadEnd.lines_boundary (e : ThreadEnd) : ∃ x more, e.lines = x :: more ∧ IsBoundary x := by
  cases e with
  | map m => exact ⟨_, _, rfl, sentinel_boundary⟩
  | noStack n m => exact ⟨_, _, rfl, noStackLine_boundary n⟩

theorem loopOn_ending (f : Nat) (e : ThreadEnd) (he : e.wf = true) (acc : List RawSample) :
    ∃ cur rest, loopOn (f+1) e.lines acc = .ok (acc.reverse, cur, rest) ∧ parseAdditionalSections cur rest = e.mappings := by
  cases e with
  | map m =>
    refine ⟨sentinelMemoryMap, m.bodyLines, ?_, ?_⟩
    · simp [loopOn, ThreadEnd.lines, tailLines, threadLoop, isMemoryMapSentinel_memoryMap]
    · simp only [parseAdditionalSections, isMemoryMapSentinel_memoryMap, if_true, ThreadEnd.mappings]
      exact parseProcMaps_bodyLines m he
  | noStack n m =>
    have hns := not_sentinel_of_no_colon (noStackLine_not_mem n (c := 58) (by simp))
    refine ⟨noStackLine n, tailLines sentinelMemoryMap m, ?_, ?_⟩
    · simp [loopOn, ThreadEnd.lines, threadLoop, hns, noStackLine_prefix]
    · simp only [parseAdditionalSections, hns, Bool.false_eq_true, if_false, ThreadEnd.mappings]
      cases m with
      | none => simp [tailLines, skipToSentinel, parseProcMaps, tailMappings]
      | some m' =>
        simp only [tailLines, skipToSentinel, isMemoryMapSentinel_memoryMap, if_true, tailMappings]
        exact parseProcMaps_bodyLines m' he

theorem flatMap_lines_length (w : Nat) (rs : List ThreadRec) : rs.length ≤ (rs.flatMap (ThreadRec.lines w)).length := by
  induction rs with
  | nil => simp
  | cons r rs ih =>
    simp only [List.flatMap_cons, List.length_append, ThreadRec.lines, List.length_cons]
    omega

theorem loopOn_body (w : Nat) (rs : List ThreadRec) (h : ∀ r ∈ rs, r.wf = true) (e : ThreadEnd) (he : e.wf = true)
    (f : Nat) (hf : rs.length < f) :
    ∃ cur rest, loopOn f (rs.flatMap (ThreadRec.lines w) ++ e.lines) [] = .ok ((threadSamplesRev rs []).reverse, cur, rest) ∧
      parseAdditionalSections cur rest = e.mappings := by
  obtain ⟨k, rfl⟩ : ∃ k, f = (k + 1) + rs.length := ⟨f - rs.length - 1, by omega⟩
  obtain ⟨cur, rest, h1, h2⟩ := loopOn_ending k e he (rs.foldl (fun a r => r.step a) [])
  exact ⟨cur, rest, by rw [loopOn_recs w rs h e.lines e.lines_boundary, h1, threadSamplesRev_eq], h2⟩

theorem ThreadDoc.body_cons (d : ThreadDoc) :
    ∃ x more, d.recs.flatMap (ThreadRec.lines d.width) ++ d.ending.lines = x :: more ∧ IsBoundary x ∧
      d.recs.length < more.length + 2 ∧ (d.recs ≠ [] → ∃ r ∈ d.recs, x = r.headerLine) := by
  obtain ⟨x, more, hxm, hx, hxr⟩ := flatMap_lines_cons d.width d.recs d.ending.lines_boundary
  refine ⟨x, more, hxm, hx, ?_, hxr⟩
  have := congrArg List.length hxm
  have := flatMap_lines_length d.width d.recs
  simp only [List.length_append, List.length_cons] at *
  omega

theorem threadz_pieces :
    hasPrefix (asc "---") (asc "--- threadz ") = true ∧ stopsB isDigit (asc " ---") = true ∧
    ∀ c ∈ [58, 10, 13], c ∉ asc "--- threadz " ∧ c ∉ asc " ---" := by
  decide +kernel

theorem threadzLine_not_mem (n : Nat) {c : UInt8} (hc : c ∈ [58, 10, 13]) : c ∉ threadzLine n := by
  simp only [threadzLine, List.mem_append, not_or]
  exact ⟨⟨(threadz_pieces.2.2 c hc).1, not_mem_dec (not_digit_of_mark hc) n⟩, (threadz_pieces.2.2 c hc).2⟩

theorem threadzLine_match (n : Nat) : (searchRe matchThreadzAt (threadzLine n)).isSome = true := by
  have hm : matchThreadzAt (threadzLine n) = some () := by
    rw [threadzLine, List.append_assoc]
    unfold matchThreadzAt
    rw [stripPrefix_append]
    simp only [Option.bind_eq_bind, Option.bind_some]
    rw [reDigits_dec (Stops_of_stopsB threadz_pieces.2.1)]
    simp only [Option.bind_some, stripPrefix_self]
    rfl
  rw [searchRe_of_some hm]; rfl

theorem threadzLine_not_filler (n : Nat) : isSpaceOrComment (threadzLine n) = false := by
  apply not_filler_of_dashes
  rw [threadzLine, List.append_assoc]; exact hasPrefix_append_of threadz_pieces.1 _

theorem filler_no_dash (f : Filler) : hasPrefix [45] f.print = false := by
  unfold Filler.print
  cases f.indent with
  | zero =>
    cases f.comment with
    | none => rfl
    | some t => simp [hasPrefix, stripPrefix]
  | succ n => simp [List.replicate_succ, hasPrefix, stripPrefix]

theorem skipPreamble_fillers (fs : List Filler) (hfs : ∀ f ∈ fs, f.wf = true) (x : Str) (hx : IsBoundary x) (more : List Str) :
    ∀ last, skipPreamble last (printFillers fs ++ x :: more) = (x, more) := by
  induction fs with
  | nil =>
    intro last
    obtain ⟨t, rfl⟩ := hx.dash
    simp [printFillers, skipPreamble, hasPrefix, stripPrefix]
  | cons f fs ih =>
    intro last
    simp only [printFillers, List.map_cons, List.cons_append, skipPreamble,
      filler_not_sentinel (hfs f (by simp)), filler_no_dash, Bool.or_self, Bool.false_eq_true, if_false]
    exact ih (fun g hg => hfs g (by simp [hg])) _

theorem ThreadRec.LineOK_headerLine (r : ThreadRec) (h : ∀ b ∈ r.name, isPrint b = true) : LineOK r.headerLine := by
  simp only [ThreadRec.headerLine]; lineok
  exact ⟨⟨⟨⟨threadOpen_lit.2.2, threadName_lit.2.2⟩, LineOK_of_isPrint h⟩, by decide⟩, threadClose_lit.2.2⟩

theorem ThreadBody.LineOK_lines (w : Nat) (b : ThreadBody)
    (h : ∀ ls, b = .stack ls → ∀ l ∈ ls, l.sym.all symOK = true) : ∀ l ∈ b.lines w, LineOK l := by
  have hnil : ∀ (n : Nat) l, l ∈ List.replicate n ([] : Str) → LineOK l := fun n l hl => by
    rw [List.eq_of_mem_replicate hl]; exact LineOK_nil
  intro l hl
  cases b with
  | same blanks indent =>
    rcases List.mem_append.1 hl with hl | hl
    · exact hnil _ l hl
    · rw [List.mem_singleton.1 hl]
      exact LineOK_append (LineOK_sp _) sameMarker_table.2.1.2.2
  | stack ls =>
    obtain ⟨tl, htl, hl⟩ := List.mem_flatMap.1 hl
    rcases List.mem_append.1 hl with hl | hl
    · exact hnil _ l hl
    · rw [List.mem_singleton.1 hl]
      have hs := h ls rfl tl htl
      exact LineOK_of_not_mem (tl.not_mem_print w hs (by decide) (by simp) (by decide))
        (tl.not_mem_print w hs (by decide) (by simp) (by decide))

theorem ThreadEnd.LineOK_lines (e : ThreadEnd) (h : e.wf = true) : ∀ l ∈ e.lines, LineOK l := by
  cases e with
  | map m => exact LineOK_tailLines LineOK_sentinelMemoryMap (fun m' hm' => by rw [← Option.some.inj hm']; exact h)
  | noStack n m =>
    intro l hl
    rcases List.mem_cons.1 hl with rfl | hl
    · exact LineOK_of_not_mem (noStackLine_not_mem n (by simp)) (noStackLine_not_mem n (by simp))
    · exact LineOK_tailLines LineOK_sentinelMemoryMap (wf_of_map h) l hl

theorem ThreadDoc.lines_ok (d : ThreadDoc) (h : d.wf = true) : ∀ l ∈ d.lines, LineOK l := by
  simp only [ThreadDoc.wf, Bool.and_eq_true, List.all_eq_true] at h
  obtain ⟨⟨⟨hpre, hhead⟩, hrecs⟩, hend⟩ := h
  intro l hl
  simp only [ThreadDoc.lines, List.mem_append, List.mem_flatMap] at hl
  rcases hl with ((hl | hl) | ⟨r, hr, hl⟩) | hl
  · exact LineOK_fillers (List.all_eq_true.2 hpre) l hl
  · cases hh : d.head with
    | none => simp [hh] at hl
    | some p =>
      simp only [hh, List.mem_cons] at hl hhead
      rcases hl with rfl | hl
      · exact LineOK_of_not_mem (threadzLine_not_mem _ (by simp)) (threadzLine_not_mem _ (by simp))
      · exact LineOK_fillers hhead l hl
  · have hw := hrecs r hr
    simp only [ThreadRec.wf, Bool.and_eq_true, List.all_eq_true] at hw
    rcases List.mem_cons.1 hl with rfl | hl
    · exact r.LineOK_headerLine hw.1.1.1
    · refine r.body.LineOK_lines d.width (fun ls hb tl htl => ?_) l hl
      have hb' := hw.2
      simp only [hb, Bool.and_eq_true, List.all_eq_true] at hb'
      exact (hb'.1 tl htl).2
  · exact d.ending.LineOK_lines hend l hl

theorem splitLines_printThread (d : ThreadDoc) (h : d.wf = true) : splitLines (printThread d) = d.lines :=
  splitLines_unlines _ (d.lines_ok h)

theorem parseThread_printThread (d : ThreadDoc) (h : d.wf = true) : parseThread (printThread d) = .ok (expectedThread d) := by
  have hlines := splitLines_printThread d h
  simp only [ThreadDoc.wf, Bool.and_eq_true, List.all_eq_true] at h
  obtain ⟨⟨⟨hpre, hhead⟩, hrecs⟩, hend⟩ := h
  obtain ⟨x, more, hxm, hx, hlen, hxr⟩ := d.body_cons
  obtain ⟨cur, rest, hl1, hl2⟩ := loopOn_body d.width d.recs hrecs d.ending hend (more.length + 2) hlen
  rw [hxm, loopOn] at hl1
  unfold parseThread
  rw [hlines]
  unfold parseThreadLines ThreadDoc.lines
  cases hh : d.head with
  | some p =>
    obtain ⟨n, fs⟩ := p
    rw [hh] at hhead
    simp only [List.append_assoc, List.cons_append]
    rw [skipLeadingFillers_fillers (threadzLine_not_filler n)]
    simp only [threadzLine_match, if_true, hxm]
    rw [skipPreamble_fillers fs (by simpa [List.all_eq_true] using hhead) x hx more]
    simp only [hl1, hl2, expectedThread]
  | none =>
    obtain ⟨r, hr, hxr'⟩ := hxr (by rw [hh] at hhead; simpa using hhead)
    simp only [List.nil_append, List.append_assoc, hxm]
    rw [skipLeadingFillers_fillers hx.not_filler]
    have hw := hrecs r hr
    simp only [ThreadRec.wf, Bool.and_eq_true, Option.isNone_iff_eq_none] at hw
    have hz : (searchRe matchThreadzAt x).isSome = false := by rw [hxr', hw.1.2]; rfl
    have hts : isThreadStart x = true := by rw [hxr']; exact r.isThreadStart
    simp only [hz, hts, Bool.false_eq_true, if_false, if_true, hl1, hl2, expectedThread]

end PV.Legacy
