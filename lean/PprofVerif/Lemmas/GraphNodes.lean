import PprofVerif.Lemmas.GraphFold
/-!
Node figures of `newGraph`: one sample adds its pair to cum of every kept entry on its stack and to flat of its
leaf if kept (`sampleStep_cum`, `sampleStep_flat`); a loop with such a step accumulates the specification's sum
(`foldl_sumOver`), which gives `newGraph_cum` and `newGraph_flat` for every kept set.  Last, the report total.
-/
namespace PV.Graph
open PV.GSpec
variable {κ : Type}

theorem sumOver_cons (s : GSample κ) (ss : List (GSample κ)) (c : GSample κ → Bool) :
    sumOver (s :: ss) c = ind (c s = true) s.wd + sumOver ss c := by
  unfold sumOver ind
  rw [List.filter_cons]; split
  · rfl
  · exact (WD.zero_add _).symm
theorem sumOver_map_restrict (K : κ → Bool) (ss : List (GSample κ)) (c : GSample κ → Bool) :
    sumOver (ss.map (restrict K)) c = sumOver ss (fun s => c (restrict K s)) := by
  induction ss with
  | nil => rfl
  | cons s ss ih =>
    rw [List.map_cons, sumOver_cons, sumOver_cons, ih]
    rfl
theorem sumOver_congr (ss : List (GSample κ)) (c c' : GSample κ → Bool)
    (h : ∀ s ∈ ss, s.wd ≠ 0 → c s = c' s) : sumOver ss c = sumOver ss c' := by
  induction ss with
  | nil => rfl
  | cons s ss ih =>
    rw [sumOver_cons, sumOver_cons, ih (fun t ht => h t (List.mem_cons_of_mem _ ht))]
    by_cases h0 : s.wd = 0
    · rw [h0, ind_zero, ind_zero]
    · rw [h s (List.mem_cons_self) h0]

theorem wd_zero_of_skip (s : GSample κ) (h : (s.d == 0 && s.w == 0) = true) : s.wd = 0 := by
  rw [Bool.and_eq_true, beq_iff_eq, beq_iff_eq] at h
  exact WD.ext' h.2 h.1

theorem foldl_sumOver {σ : Type} (step : σ → GSample κ → σ) (obs : σ → WD) (c : GSample κ → Prop) [DecidablePred c]
    (h : ∀ g s, obs (step g s) = obs g + ind (c s) s.wd) (ss : List (GSample κ)) :
    ∀ g, obs (ss.foldl step g) = obs g + sumOver ss (fun s => decide (c s)) := by
  induction ss with
  | nil => intro g; exact (WD.add_zero _).symm
  | cons s ss ih =>
    intro g
    rw [List.foldl_cons, ih, h, sumOver_cons, WD.add_assoc, ind_congr decide_eq_true_iff]

variable [DecidableEq κ]

@[simp] theorem sumOver_nil (c : GSample κ → Bool) : sumOver ([] : List (GSample κ)) c = 0 := rfl

/-- the end of the per-sample loop: flat goes to the leaf, unless the leaf was dropped -/
def finish (v : WD) (r : Inner κ) : GState κ :=
  match r.parent with
  | some p => if !r.residual then r.g.addFlat p v else r.g
  | none => r.g

theorem sampleStep_eq (K : κ → Bool) (g : GState κ) (s : GSample κ) :
    sampleStep K g s = if s.d == 0 && s.w == 0 then g
      else finish s.wd (s.frames.foldl (stepFrame K s.wd) ⟨g, [], [], none, false⟩) := rfl

@[simp] theorem finish_cum (v : WD) (r : Inner κ) (m : κ) : (finish v r).cum m = r.g.cum m := by
  unfold finish; split
  · split
    · exact addFlat_cum ..
    · rfl
  · rfl
@[simp] theorem finish_edges (v : WD) (r : Inner κ) : (finish v r).edges = r.g.edges := by
  unfold finish; split <;> (try split) <;> rfl
theorem finish_flat (v : WD) (r : Inner κ) (m : κ) :
    (finish v r).flat m = r.g.flat m + ind (r.parent = some m ∧ r.residual = false) v := by
  unfold finish
  cases hp : r.parent with
  | none => rw [ind_false (fun h => nomatch h.1), WD.add_zero]
  | some p =>
    cases hr : r.residual with
    | true => rw [ind_false (fun h => nomatch h.2), WD.add_zero]; rfl
    | false =>
      exact (addFlat_flat ..).trans (congrArg _ (ind_congr ⟨fun h => ⟨congrArg _ h, rfl⟩, fun h => Option.some.inj h.1⟩ v))

theorem sampleStep_cum (K : κ → Bool) (g : GState κ) (s : GSample κ) (m : κ) :
    (sampleStep K g s).cum m = g.cum m + ind (m ∈ s.frames ∧ K m = true) s.wd := by
  rw [sampleStep_eq]; split
  · rename_i hs
    rw [wd_zero_of_skip s hs, ind_zero, WD.add_zero]
  · rw [finish_cum, foldFrames_cum]
    exact congrArg _ (ind_congr ⟨fun h => ⟨h.1, h.2.1⟩, fun h => ⟨h.1, h.2, fun h => nomatch h⟩⟩ _)

theorem sampleStep_flat (K : κ → Bool) (g : GState κ) (s : GSample κ) (m : κ) :
    (sampleStep K g s).flat m = g.flat m + ind (K m = true ∧ s.frames.getLast? = some m) s.wd := by
  rw [sampleStep_eq]; split
  · rename_i hs
    rw [wd_zero_of_skip s hs, ind_zero, WD.add_zero]
  · rw [finish_flat, foldFrames_flat]
    refine congrArg _ (ind_congr ?_ _)
    rcases List.eq_nil_or_concat s.frames with hnil | ⟨fs, x, hx⟩
    · rw [hnil]; exact ⟨fun h => (nomatch h.1), fun h => (nomatch h.2)⟩
    · rw [hx, List.concat_eq_append, List.getLast?_concat]
      obtain ⟨hr, hp⟩ := foldFrames_last K s.wd fs x ⟨g, [], [], none, false⟩
      rw [hr]
      constructor
      · rintro ⟨h1, h2⟩
        have hk : K x = true := by cases hk : K x; rw [hk] at h2; exact nomatch h2; rfl
        have := (hp hk).symm.trans h1
        exact ⟨Option.some.inj this ▸ hk, this⟩
      · rintro ⟨h1, h2⟩
        have hk : K x = true := Option.some.inj h2 ▸ h1
        exact ⟨(hp hk).trans h2, by rw [hk]; rfl⟩

@[simp] theorem empty_cum (m : κ) : (GState.empty : GState κ).cum m = 0 := rfl
@[simp] theorem empty_flat (m : κ) : (GState.empty : GState κ).flat m = 0 := rfl

theorem newGraph_cum (K : κ → Bool) (ss : List (GSample κ)) (n : κ) :
    (newGraph K ss).cum n = cumSpecK K ss n := by
  refine (foldl_sumOver _ (·.cum n) _ (fun g s => sampleStep_cum K g s n) ss _).trans ?_
  unfold cumSpecK cumSpec
  rw [empty_cum, WD.zero_add, sumOver_map_restrict]
  exact congrArg _ (funext fun s => decide_eq_decide.mpr List.mem_filter.symm)

theorem newGraph_flat (K : κ → Bool) (ss : List (GSample κ)) (n : κ) :
    (newGraph K ss).flat n = flatSpecK K ss n := by
  refine (foldl_sumOver _ (·.flat n) _ (fun g s => sampleStep_flat K g s n) ss _).trans ?_
  unfold flatSpecK
  rw [empty_flat, WD.zero_add]
  exact congrArg _ (funext fun s => by rw [Bool.decide_and, Bool.decide_eq_true])

def absWD (s : GSample κ) : WD := ⟨absI s.w, s.d⟩

omit [DecidableEq κ] in
/-- `computeTotal` keeps two running pairs: one over all samples, one over the diff-base samples. -/
theorem totalStep_pairs (a : TotAcc) (s : GSample κ) :
    (⟨(totalStep a s).total, (totalStep a s).div⟩ : WD) = ⟨a.total, a.div⟩ + absWD s ∧
    (⟨(totalStep a s).diffTotal, (totalStep a s).diffDiv⟩ : WD) =
      ⟨a.diffTotal, a.diffDiv⟩ + if s.base then absWD s else 0 := by
  unfold totalStep
  cases s.base
  · exact ⟨rfl, (WD.add_zero _).symm⟩
  · exact ⟨rfl, rfl⟩

omit [DecidableEq κ] in
theorem foldTotal (ss : List (GSample κ)) : ∀ (a : TotAcc),
    (⟨(ss.foldl totalStep a).total, (ss.foldl totalStep a).div⟩ : WD) =
      ⟨a.total, a.div⟩ + sumWD (ss.map absWD) ∧
    (⟨(ss.foldl totalStep a).diffTotal, (ss.foldl totalStep a).diffDiv⟩ : WD) =
      ⟨a.diffTotal, a.diffDiv⟩ + sumWD ((ss.filter (·.base)).map absWD) := by
  induction ss with
  | nil => intro a; exact ⟨(WD.add_zero _).symm, (WD.add_zero _).symm⟩
  | cons s ss ih =>
    intro a
    rw [List.foldl_cons, (ih _).1, (ih _).2, (totalStep_pairs a s).1, (totalStep_pairs a s).2,
      WD.add_assoc, WD.add_assoc]
    refine ⟨rfl, congrArg _ ?_⟩
    cases hb : s.base
    · rw [List.filter_cons_of_neg (by simp [hb])]; exact WD.zero_add _
    · rw [List.filter_cons_of_pos hb]; rfl

theorem total_eq_spec (ss : List (GSample κ)) : computeTotalWD ss = totalSpec ss := by
  obtain ⟨h1, h2⟩ := foldTotal ss ⟨0, 0, 0, 0⟩
  rw [show (⟨0, 0⟩ : WD) = 0 from rfl, WD.zero_add] at h1 h2
  unfold computeTotalWD totalSpec
  show (if (ss.foldl totalStep ⟨0, 0, 0, 0⟩).diffTotal > 0 then _ else _) = _
  rw [h1, h2, show (ss.foldl totalStep ⟨0, 0, 0, 0⟩).diffTotal = _ from congrArg WD.w h2]
  rfl
end PV.Graph
