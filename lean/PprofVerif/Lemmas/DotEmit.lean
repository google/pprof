import PprofVerif.Lemmas.DotEscape
import PprofVerif.Lemmas.CallgrindNum
import PprofVerif.Model.DotEmit
/-! C18: every quoted string the DOT emitter of `internal/graph/dotgraph.go` (repaired,
fixes/C18-dot-escape-all-sites.patch) assembles is safe between quotes. -/
namespace PV.Dot
open PV.Callgrind (dec hex)

def Plain (s : Bytes) : Prop := ∀ b ∈ s, b ≠ BS ∧ b ≠ DQ

/-- plain bytes leave the scanner in the state "not after a backslash" -/
theorem qsafeA_plain_append (s t : Bytes) (h : Plain s) : qsafeA false (s ++ t) = qsafeA false t := by
  induction s with
  | nil => rfl
  | cons x r ih =>
    obtain ⟨hx, hr⟩ := List.forall_mem_cons.mp h
    simp only [List.cons_append, qsafeA, hx.2, hx.1, if_false]
    exact ih hr

theorem qsafeB_plain (s : Bytes) (h : Plain s) : qsafeB s = true := by
  simpa [qsafeB, qsafeA] using qsafeA_plain_append s [] h

theorem qsafeA_plain_prefix (old t : Bytes) (hne : old ≠ []) (h : Plain old) (esc : Bool) :
    qsafeA esc (old ++ t) = qsafeA false t := by
  obtain ⟨x, r, rfl⟩ := List.exists_cons_of_ne_nil hne
  cases esc
  · exact qsafeA_plain_append _ t h
  · exact qsafeA_plain_append r t (List.forall_mem_cons.mp h).2

/-- `strings.Replace` on already escaped text: a pattern without backslash and quote cannot cut an escape unit, and
the replacement has to be safe both at the start of a unit and as the tail of a `\x` unit. -/
theorem qsafeA_replaceAllF (old new : Bytes) (hne : old ≠ []) (hold : Plain old)
    (hn0 : qsafeA false new = true) (hn1 : qsafeA true new = true) :
    ∀ (f : Nat) (esc : Bool) (s : Bytes), qsafeA esc s = true → qsafeA esc (replaceAllF f old new s) = true := by
  intro f
  induction f with
  | zero => intro esc s h; simpa [replaceAllF] using h
  | succ f ih =>
    intro esc s h
    cases s with
    | nil => simpa [replaceAllF] using h
    | cons b r =>
      simp only [replaceAllF]
      split
      · rename_i hp
        rw [← List.prefix_iff_eq_append.mp (List.isPrefixOf_iff_prefix.mp hp), qsafeA_plain_prefix old _ hne hold esc] at h
        have hnew : qsafeA esc new = true := by cases esc <;> assumption
        exact qsafeA_append hnew (ih false _ h)
      · obtain ⟨e', h', hq, _⟩ := qsafeA_cons h
        rw [hq]; exact ih e' r h'

/-- the side conditions on a literal pattern and replacement are one closed check -/
theorem qsafeB_replaceAll (old new s : Bytes)
    (hok : old ≠ [] ∧ (∀ b ∈ old, b ≠ BS ∧ b ≠ DQ) ∧ qsafeA false new = true ∧ qsafeA true new = true)
    (h : qsafeB s = true) : qsafeB (replaceAll old new s) = true :=
  qsafeA_replaceAllF old new hok.1 hok.2.1 hok.2.2.1 hok.2.2.2 _ false s h

theorem qsafeB_join (sep : Bytes) (hsep : qsafeB sep = true) (parts : List Bytes)
    (h : ∀ p ∈ parts, qsafeB p = true) : qsafeB (join sep parts) = true := by
  induction parts with
  | nil => rfl
  | cons p rest ih =>
    cases rest with
    | nil => simpa [join] using h p (by simp)
    | cons q rest' =>
      simp only [join]
      obtain ⟨hp, hrest⟩ := List.forall_mem_cons.mp h
      exact qsafeB_append (qsafeB_append hp hsep) (ih hrest)

theorem qsafeB_nil : qsafeB [] = true := rfl

theorem dec_plain (n : Nat) : Plain (dec n) :=
  Callgrind.mem_dec (P := fun b => b ≠ BS ∧ b ≠ DQ) (by decide) n

theorem hex_plain (n : Nat) : Plain (hex n) :=
  Callgrind.mem_hex (P := fun b => b ≠ BS ∧ b ≠ DQ) (by decide) n

theorem plain_append {a b : Bytes} (ha : Plain a) (hb : Plain b) : Plain (a ++ b) :=
  List.forall_mem_append.mpr ⟨ha, hb⟩

theorem plain_cons {x : UInt8} {t : Bytes} (hx : x ≠ BS ∧ x ≠ DQ) (ht : Plain t) : Plain (x :: t) :=
  List.forall_mem_cons.mpr ⟨hx, ht⟩

theorem hex016_plain (n : Nat) : Plain (hex016 n) :=
  plain_append (fun _ hb => (List.mem_replicate.mp hb).2 ▸ by decide) (hex_plain n)

theorem qsafeB_BSn : qsafeB BSn = true := by decide
theorem qsafeB_BSl : qsafeB BSl = true := by decide

theorem forall_mem_ite {α} {c : Prop} [Decidable c] {x : α} {l : List α} {P : α → Prop} (hx : P x)
    (hl : ∀ p ∈ l, P p) : ∀ p ∈ (if c then [x] else l), P p := by
  split
  · exact fun p hp => List.mem_singleton.mp hp ▸ hx
  · exact hl

theorem nameComponents_qsafe (base : Bytes → Bytes) (i : Info)
    (hn : qsafeB i.name = true) (hf : qsafeB i.file = true) (ho : qsafeB (base i.objfile) = true) :
    ∀ p ∈ nameComponents base i, qsafeB p = true := by
  have hcolon : COLON ≠ BS ∧ COLON ≠ DQ := by decide
  have hcol : Plain (if i.columnno ≠ 0 then COLON :: dec i.columnno else []) := by
    split
    · exact plain_cons hcolon (dec_plain _)
    · nofun
  have hline := qsafeB_append (qsafeB_append hf (qsafeB_plain _ (plain_cons hcolon (dec_plain i.lineno))))
    (qsafeB_plain _ hcol)
  have hobj : qsafeB (0x5b :: base i.objfile ++ [0x5d]) = true :=
    qsafeB_append (a := [0x5b]) (by decide) (qsafeB_append ho (by decide))
  unfold nameComponents
  simp only [List.forall_mem_append]
  refine ⟨⟨forall_mem_ite (qsafeB_plain _ (hex016_plain _)) nofun, forall_mem_ite hn nofun⟩, ?_⟩
  refine forall_mem_ite hline (forall_mem_ite hf ?_)
  split
  · nofun
  · exact forall_mem_ite hobj fun p hp => List.mem_singleton.mp hp ▸ by decide

/-- Whatever `ShortenFunctionName` does (`shorten`), provided `filepath.Base` keeps escaped text safe (`hbase`). -/
theorem multilinePrintableName_qsafe (shorten base : Bytes → Bytes)
    (hbase : ∀ s, qsafeB (base (escape s)) = true) (i : Info) :
    qsafeB (multilinePrintableName shorten base i) = true := by
  unfold multilinePrintableName
  refine qsafeB_append (qsafeB_join _ qsafeB_BSn _ ?_) qsafeB_BSn
  apply nameComponents_qsafe
  · show qsafeB (replaceAll [0x2e] BSn (replaceAll DOTS ELLIPSIS (replaceAll [COLON, COLON] BSn (escape (shorten i.name))))) = true
    refine qsafeB_replaceAll _ _ _ (by decide) ?_
    refine qsafeB_replaceAll _ _ _ (by decide) ?_
    exact qsafeB_replaceAll _ _ _ (by decide) (qsafeB_escape _)
  · show qsafeB (if i.file ≠ [] then escape (base i.file) else i.file) = true
    split
    · exact qsafeB_escape _
    · rename_i h; simp at h; rw [h]; rfl
  · exact hbase _

theorem nodeLabel_qsafe (shorten base : Bytes → Bytes) (fmtv pct : Int → Bytes)
    (hbase : ∀ s, qsafeB (base (escape s)) = true) (hpct : ∀ v, Plain (pct v)) (i : Info) (flat cum : Int) :
    qsafeB (nodeLabel shorten base fmtv pct i flat cum) = true := by
  unfold nodeLabel
  have hval : ∀ {pre : Bytes}, qsafeB pre = true → ∀ v,
      qsafeB (pre ++ escape (fmtv v) ++ [SPC, 0x28] ++ pct v ++ [0x29]) = true := fun hpre v =>
    qsafeB_append (qsafeB_append (qsafeB_append (qsafeB_append hpre (qsafeB_escape _)) (by decide))
      (qsafeB_plain _ (hpct v))) (by decide)
  refine qsafeB_append (qsafeB_append (multilinePrintableName_qsafe shorten base hbase i) ?_) ?_
  · split
    · exact hval (pre := []) rfl flat
    · decide
  · split
    · exact hval (qsafeB_append (b := [0x6f, 0x66, SPC]) (by split <;> decide) (by decide)) cum
    · rfl

theorem nodeTooltip_qsafe (base : Bytes → Bytes) (fmtv : Int → Bytes) (i : Info) (flat cum : Int) :
    qsafeB (nodeTooltip base fmtv i flat cum) = true := by
  unfold nodeTooltip
  exact qsafeB_append (qsafeB_append (qsafeB_append (qsafeB_escape _) (by decide)) (qsafeB_escape _)) (by decide)

theorem edgeTooltip_qsafe (base : Bytes → Bytes) (fmtv : Int → Bytes) (src dst : Info) (w : Int) (residual : Bool) :
    qsafeB (edgeTooltip base fmtv src dst w residual) = true := by
  unfold edgeTooltip
  have harrow : qsafeB (SPC :: if residual then [0x2e, 0x2e, 0x2e] else [0x2d, 0x3e]) = true := by
    cases residual <;> decide
  have hdst : qsafeB (SPC :: escape (printableName base dst)) = true :=
    qsafeB_append (a := [SPC]) (by decide) (qsafeB_escape _)
  exact qsafeB_append (qsafeB_append (qsafeB_append (qsafeB_append (qsafeB_append (qsafeB_escape _) harrow) hdst)
    (by decide)) (qsafeB_escape _)) (by decide)

theorem qsafeB_map_escape (l : List Bytes) : ∀ p ∈ l.map escape, qsafeB p = true := by
  intro p hp
  obtain ⟨q, _, rfl⟩ := List.mem_map.mp hp
  exact qsafeB_escape q

theorem tagLabel_qsafe (split : Bytes → List Bytes) (name : Bytes) : qsafeB (tagLabel split name) = true :=
  qsafeB_join _ qsafeB_BSn _ (qsafeB_map_escape _)

theorem legendLabel_qsafe (labels : List Bytes) : qsafeB (legendLabel labels) = true :=
  qsafeB_append (qsafeB_join _ qsafeB_BSl _ (qsafeB_map_escape _)) qsafeB_BSl

end PV.Dot
