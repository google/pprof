import PprofVerif.Lemmas.Field
import PprofVerif.Lemmas.CodecTotal
/-!
The message decoding loop (`decodeMessage` in proto.go) without its fuel, and the relation
`Decodes bs fs`.  `Decodes` composes under `++`, which reduces every message round trip to a
pure computation over field lists.
-/
namespace PV.Wire

/-- `decodeField` consumes at least one byte, so `data.length` iterations always suffice -/
theorem decodeField_length {data : Bytes} {f : Field} {rest : Bytes}
    (h : decodeField data = .ok (f, rest)) : rest.length < data.length :=
  ((decodeField_safe data).of_ok h).2

/-- fuel-free view of the loop -/
def decodeAll {M : Type} (apply : M → Field → Outcome M) (m : M) (data : Bytes) : Outcome M :=
  decodeLoop apply data.length m data

theorem decodeLoop_eq_decodeAll {M : Type} (apply : M → Field → Outcome M) (m : M) (data : Bytes)
    (fuel : Nat) (h : data.length ≤ fuel) : decodeLoop apply fuel m data = decodeAll apply m data :=
  decodeLoop_fuel_irrelevant apply fuel data.length m data h (Nat.le_refl _)

/-- applying a list of already decoded fields, stopping at the first failure -/
def applyAll {M : Type} (apply : M → Field → Outcome M) (m : M) : List Field → Outcome M
  | [] => .ok m
  | f :: fs =>
    match apply m f with
    | .ok m' => applyAll apply m' fs
    | .err e => .err e
    | .panic s => .panic s

theorem applyAll_append {M : Type} (apply : M → Field → Outcome M) (m : M) (a b : List Field) :
    applyAll apply m (a ++ b) =
      match applyAll apply m a with
      | .ok m' => applyAll apply m' b
      | .err e => .err e
      | .panic s => .panic s := by
  induction a generalizing m with
  | nil => rfl
  | cons f fs ih =>
    simp only [List.cons_append, applyAll]
    cases apply m f with
    | ok m' => exact ih m'
    | err e => rfl
    | panic s => rfl

/-- `bs` is consumed by the decoding loop as exactly the fields `fs`, whatever follows. -/
def Decodes (bs : Bytes) (fs : List Field) : Prop :=
  ∀ (M : Type) (apply : M → Field → Outcome M) (m : M) (rest : Bytes),
    decodeAll apply m (bs ++ rest) =
      match applyAll apply m fs with
      | .ok m' => decodeAll apply m' rest
      | .err e => .err e
      | .panic s => .panic s

theorem Decodes.nil : Decodes [] [] := by
  intro M apply m rest; rfl

theorem Decodes.append {a b : Bytes} {fa fb : List Field} (ha : Decodes a fa) (hb : Decodes b fb) :
    Decodes (a ++ b) (fa ++ fb) := by
  intro M apply m rest
  rw [List.append_assoc, ha M apply m (b ++ rest), applyAll_append]
  cases applyAll apply m fa with
  | ok m' => exact hb M apply m' rest
  | err e => rfl
  | panic s => rfl

theorem Decodes.single {bs : Bytes} {f : Field} (hne : bs ≠ [])
    (h : ∀ rest, decodeField (bs ++ rest) = .ok (f, rest)) : Decodes bs [f] := by
  intro M apply m rest
  cases bs with
  | nil => exact absurd rfl hne
  | cons b bs' =>
    have hd := h rest
    have hl := decodeField_length hd
    unfold decodeAll
    simp only [List.cons_append, List.length_cons, decodeLoop]
    simp only [List.cons_append] at hd
    rw [hd]
    simp only [applyAll]
    cases apply m f with
    | err e => rfl
    | panic s => rfl
    | ok m' =>
      simp only [List.cons_append, List.length_cons] at hl
      exact decodeLoop_eq_decodeAll apply m' rest _ (by omega)

theorem Decodes.flatMap_mem {α : Type} (enc : α → Bytes) (fld : α → List Field) {l : List α}
    (h : ∀ a ∈ l, Decodes (enc a) (fld a)) : Decodes (l.flatMap enc) (l.flatMap fld) := by
  induction l with
  | nil => exact Decodes.nil
  | cons a l ih =>
    exact Decodes.append (h a List.mem_cons_self) (ih fun b hb => h b (List.mem_cons_of_mem a hb))

theorem Decodes.flatMap {α : Type} (enc : α → Bytes) (fld : α → List Field)
    (h : ∀ a, Decodes (enc a) (fld a)) : ∀ (l : List α), Decodes (l.flatMap enc) (l.flatMap fld) :=
  fun _ => Decodes.flatMap_mem enc fld fun a _ => h a

theorem Decodes.decodeAll_eq {bs : Bytes} {fs : List Field} (h : Decodes bs fs)
    {M : Type} (apply : M → Field → Outcome M) (m : M) :
    decodeAll apply m bs = applyAll apply m fs := by
  have := h M apply m []
  rw [List.append_nil] at this
  rw [this]
  cases applyAll apply m fs <;> rfl

end PV.Wire
