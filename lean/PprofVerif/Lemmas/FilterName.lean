import PprofVerif.Lemmas.LocFrames
/-!
C06: the model of `FilterSamplesByName` (`profile/filter.go`; Model/Filter.lean) computes exactly the frame-level rule
of Spec/Filter.lean (`name_views_eq_spec`, for valid profiles) and, for all profiles, only removes
(`sampleStep_only_removes`).
-/
namespace PV.Filter
open PV PV.FilterSpec

def hidePart (p : Profile) (hide : Option Rx) (l : Location) (ln : Line) : Bool :=
  match hide with
  | some re => !(lineMatches p re ln || mappingMatches p re l)
  | none => true

def showPart (p : Profile) (show_ : Option Rx) (l : Location) (ln : Line) : Bool :=
  match show_ with
  | some re => lineMatches p re ln || mappingMatches p re l
  | none => true

theorem hidePart_none (p : Profile) (l : Location) : hidePart p none l = fun _ => true := rfl
theorem hidePart_some (p : Profile) (re : Rx) (l : Location) :
    hidePart p (some re) l = fun ln => !(lineMatches p re ln || mappingMatches p re l) := rfl
theorem showPart_none (p : Profile) (l : Location) : showPart p none l = fun _ => true := rfl
theorem showPart_some (p : Profile) (re : Rx) (l : Location) :
    showPart p (some re) l = fun ln => lineMatches p re ln || mappingMatches p re l := rfl

theorem visible_line (p : Profile) (hide show_ : Option Rx) (l : Location) (ln : Line) :
    visible p hide show_ ⟨l.id, l.mappingID, some ln⟩ = (hidePart p hide l ln && showPart p show_ l ln) := by
  show visible p hide show_ (mkFrame l ln) = _
  cases hide <;> cases show_ <;> simp [visible, hidePart, showPart, frameMatches_line]

theorem afterHide_lines (p : Profile) (hide : Option Rx) (l : Location) :
    (afterHide p hide l).lines = l.lines.filter (hidePart p hide l) := by
  cases hide with
  | none => exact (List.filter_eq_self.mpr fun _ _ => rfl).symm
  | some re =>
    simp only [afterHide, hidePart_some, matchesName, unmatchedLines]
    by_cases mm : mappingMatches p re l = true
    · simp [mm]
    · simp only [Bool.not_eq_true] at mm
      simp only [mm, Bool.or_false, Bool.false_eq_true, ↓reduceIte]
      split
      · rfl
      · rename_i ha
        exact (List.filter_eq_self.mpr fun a h => by simpa using fun hm => ha (List.any_eq_true.mpr ⟨a, h, hm⟩)).symm

theorem afterHide_eq (p : Profile) (hide : Option Rx) (l : Location) :
    afterHide p hide l = { l with lines := l.lines.filter (hidePart p hide l) } := by
  rw [← afterHide_lines]
  cases hide with
  | none => rfl
  | some re => simp only [afterHide]; split <;> rfl

theorem afterHide_id (p : Profile) (hide : Option Rx) (l : Location) :
    (afterHide p hide l).id = l.id ∧ (afterHide p hide l).mappingID = l.mappingID := by
  rw [afterHide_eq]; exact ⟨rfl, rfl⟩

theorem locAfter_id (p : Profile) (hide show_ : Option Rx) (l : Location) :
    (locAfter p hide show_ l).id = l.id ∧ (locAfter p hide show_ l).mappingID = l.mappingID := by
  cases show_ <;> exact afterHide_id p hide l

theorem mappingMatches_congr (p : Profile) (re : Rx) {l l' : Location} (h : l'.mappingID = l.mappingID) :
    mappingMatches p re l' = mappingMatches p re l := by simp [mappingMatches, h]

theorem lineShown_eq (p : Profile) (re : Rx) (ln : Line) (h : ∃ f, p.findFunction ln.functionID = some f) :
    lineShown p re ln = lineMatches p re ln := by
  obtain ⟨f, hf⟩ := h
  simp [lineShown, lineMatches, hf]

theorem locAfter_lines (p : Profile) (hide show_ : Option Rx) (l : Location)
    (hf : ∀ ln ∈ l.lines, ∃ f, p.findFunction ln.functionID = some f) :
    (locAfter p hide show_ l).lines = l.lines.filter (fun ln => hidePart p hide l ln && showPart p show_ l ln) := by
  unfold locAfter
  cases show_ with
  | none => simp only [afterShow, afterHide_lines, showPart_none, Bool.and_true]
  | some re =>
    simp only [afterShow, matchedLines, afterHide_lines, showPart_some,
      mappingMatches_congr p re (afterHide_id p hide l).2]
    cases mappingMatches p re l
    · simp only [Bool.or_false, Bool.false_eq_true, ↓reduceIte, List.filter_filter]
      exact List.filter_congr fun ln hln => by rw [lineShown_eq p re ln (hf ln hln), Bool.and_comm]
    · simp

theorem afterHide_unsym (p : Profile) (hide : Option Rx) (l : Location) (h : l.lines = []) :
    afterHide p hide l = l := by
  rw [afterHide_eq, h]; cases l; simp_all

theorem locHidden_unsym (p : Profile) (hide show_ : Option Rx) (l : Location) (h : l.lines = []) :
    locHidden p hide show_ l = !visible p hide show_ ⟨l.id, l.mappingID, none⟩ := by
  rw [locHidden, afterHide_unsym p hide l h]
  cases hide <;> cases show_ <;>
    simp [hiddenByHide, hiddenByShow, hideHit, afterHide_unsym, matchesName, matchedLines, visible,
      frameMatches_noLine, h]

theorem locHidden_sym (p : Profile) (hide show_ : Option Rx) (l : Location) (h : l.lines ≠ []) :
    locHidden p hide show_ l = (locAfter p hide show_ l).lines.isEmpty := by
  have hne : l.lines.isEmpty = false := by simpa using h
  -- once `hide` has emptied the location, `hide` has hit it
  have hH : hiddenByHide p hide l = (afterHide p hide l).lines.isEmpty := by
    cases hide with
    | none => simp [hiddenByHide, hideHit, afterHide, hne]
    | some re => cases hm : matchesName p re l <;> simp [hiddenByHide, hideHit, afterHide, hm, hne]
  unfold locHidden
  rw [hH]
  cases show_ with
  | none => simp [hiddenByShow, locAfter, afterShow]
  | some re =>
    simp only [hiddenByShow, locAfter, afterShow, hne, Bool.false_and, Bool.not_false, Bool.and_true,
      matchedLines]
    cases (afterHide p hide l).lines <;> simp

theorem locFrames_filter (p : Profile) (hide show_ : Option Rx) (l : Location)
    (hf : ∀ ln ∈ l.lines, ∃ f, p.findFunction ln.functionID = some f) :
    (locFrames l).filter (visible p hide show_) =
      if locHidden p hide show_ l then [] else locFrames (locAfter p hide show_ l) := by
  have hid := locAfter_id p hide show_ l
  have hlines := locAfter_lines p hide show_ l hf
  by_cases h : l.lines = []
  · have h2 : (locAfter p hide show_ l).lines = [] := by rw [hlines, h]; rfl
    rw [locHidden_unsym p hide show_ l h, locFrames_of_lines_nil h, locFrames_of_lines_nil h2, hid.1, hid.2]
    simp only [List.filter_cons, List.filter_nil]
    cases visible p hide show_ ⟨l.id, l.mappingID, none⟩ <;> rfl
  · rw [locHidden_sym p hide show_ l h, locFrames_of_lines_ne h, List.filter_map]
    have hv : visible p hide show_ ∘ mkFrame l = fun ln => hidePart p hide l ln && showPart p show_ l ln :=
      funext (visible_line p hide show_ l)
    rw [hv, ← hlines]
    split
    · rename_i he; rw [List.isEmpty_iff.mp he]; rfl
    · rename_i he
      rw [locFrames_of_lines_ne (by simpa using he), mkFrame_congr hid]

theorem locHidden_iff_all_invisible (p : Profile) (hide show_ : Option Rx) (l : Location)
    (hf : ∀ ln ∈ l.lines, ∃ f, p.findFunction ln.functionID = some f) :
    (locFrames l).all (fun fr => !visible p hide show_ fr) = locHidden p hide show_ l := by
  rw [all_not_eq_filter_isEmpty, locFrames_filter p hide show_ l hf]
  cases locHidden p hide show_ l
  · exact List.isEmpty_eq_false_iff.mpr (locFrames_ne_nil _)
  · rfl

/-- the loop of Go's `focusedAndNotIgnored` with its early return, in closed form -/
theorem focusedAndNotIgnored_eq (m : Nat → Option Bool) (ig fo : Nat → Bool) (ids : List Nat) (f : Bool)
    (hm : ∀ id ∈ ids, m id = if ig id then some false else if fo id then some true else none) :
    focusedAndNotIgnored m ids f = ((f || ids.any fo) && !ids.any ig) := by
  induction ids generalizing f with
  | nil => simp [focusedAndNotIgnored]
  | cons a r ih =>
    have ih' := fun f => ih f fun id hid => hm id (by simp [hid])
    have ha := hm a (by simp)
    unfold focusedAndNotIgnored
    cases hi : ig a <;> cases hf : fo a <;> simp [ha, hi, hf, ih']

def locMatch (p : Profile) (re : Rx) (id : Nat) : Bool :=
  match p.findLocation id with
  | some l => matchesName p re l
  | none => false

theorem hasMatch_eq (p : Profile) (re : Rx) (s : Sample) :
    hasMatch p re s = s.locationIDs.any (locMatch p re) := by
  unfold hasMatch frames
  rw [List.any_flatMap]
  refine any_congr_mem fun id _ => ?_
  unfold locFramesOf locMatch
  cases p.findLocation id with
  | none => rfl
  | some l => exact locFrames_any_matches p re l

theorem keepTest_eq_nameKeeps (p : Profile) (fo ig : Option Rx) (s : Sample)
    (hres : ∀ id ∈ s.locationIDs, ∃ l, p.findLocation id = some l) :
    (focusedAndNotIgnored (foiMap p fo ig) s.locationIDs false || (fo.isNone && s.locationIDs.isEmpty)) =
      nameKeeps p fo ig s := by
  rw [focusedAndNotIgnored_eq _ (fun id => match ig with | some re => locMatch p re id | none => false)
    (fun id => match fo with | some re => locMatch p re id | none => true)]
  · simp only [nameKeeps, hasMatch_eq]
    cases s.locationIDs with
    | nil => cases fo <;> cases ig <;> rfl
    | cons a r => cases fo <;> cases ig <;> simp
  · intro id hid
    obtain ⟨l, hl⟩ := hres id hid
    simp only [foiMap, foiLoc, locMatch, hl]
    cases fo <;> cases ig <;> rfl

theorem locFramesOf_filter (p p' : Profile) (wf : WF p) (hi sh : Option Rx)
    (hl : p'.locations = p.locations.map (locAfter p hi sh)) (id : Nat) :
    (locFramesOf p id).filter (visible p hi sh) = if hiddenId p hi sh id then [] else locFramesOf p' id := by
  rw [locFramesOf_map (fun l => (locAfter_id p hi sh l).1) hl]
  unfold locFramesOf hiddenId
  cases hf : p.findLocation id with
  | none => rfl
  | some l => exact locFrames_filter p hi sh l (wf.lineFns l (find?_mem_id hf).1)

theorem frames_of_kept_ids (p p' : Profile) (wf : WF p) (hi sh : Option Rx)
    (hl : p'.locations = p.locations.map (locAfter p hi sh)) (ids : List Nat) :
    (ids.filter (fun id => !hiddenId p hi sh id)).flatMap (locFramesOf p') =
      (ids.flatMap (locFramesOf p)).filter (visible p hi sh) := by
  induction ids with
  | nil => rfl
  | cons id r ih =>
    simp only [List.flatMap_cons, List.filter_append, List.filter_cons, ← ih, locFramesOf_filter p p' wf hi sh hl]
    cases hiddenId p hi sh id <;> simp

theorem someLocationHidden_eq (p : Profile) (wf : WF p) (hi sh : Option Rx) :
    someLocationHidden p hi sh = p.locations.any (locHidden p hi sh) :=
  any_congr_mem fun l hl => locHidden_iff_all_invisible p hi sh l (wf.lineFns l hl)

theorem hiddenId_false_of_none (p : Profile) (hi sh : Option Rx) (h : p.locations.any (locHidden p hi sh) = false)
    (id : Nat) : hiddenId p hi sh id = false := by
  unfold hiddenId
  cases hf : p.findLocation id with
  | none => rfl
  | some l => simpa using List.any_eq_false.mp h l (find?_mem_id hf).1

theorem sampleStep_spec (p p' : Profile) (wf : WF p) (fo ig hi sh : Option Rx)
    (hl : p'.locations = p.locations.map (locAfter p hi sh)) (s : Sample) (hs : s ∈ p.samples) :
    (sampleStep p fo ig hi sh s).map (view p') = (nameSpecSample p fo ig hi sh s).map (specView s) := by
  have hres := wf.sampleLocs s hs
  have hfs := frames_of_kept_ids p p' wf hi sh hl s.locationIDs
  -- the frames left are empty exactly when no location id is left
  have hemp : ((frames p s).filter (visible p hi sh)).isEmpty =
      (s.locationIDs.filter (fun id => !hiddenId p hi sh id)).isEmpty := by
    rw [frames, ← hfs]
    refine flatMap_isEmpty fun id hid => ?_
    obtain ⟨l, hf⟩ := hres id (List.mem_filter.mp hid).1
    rw [locFramesOf_map (fun l => (locAfter_id p hi sh l).1) hl, hf]
    exact locFrames_ne_nil _
  simp only [sampleStep, nameSpecSample, keepTest_eq_nameKeeps p fo ig s hres, someLocationHidden_eq p wf hi sh, hemp]
  cases nameKeeps p fo ig s
  · rfl
  · cases hany : p.locations.any (locHidden p hi sh)
    · have hall : s.locationIDs.filter (fun id => !hiddenId p hi sh id) = s.locationIDs :=
        List.filter_eq_self.mpr fun id _ => by simp [hiddenId_false_of_none p hi sh hany id]
      rw [hall] at hfs ⊢
      by_cases hids : s.locationIDs = []
      · simp [view, specView, frames, hids]
      · simp [view, specView, frames, hfs, hids]
    · cases hlocs : (s.locationIDs.filter (fun id => !hiddenId p hi sh id)).isEmpty <;>
        simp [view, specView, frames, hfs]

theorem name_views_eq_spec (p : Profile) (wf : WF p) (fo ig hi sh : Option Rx) :
    (filterSamplesByName p fo ig hi sh).profile.samples.map (view (filterSamplesByName p fo ig hi sh).profile) =
      nameSpec p fo ig hi sh := by
  unfold filterSamplesByName nameSpec
  split
  · rfl
  · simp only [List.map_filterMap]
    exact filterMap_congr_mem fun s hs => sampleStep_spec p _ wf fo ig hi sh rfl s hs

theorem sampleStep_only_removes (p : Profile) (fo ig hi sh : Option Rx) (s s' : Sample)
    (h : sampleStep p fo ig hi sh s = some s') :
    s'.locationIDs.Sublist s.locationIDs ∧ s'.values = s.values ∧ s'.label = s.label ∧
      s'.numLabel = s.numLabel ∧ s'.numUnit = s.numUnit := by
  unfold sampleStep at h
  split at h
  · split at h
    · simp only at h
      split at h
      · cases h
      · cases h
        exact ⟨List.filter_sublist, rfl, rfl, rfl, rfl⟩
    · cases h
      exact ⟨List.Sublist.refl _, rfl, rfl, rfl, rfl⟩
  · cases h

theorem filterSamplesByName_samples_sublist (p : Profile) (fo ig hi sh : Option Rx) :
    List.Sublist ((filterSamplesByName p fo ig hi sh).profile.samples.map (fun s => (s.values, s.label, s.numLabel, s.numUnit)))
      (p.samples.map (fun s => (s.values, s.label, s.numLabel, s.numUnit))) := by
  unfold filterSamplesByName
  split
  · exact List.Sublist.refl _
  · refine filterMap_data_sublist (fun a a' h => ?_) _
    obtain ⟨_, h1, h2, h3, h4⟩ := sampleStep_only_removes p fo ig hi sh a a' h
    rw [h1, h2, h3, h4]

end PV.Filter
