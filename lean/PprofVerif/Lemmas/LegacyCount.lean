import PprofVerif.Lemmas.LegacyMapSection
import PprofVerif.Model.LegacyCount
/-!
Helper lemmas for C14: Go count profiles — `parseGoCount (printCount d) = ok (expectedCount d)`.
-/
namespace PV.Legacy
open PV

theorem countNameOK_bytes {name : Str} (h : countNameOK name = true) :
    ∀ b ∈ name, isPrint b = true ∧ isSpace b = false := by
  intro b hb
  simp only [countNameOK, Bool.and_eq_true, List.all_eq_true, bne_iff_ne, ne_eq] at h
  exact ⟨(h.1 b hb).1, isSpace_false_of_isPrint (h.1 b hb).1 (h.1 b hb).2⟩

theorem countNameOK_cons {name : Str} (h : countNameOK name = true) :
    ∃ c t, name = c :: t ∧ isSpace c = false ∧ c.toNat ≠ 35 := by
  cases name with
  | nil => simp [countNameOK] at h
  | cons c t =>
    refine ⟨c, t, rfl, (countNameOK_bytes h c (by simp)).2, ?_⟩
    simp only [countNameOK, Bool.and_eq_true, bne_iff_ne, ne_eq] at h
    exact h.2

theorem countNameOK_nonspace {name : Str} (h : countNameOK name = true) : ∀ b ∈ name, (!isReSpace b) = true :=
  fun b hb => by simp [isReSpace_false_of_isSpace (countNameOK_bytes h b hb).2]

theorem profileTotal_spec : asc " profile: total " ≠ [] ∧
    stopsB (fun b => !isReSpace b) (asc " profile: total ") = true ∧ LineOK (asc " profile: total ") := by decide +kernel

theorem matchCountStart_header (d : CountDoc) (h : countNameOK d.name = true) : matchCountStart d.headerLine = some d.name := by
  obtain ⟨c, t, hn, _, _⟩ := countNameOK_cons h
  have hS : Stops (fun b => !isReSpace b) (asc " profile: total " ++ dec d.total) :=
    Stops_append_of_ne_nil profileTotal_spec.1 (Stops_of_stopsB profileTotal_spec.2.1)
  have e : d.headerLine = d.name ++ (asc " profile: total " ++ dec d.total) := by simp [CountDoc.headerLine]
  unfold matchCountStart
  rw [e, takeWhile_append_stops (countNameOK_nonspace h) hS, dropWhile_append_stops (countNameOK_nonspace h) hS,
    stripPrefix_append]
  have h1 : d.name.isEmpty = false := by rw [hn]; rfl
  have h2 : (dec d.total != []) = true := by simp [dec_ne_nil]
  have h3 : (dec d.total).all isDigit = true := by simpa [List.all_eq_true] using dec_isDigit d.total
  simp [h1, h2, h3]

theorem headerLine_not_filler (d : CountDoc) (h : countNameOK d.name = true) : isSpaceOrComment d.headerLine = false := by
  obtain ⟨c, t, hn, h1, h2⟩ := countNameOK_cons h
  have : d.headerLine = c :: (t ++ (asc " profile: total " ++ dec d.total)) := by simp [CountDoc.headerLine, hn]
  rw [this]; exact isSpaceOrComment_head 0 _ h1 h2

theorem fieldsAux_word (wd rest cur : Str) (h : ∀ b ∈ wd, isSpace b = false) :
    fieldsAux (wd ++ rest) cur = fieldsAux rest (wd.reverse ++ cur) := by
  induction wd generalizing cur with
  | nil => rfl
  | cons b wd ih =>
    obtain ⟨hb, hwd⟩ := List.forall_mem_cons.1 h
    simp only [List.cons_append, fieldsAux, hb, Bool.false_eq_true, if_false]
    rw [ih (b :: cur) hwd]
    simp

theorem hex0x_nonspace (w a : Nat) : ∀ b ∈ hex0x w a, isSpace b = false := by
  intro b hb
  simp only [hex0x, List.mem_cons] at hb
  rcases hb with rfl | rfl | hb
  · decide
  · decide
  · exact isSpace_false_of_isHexLower (hexPad_isHexLower w a b hb)

theorem fieldsAux_printAddrs (w : Nat) (as : List Nat) (cur : Str) :
    fieldsAux (printAddrs w as) cur = (if cur.isEmpty then [] else [cur.reverse]) ++ as.map (hex0x w) := by
  induction as generalizing cur with
  | nil => simp [printAddrs, fieldsAux]
  | cons a as ih =>
    have e : printAddrs w (a :: as) = 32 :: (hex0x w a ++ printAddrs w as) := by simp [printAddrs]
    have hne2 : hex0x w a ≠ [] := by simp [hex0x]
    rw [e]
    simp only [fieldsAux, isSpace_32, if_true]
    split <;> simp [fieldsAux_word _ _ _ (hex0x_nonspace w a), ih, hne2]

theorem fields_printAddrs (w : Nat) (as : List Nat) : fields (printAddrs w as) = as.map (hex0x w) := by
  simp [fields, fieldsAux_printAddrs]

theorem isAddrWord_hex0x (w a : Nat) : isAddrWord (hex0x w a) = true := by
  simp only [isAddrWord, asc_0x, hex0x, stripPrefix_cons_self, stripPrefix_nil,
    List.all_eq_true.2 (hexPad_isHexLower w a), Bool.and_true, bne_iff_ne]
  exact hexPad_ne_nil w a

theorem parseAddrWords_map (w : Nat) (as : List Nat) (h : ∀ a ∈ as, a < two64) :
    parseAddrWords (as.map (hex0x w)) = some (as.map decr64) := by
  induction as with
  | nil => rfl
  | cons a as ih =>
    obtain ⟨ha, has⟩ := List.forall_mem_cons.1 h
    simp only [List.map_cons, parseAddrWords, parseU64Base0_hex0x ha, ih has]
    rfl

theorem CountRec.print_eq (w : Nat) (r : CountRec) : r.print w = dec r.n ++ (asc " @" ++ printAddrs w r.addrs) := by
  simp [CountRec.print]

theorem matchCountLine_print (w : Nat) (r : CountRec) (hne : r.addrs ≠ []) :
    matchCountLine (r.print w) = some (dec r.n, r.addrs.map (hex0x w)) := by
  have hS : Stops isDigit (asc " @" ++ printAddrs w r.addrs) := Stops_append_of_ne_nil (by decide) (Stops_of_stopsB (by decide))
  unfold matchCountLine
  rw [CountRec.print_eq, takeWhile_append_stops (dec_isDigit r.n) hS, dropWhile_append_stops (dec_isDigit r.n) hS,
    stripPrefix_append]
  dsimp only
  rw [fields_printAddrs]
  have h1 : (dec r.n).isEmpty = false := isEmpty_false_of_ne_nil (dec_ne_nil _)
  have h2 : (List.map (hex0x w) r.addrs != []) = true := by simp [hne]
  have h3 : (List.map (hex0x w) r.addrs).all isAddrWord = true := by
    simp only [List.all_eq_true, List.mem_map]
    rintro _ ⟨a, _, rfl⟩; exact isAddrWord_hex0x w a
  have h4 : (printAddrs w r.addrs == (List.map (hex0x w) r.addrs).flatMap (fun w => 32 :: w)) = true := by
    simp [printAddrs, List.flatMap_map]
  simp [h1, h2, h3, h4]

theorem countLoop_filler (f : Filler) (R : List Str) (acc : List RawSample) : countLoop (f.print :: R) acc = countLoop R acc := by
  rw [countLoop]; simp only [isSpaceOrComment_filler, if_true]

theorem countLoop_rec (w : Nat) (r : CountRec) (hr : r.wf = true) (R : List Str) (acc : List RawSample) :
    countLoop (r.print w :: R) acc = countLoop R (r.sample :: acc) := by
  simp only [CountRec.wf, Bool.and_eq_true, decide_eq_true_eq, bne_iff_ne, ne_eq, List.all_eq_true] at hr
  obtain ⟨⟨⟨_, hn⟩, hne⟩, hlt⟩ := hr
  obtain ⟨c, t, hd, hc⟩ := dec_cons r.n
  have e : r.print w = c :: (t ++ (asc " @" ++ printAddrs w r.addrs)) := by rw [CountRec.print_eq, hd]; simp
  have h := digit_line (t ++ (asc " @" ++ printAddrs w r.addrs)) hc
  rw [← e] at h
  rw [countLoop]
  simp only [h.1, h.2, Bool.false_eq_true, if_false, matchCountLine_print w r hne, parseI64Base0_dec hn,
    parseAddrWords_map w r.addrs hlt, CountRec.sample]

theorem CountDoc.lines_ok (d : CountDoc) (h : d.wf = true) : ∀ l ∈ d.lines, LineOK l := by
  simp only [CountDoc.wf, Bool.and_eq_true, List.all_eq_true] at h
  obtain ⟨⟨⟨⟨hpre, hname⟩, hrecs⟩, hpost⟩, hmap⟩ := h
  intro l hl
  simp only [CountDoc.lines, CountDoc.recLines, List.mem_append, List.mem_singleton] at hl
  rcases hl with (((hl | hl) | hl) | hl) | hl
  · exact LineOK_fillers (List.all_eq_true.2 hpre) l hl
  · subst hl
    simp only [CountDoc.headerLine]
    lineok
    exact ⟨LineOK_of_isPrint fun b hb => (countNameOK_bytes hname b hb).1, profileTotal_spec.2.2⟩
  · refine LineOK_records CountRec.fill (CountRec.print d.width) d.recs (fun r hr => ?_) l hl
    have hw := hrecs r hr
    simp only [CountRec.wf, Bool.and_eq_true] at hw
    rw [CountRec.print_eq, asc_at]
    exact ⟨hw.1.1.1, LineOK_append (LineOK_dec _) (LineOK_append (by decide) (LineOK_printAddrs _ _))⟩
  · exact LineOK_fillers (List.all_eq_true.2 hpost) l hl
  · exact LineOK_tailLines LineOK_sentinelMemoryMap (wf_of_map hmap) l hl

theorem splitLines_printCount (d : CountDoc) (h : d.wf = true) : splitLines (printCount d) = d.lines :=
  splitLines_unlines _ (d.lines_ok h)

theorem parseGoCount_printCount (d : CountDoc) (h : d.wf = true) : parseGoCount (printCount d) = .ok (expectedCount d) := by
  have hlines := splitLines_printCount d h
  simp only [CountDoc.wf, Bool.and_eq_true, List.all_eq_true] at h
  obtain ⟨⟨⟨⟨hpre, hname⟩, hrecs⟩, hpost⟩, hmap⟩ := h
  unfold parseGoCount
  rw [hlines]
  unfold parseGoCountLines CountDoc.lines
  simp only [List.append_assoc, List.cons_append]
  rw [skipLeadingFillers_fillers (headerLine_not_filler d hname)]
  simp only [matchCountStart_header d hname, CountDoc.recLines, List.nil_append]
  obtain ⟨cur, rest, hloop, hsect⟩ := loop_document countLoop CountRec.fill (CountRec.print d.width) CountRec.sample
    sentinelMemoryMap countLoop_filler d.recs (fun r hr => countLoop_rec d.width r (hrecs r hr)) (fun acc => by rw [countLoop])
    (fun R acc => by rw [countLoop]; simp only [sentinel_boundary.not_filler, sentinel_boundary.2, Bool.false_eq_true, if_false, if_true])
    isMemoryMapSentinel_memoryMap d.post d.map (wf_of_map hmap)
  rw [hloop]
  simp only [hsect, expectedCount]

end PV.Legacy
