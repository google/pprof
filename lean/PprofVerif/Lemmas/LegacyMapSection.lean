import PprofVerif.Lemmas.LegacyMap
/-!
Helper lemmas for C14: a whole memory-map section — glog prefixes (`removeLoggingInfo`), attribute
lines and `$name` references (`strings.Replacer`), `parseProcMaps` of a printed section, no line
terminators in printed lines.  At the end, what the formats that carry such a section share: a loop that
skips filler lines and consumes one record per line is a fold over the records (`loop_records`), and a
sample loop leaves the section to `parseAdditionalSections` (`loop_document`).
-/
namespace PV.Legacy
open PV

theorem splitEq_append (k v : Str) (h : ∀ b ∈ k, b.toNat ≠ 61) : splitEq (k ++ 61 :: v) = some (k, v) := by
  induction k with
  | nil => simp [splitEq]
  | cons b k ih =>
    obtain ⟨hb, hk⟩ := List.forall_mem_cons.1 h
    simp only [List.cons_append, splitEq, beq_iff_eq, hb, if_false]
    rw [ih hk]; rfl

theorem splitEq_none (s : Str) (h : ∀ b ∈ s, b.toNat ≠ 61) : splitEq s = none := by
  induction s with
  | nil => rfl
  | cons b s ih =>
    obtain ⟨hb, hs⟩ := List.forall_mem_cons.1 h
    simp only [splitEq, beq_iff_eq, hb, if_false]
    rw [ih hs]; rfl

theorem assignSep_eq (spaced : Bool) :
    (if spaced then asc " = " else asc "=") = sp (if spaced then 1 else 0) ++ 61 :: sp (if spaced then 1 else 0) := by
  cases spaced <;> decide +kernel

theorem LineOK_assignSep (spaced : Bool) : LineOK (if spaced then asc " = " else asc "=") := by
  rw [assignSep_eq]; exact LineOK_append (LineOK_sp _) ((LineOK_cons_iff _ _).2 ⟨by decide, LineOK_sp _⟩)

/-- printable bytes that none of the scanners of a section reacts to: the replacer (`$`), the split of
attribute lines (`=`), the glog-prefix scanner (brackets) -/
def Plain (l : Str) : Prop := ∀ b ∈ l, isPrint b = true ∧ b ≠ 36 ∧ b.toNat ≠ 61 ∧ isBracket b = false

instance (l : Str) : Decidable (Plain l) := by unfold Plain; infer_instance

theorem Plain_nil : Plain [] := by intro b hb; cases hb
theorem Plain_append_iff (a b : Str) : Plain (a ++ b) ↔ Plain a ∧ Plain b := List.forall_mem_append
theorem Plain_cons_iff (c : UInt8) (l : Str) :
    Plain (c :: l) ↔ (isPrint c = true ∧ c ≠ 36 ∧ c.toNat ≠ 61 ∧ isBracket c = false) ∧ Plain l :=
  List.forall_mem_cons
theorem Plain_append {a b : Str} (ha : Plain a) (hb : Plain b) : Plain (a ++ b) := (Plain_append_iff a b).2 ⟨ha, hb⟩

theorem plain_of_isWord {b : UInt8} (h : isWord b = true) :
    isPrint b = true ∧ b ≠ 36 ∧ b.toNat ≠ 61 ∧ isBracket b = false := by
  refine ⟨isPrint_of_isWord h, ne_of_class h (by decide), toNat_ne_of_class h (c := 61) (by decide), ?_⟩
  have := isWord_toNat h
  simp only [isBracket, Bool.or_eq_false_iff, beq_eq_false_iff_ne]; omega

theorem plain_of_isPermByte {b : UInt8} (h : isPermByte b = true) :
    isPrint b = true ∧ b ≠ 36 ∧ b.toNat ≠ 61 ∧ isBracket b = false := by
  rcases isPermByte_cases h with rfl | rfl | rfl | rfl | rfl <;> decide

theorem Plain_of_isXDigit {l : Str} (h : ∀ b ∈ l, isXDigit b = true) : Plain l :=
  fun b hb => plain_of_isWord (isWord_of_isXDigit (h b hb))

theorem Plain_sp (n : Nat) : Plain (sp n) := by
  intro b hb; simp only [sp, List.mem_replicate] at hb; rw [hb.2]; decide
theorem Plain_hexPad (w n : Nat) : Plain (hexPad w n) := Plain_of_isXDigit (hexPad_isXDigit w n)
theorem Plain_hex (n : Nat) : Plain (hex n) := Plain_of_isXDigit (hex_isXDigit n)
theorem Plain_dec (n : Nat) : Plain (dec n) := Plain_of_isXDigit (fun b hb => isXDigit_of_isDigit (dec_isDigit n b hb))
theorem Plain_perm (p : Perm) : Plain p.print := fun b hb => plain_of_isPermByte ((perm_print_spec p).2.1 b hb)
theorem Plain_hexTok (ox : Bool) (w n : Nat) : Plain (hexTok ox w n) :=
  Plain_append (by cases ox <;> decide) (Plain_hexPad w n)
theorem Plain_optField {g : Nat} {o : Option Str} (h : ∀ s, o = some s → Plain s) : Plain (optField g o) := by
  cases o with
  | none => exact Plain_nil
  | some s => exact Plain_append (Plain_sp _) (h s rfl)

theorem MapEntry.Plain_pre (e : MapEntry) : Plain e.pre := by
  refine Plain_append ?_ ?_
  · simp only [MapEntry.range, Plain_append_iff, Plain_cons_iff, Plain_sp, Plain_hexTok, and_true, true_and]
    decide
  · cases e.form with
    | proc perm off dmaj dmin inode file =>
      simp only [MapForm.pre, Plain_append_iff, Plain_cons_iff, Plain_sp, Plain_perm, Plain_hexPad, Plain_dec,
        and_true, true_and]
      decide
    | brief colon perm file off bid =>
      refine Plain_append (by cases colon <;> decide) (Plain_optField fun s hs => ?_)
      obtain ⟨q, _, rfl⟩ := Option.map_eq_some_iff.1 hs
      exact Plain_perm q

theorem MapEntry.wf_parts {e : MapEntry} (h : e.wf = true) : e.form.file.all fileOK = true ∧ Plain e.post := by
  obtain ⟨indent, ox, width, start, limit, gap, form⟩ := e
  cases form with
  | proc perm off dmaj dmin inode file =>
    simp only [MapEntry.wf, Bool.and_eq_true] at h
    exact ⟨h.2.2, Plain_nil⟩
  | brief colon perm file off bid =>
    simp only [MapEntry.wf, Bool.and_eq_true] at h
    refine ⟨h.2.1.1.1, Plain_append (Plain_optField fun s hs => ?_) (Plain_optField fun s hs => ?_)⟩
    · obtain ⟨o, _, rfl⟩ := Option.map_eq_some_iff.1 hs
      simp only [Plain_append_iff, Plain_hex, and_true]
      decide
    · subst hs
      exact Plain_of_isXDigit (buildIDOK_isXDigit (by simpa using h.2.1.1.2))

theorem MapEntry.withFile_wf_parts {e : MapEntry} {f : Str} (h : (e.withFile f).wf = true) :
    fileOK f = true ∧ Plain e.post := by
  obtain ⟨_, h2, h3⟩ := MapForm.setFile_parts e.gap f e.form
  have := MapEntry.wf_parts h
  simpa only [MapEntry.withFile, MapEntry.post, h2, h3, Option.all_some] using this

theorem removeLoggingInfo_of_firstBracketOK {l : Str} (h : firstBracketOK l = true) : removeLoggingInfo l = l := by
  unfold removeLoggingInfo
  unfold firstBracketOK at h
  cases hq : l.dropWhile (fun b => !isBracket b) with
  | nil => rfl
  | cons c r =>
    rw [hq] at h
    cases r with
    | nil => rfl
    | cons w tail =>
      have hc : c.toNat = 91 := by simpa using h
      have : (c.toNat == 93) = false := by simp [hc]
      simp [this]

theorem removeLoggingInfo_no_colon {l : Str} (h : (58 : UInt8) ∉ l) : removeLoggingInfo l = l := by
  unfold removeLoggingInfo
  cases l.dropWhile (fun b => !isBracket b) with
  | nil => rfl
  | cons c r =>
    cases r with
    | nil => rfl
    | cons w tail =>
      simp only []
      split
      · cases hq : (l.takeWhile (fun b => !isBracket b)).reverse.dropWhile isDigit with
        | nil => rfl
        | cons k r2 =>
          cases r2 with
          | nil => rfl
          | cons x r3 =>
            have hk : k ∈ l := by
              have h1 : k ∈ (l.takeWhile (fun b => !isBracket b)).reverse.dropWhile isDigit := by rw [hq]; simp
              have h2 := (List.dropWhile_sublist isDigit).subset h1
              exact (List.takeWhile_sublist _).subset (List.mem_reverse.1 h2)
            have : (k.toNat == 58) = false := by
              simp only [beq_eq_false_iff_ne]
              intro e
              have : k = 58 := UInt8.toNat_inj.1 (by simpa using e)
              exact h (this ▸ hk)
            simp [this]
      · rfl

theorem firstBracketOK_append_left {a x : Str} (ha : ∀ b ∈ a, isBracket b = false) : firstBracketOK (a ++ x) = firstBracketOK x := by
  unfold firstBracketOK
  rw [List.dropWhile_append_of_pos (fun b hb => by simp [ha b hb])]

theorem firstBracketOK_append_plain_left {a x : Str} (ha : Plain a) : firstBracketOK (a ++ x) = firstBracketOK x :=
  firstBracketOK_append_left (fun b hb => (ha b hb).2.2.2)

theorem firstBracketOK_of_plain {l : Str} (h : Plain l) : firstBracketOK l = true := by
  have := firstBracketOK_append_plain_left (x := []) h
  rw [List.append_nil] at this
  rw [this]; rfl

theorem firstBracketOK_append_plain_right {x b : Str} (hx : firstBracketOK x = true) (hb : Plain b) :
    firstBracketOK (x ++ b) = true := by
  induction x with
  | nil => simpa using firstBracketOK_of_plain hb
  | cons c x ih =>
    unfold firstBracketOK at hx ⊢
    simp only [List.cons_append, List.dropWhile_cons] at hx ⊢
    cases hc : isBracket c with
    | true => simpa [hc] using hx
    | false =>
      simp only [hc, Bool.not_false, if_true] at hx ⊢
      exact ih hx

theorem LogPrefix.remove (p : LogPrefix) (hp : p.wf = true) (rest : Str) : removeLoggingInfo (p.print ++ rest) = rest := by
  simp only [LogPrefix.wf, Bool.and_eq_true, bne_iff_ne, ne_eq, List.all_eq_true, Bool.not_eq_true'] at hp
  obtain ⟨hne, hall⟩ := hp
  have hnb : ∀ b ∈ p.text ++ 58 :: dec p.line, (!isBracket b) = true := by
    intro b hb
    simp only [List.mem_append, List.mem_cons] at hb
    rcases hb with hb | rfl | hb
    · simp [(hall b hb).2]
    · decide
    · simp [(Plain_dec p.line b hb).2.2.2]
  have e : p.print ++ rest = (p.text ++ 58 :: dec p.line) ++ (93 :: 32 :: rest) := by
    simp only [LogPrefix.print, List.append_assoc, List.cons_append, List.nil_append]
  have hS : Stops (fun b => !isBracket b) (93 :: 32 :: rest) := by simp; decide
  unfold removeLoggingInfo
  rw [e, takeWhile_append_stops hnb hS, dropWhile_append_stops hnb hS]
  simp only []
  have hrev : (p.text ++ 58 :: dec p.line).reverse = (dec p.line).reverse ++ 58 :: p.text.reverse := by
    simp only [List.reverse_append, List.reverse_cons, List.append_assoc, List.singleton_append]
  have hd : ∀ b ∈ (dec p.line).reverse, isDigit b = true := fun b hb => dec_isDigit p.line b (List.mem_reverse.1 hb)
  have hS2 : Stops isDigit (58 :: p.text.reverse) := by simp; decide
  rw [hrev, takeWhile_append_stops hd hS2, dropWhile_append_stops hd hS2]
  obtain ⟨x, t, hx⟩ : ∃ x t, p.text.reverse = x :: t := by
    cases hq : p.text.reverse with
    | nil => simp at hq; exact absurd hq hne
    | cons x t => exact ⟨x, t, rfl⟩
  have hdne : (dec p.line).reverse.isEmpty = false := by simp [dec_ne_nil]
  simp [hx, hdne, isReSpace]

theorem seen_of_log (log : Option LogPrefix) (hlog : log.all LogPrefix.wf = true) (L : Str)
    (hL : firstBracketOK L = true) : removeLoggingInfo (optLog log ++ L) = L := by
  cases log with
  | none => simpa [optLog] using removeLoggingInfo_of_firstBracketOK hL
  | some p => exact p.remove (by simpa using hlog) L

def pairsOf (env : MapEnv) : List (Str × Str) := env.map (fun p => (36 :: p.1, p.2))

theorem pairsOf_append (env : MapEnv) (n v : Str) : pairsOf (env ++ [(n, v)]) = pairsOf env ++ [(36 :: n, v)] := by
  simp [pairsOf]

theorem replaceFirst_ne_dollar (env : MapEnv) (c : UInt8) (t : Str) (hc : c ≠ 36) :
    replaceFirst (pairsOf env) (c :: t) = none := by
  induction env with
  | nil => rfl
  | cons p env ih =>
    simp only [pairsOf, List.map_cons, replaceFirst] at ih ⊢
    rw [stripPrefix_cons_ne _ _ (Ne.symm hc)]
    exact ih

theorem replaceAllAux_skip (ps : List (Str × Str)) (X R : Str) : replaceAllAux ps X.length (X ++ R) = replaceAllAux ps 0 R := by
  induction X with
  | nil => rfl
  | cons c X ih => simpa [replaceAllAux] using ih

theorem replaceAllAux_plain (env : MapEnv) (A R : Str) (hA : ∀ b ∈ A, b ≠ (36 : UInt8)) :
    replaceAllAux (pairsOf env) 0 (A ++ R) = A ++ replaceAllAux (pairsOf env) 0 R := by
  induction A with
  | nil => rfl
  | cons c A ih =>
    obtain ⟨hc, hA⟩ := List.forall_mem_cons.1 hA
    simp only [List.cons_append, replaceAllAux, replaceFirst_ne_dollar env c _ hc]
    rw [ih hA]

theorem replaceAll_id (env : MapEnv) (A : Str) (hA : ∀ b ∈ A, b ≠ (36 : UInt8)) : replaceAll (pairsOf env) A = A := by
  have := replaceAllAux_plain env A [] hA
  simpa [replaceAll, replaceAllAux] using this

theorem replaceAllAux_key (ps : List (Str × Str)) (c : UInt8) (k v R : Str)
    (h : replaceFirst ps (c :: (k ++ R)) = some (k.length + 1, v)) :
    replaceAllAux ps 0 (c :: (k ++ R)) = v ++ replaceAllAux ps 0 R := by
  simp only [replaceAllAux, h, Nat.add_sub_cancel]
  rw [replaceAllAux_skip]

theorem prefix_of_strip (k name S : Str) (hk : ∀ b ∈ k, isWord b = true)
    (hS : Stops isWord S) (h : (stripPrefix k (name ++ S)).isSome = true) :
    k.isPrefixOf name = true := by
  induction k generalizing name with
  | nil => rfl
  | cons a k ih =>
    obtain ⟨ha, hk⟩ := List.forall_mem_cons.1 hk
    cases name with
    | nil =>
      cases S with
      | nil => cases h
      | cons c t =>
        rw [List.nil_append, stripPrefix] at h
        split at h
        · next hac => rw [eq_of_beq hac, (Stops_cons _ _ _).1 hS] at ha; cases ha
        · cases h
    | cons n name =>
      rw [List.cons_append, stripPrefix] at h
      split at h
      · next han => rw [List.isPrefixOf, han, ih name hk h]; rfl
      · cases h

theorem MapEnv.lookup_cons (k vk : Str) (env : MapEnv) (name : Str) :
    MapEnv.lookup ((k, vk) :: env) name = if k = name then some vk else env.lookup name := by
  by_cases h : k = name <;> simp [MapEnv.lookup, h]

theorem replaceFirst_ref (env : MapEnv) (name S v : Str) (hS : Stops isWord S)
    (hw : ∀ p ∈ env, ∀ b ∈ p.1, isWord b = true)
    (hpf : ∀ p ∈ env, p.1.isPrefixOf name = true → p.1 = name)
    (hl : env.lookup name = some v) :
    replaceFirst (pairsOf env) (36 :: (name ++ S)) = some (name.length + 1, v) := by
  induction env with
  | nil => cases hl
  | cons p env ih =>
    obtain ⟨k, vk⟩ := p
    obtain ⟨hwk, hw'⟩ := List.forall_mem_cons.1 hw
    obtain ⟨hpfk, hpf'⟩ := List.forall_mem_cons.1 hpf
    rw [MapEnv.lookup_cons] at hl
    simp only [pairsOf, List.map_cons, replaceFirst, stripPrefix_cons_self]
    by_cases hkn : k = name
    · rw [if_pos hkn] at hl
      cases hl
      rw [hkn, stripPrefix_append]; rfl
    · rw [if_neg hkn] at hl
      have hnone : stripPrefix k (name ++ S) = none := by
        cases hq : stripPrefix k (name ++ S) with
        | none => rfl
        | some r => exact absurd (hpfk (prefix_of_strip k name S hwk hS (by rw [hq]; rfl))) hkn
      rw [hnone]
      exact ih hw' hpf' hl

/-- invariant of the environment while a well-formed section is read -/
def EnvOK (env : MapEnv) : Prop :=
  (∀ p ∈ env, attrNameOK p.1 = true) ∧ (∀ p ∈ env, ∀ q ∈ env, p.1.isPrefixOf q.1 = true → p.1 = q.1)

theorem EnvOK_nil : EnvOK [] := ⟨by simp, by simp⟩

theorem attrNameOK_word {n : Str} (h : attrNameOK n = true) : ∀ b ∈ n, isWord b = true := by
  simp only [attrNameOK, Bool.and_eq_true, List.all_eq_true] at h
  exact h.1

theorem attrNameOK_head {n : Str} (h : attrNameOK n = true) : ∃ c t, n = c :: t ∧ isXDigit c = false := by
  cases n with
  | nil => simp [attrNameOK] at h
  | cons c t =>
    simp only [attrNameOK, Bool.and_eq_true, Bool.not_eq_true'] at h
    exact ⟨c, t, rfl, h.2⟩

theorem EnvOK_snoc {env : MapEnv} (h : EnvOK env) (n v : Str) (hn : attrNameOK n = true)
    (hpf : env.all (fun p => !(p.1.isPrefixOf n) && !(n.isPrefixOf p.1)) = true) : EnvOK (env ++ [(n, v)]) := by
  simp only [List.all_eq_true, Bool.and_eq_true, Bool.not_eq_true'] at hpf
  constructor
  · intro p hp
    rcases List.mem_append.1 hp with hp | hp
    · exact h.1 p hp
    · simp at hp; subst hp; exact hn
  · intro p hp q hq hpq
    rcases List.mem_append.1 hp with hp | hp <;> rcases List.mem_append.1 hq with hq | hq
    · exact h.2 p hp q hq hpq
    · simp at hq; subst hq; rw [(hpf p hp).1] at hpq; cases hpq
    · simp at hp; subst hp; rw [(hpf q hq).2] at hpq; cases hpq
    · simp at hp hq; subst hp hq; rfl

theorem lookup_mem {env : MapEnv} {name v : Str} (h : env.lookup name = some v) : ∃ p ∈ env, p.1 = name := by
  simp only [MapEnv.lookup, Option.map_eq_some_iff] at h
  obtain ⟨p, hp, _⟩ := h
  exact ⟨p, List.mem_of_find?_eq_some hp, by simpa using List.find?_some hp⟩

theorem parseProcMapsGo_cons (ps : List (Str × Str)) (l : Str) (r : List Str) :
    parseProcMapsGo ps (l :: r) =
      (match parseMappingEntry (replaceAll ps (removeLoggingInfo l)) with
       | .mapping m => m :: parseProcMapsGo ps r
       | .skip => parseProcMapsGo ps r
       | .unrecognized =>
         match splitEq (replaceAll ps (removeLoggingInfo l)) with
         | some (k, v) => parseProcMapsGo (ps ++ [(36 :: trimSpace k, trimSpace v)]) r
         | none => parseProcMapsGo ps r) := parseProcMapsGo.eq_2 ps l r

theorem parseProcMapsGo_seen (env : MapEnv) (log : Option LogPrefix) (hlog : log.all LogPrefix.wf = true) (L : Str)
    (hfb : firstBracketOK L = true) (L' : Str) (hrepl : replaceAll (pairsOf env) L = L') (R : List Str) :
    parseProcMapsGo (pairsOf env) ((optLog log ++ L) :: R) =
      (match parseMappingEntry L' with
       | .mapping m => m :: parseProcMapsGo (pairsOf env) R
       | .skip => parseProcMapsGo (pairsOf env) R
       | .unrecognized =>
         match splitEq L' with
         | some (k, v) => parseProcMapsGo (pairsOf env ++ [(36 :: trimSpace k, trimSpace v)]) R
         | none => parseProcMapsGo (pairsOf env) R) := by
  rw [parseProcMapsGo_cons, seen_of_log log hlog L hfb, hrepl]

theorem parseProcMapsGo_fillers (env : MapEnv) (fs : List Filler) (hfs : ∀ f ∈ fs, f.wf = true) (rest : List Str) :
    parseProcMapsGo (pairsOf env) (printFillers fs ++ rest) = parseProcMapsGo (pairsOf env) rest := by
  induction fs with
  | nil => rfl
  | cons f fs ih =>
    obtain ⟨hf, hfs⟩ := List.forall_mem_cons.1 hfs
    have hb := Filler.print_bytes hf
    simp only [printFillers, List.map_cons, List.cons_append] at ih ⊢
    rw [parseProcMapsGo_cons, removeLoggingInfo_no_colon (filler_no_colon hf),
      replaceAll_id env _ (fun b hb' e => (hb b hb').2.2.2 (e ▸ rfl)),
      parseMappingEntry_filler, splitEq_none _ (fun b hb' => (hb b hb').2.2.1)]
    exact ih hfs

theorem step_entry (env : MapEnv) (log : Option LogPrefix) (e : MapEntry)
    (hl : (MapLine.entry log e).wfIn env = true) (R : List Str) :
    parseProcMapsGo (pairsOf env) ((MapLine.entry log e).print :: R) =
      (match e.mapping with | some m => [m] | none => []) ++ parseProcMapsGo (pairsOf env) R := by
  simp only [MapLine.wfIn, Bool.and_eq_true] at hl
  obtain ⟨⟨hlog, he⟩, hfb⟩ := hl
  obtain ⟨hfile, hpost⟩ := MapEntry.wf_parts he
  have hnd : ∀ b ∈ e.print, b ≠ (36 : UInt8) := by
    intro b hb
    simp only [e.print_eq, List.mem_append] at hb
    rcases hb with hb | hb | hb
    · exact (e.Plain_pre b hb).2.1
    · cases hq : e.form.file with
      | none => simp [hq, optField] at hb
      | some f =>
        rw [hq] at hb hfile
        rcases List.mem_append.1 hb with hb | hb
        · exact (Plain_sp _ b hb).2.1
        · exact fun e => (fileOK_bytes (by simpa using hfile) b hb).2.2 (e ▸ rfl)
    · exact (hpost b hb).2.1
  have hfbo : firstBracketOK e.print = true := by
    rw [e.print_eq, firstBracketOK_append_plain_left e.Plain_pre]
    cases hq : e.form.file with
    | none => simpa [optField] using firstBracketOK_of_plain hpost
    | some f =>
      rw [optField, List.append_assoc, firstBracketOK_append_plain_left (Plain_sp _)]
      exact firstBracketOK_append_plain_right (by simpa [hq] using hfb) hpost
  rw [MapLine.print, parseProcMapsGo_seen env log hlog _ hfbo _ (replaceAll_id env _ hnd), parseMappingEntry_print e he]
  cases e.mapping <;> rfl

theorem attrValueOK_bytes {v : Str} (h : attrValueOK v = true) :
    v ≠ [] ∧ ∀ b ∈ v, b ≠ 36 ∧ isSpace b = false := by
  simp only [attrValueOK, Bool.and_eq_true, bne_iff_ne, ne_eq, List.all_eq_true] at h
  refine ⟨h.1, fun b hb => ⟨fun e => (h.2 b hb).2 (e ▸ rfl), isSpace_false_of_isPrint (h.2 b hb).1.1 (h.2 b hb).1.2⟩⟩

theorem step_attr (env : MapEnv) (log : Option LogPrefix) (indent : Nat) (name : Str) (spaced : Bool) (value : Str)
    (hl : (MapLine.attr log indent name spaced value).wfIn env = true) (R : List Str) :
    parseProcMapsGo (pairsOf env) ((MapLine.attr log indent name spaced value).print :: R) =
      parseProcMapsGo (pairsOf (env ++ [(name, value)])) R := by
  simp only [MapLine.wfIn, Bool.and_eq_true] at hl
  obtain ⟨⟨⟨⟨hlog, hn⟩, hv⟩, hfb⟩, _⟩ := hl
  obtain ⟨c, t, hname, hcx⟩ := attrNameOK_head hn
  have hword := attrNameOK_word hn
  obtain ⟨hvne, hval⟩ := attrValueOK_bytes hv
  -- the line is `key = value` with `key` the indented name, possibly followed by a blank
  have heq := assignSep_eq spaced
  generalize (if spaced then 1 else 0) = k at heq
  have hprint : (MapLine.attr log indent name spaced value).print
      = optLog log ++ ((sp indent ++ (name ++ sp k)) ++ 61 :: (sp k ++ value)) := by
    simp only [MapLine.print, heq, List.append_assoc, List.cons_append]
  have hkey : Plain (sp indent ++ (name ++ sp k)) :=
    Plain_append (Plain_sp _) (Plain_append (fun b hb => plain_of_isWord (hword b hb)) (Plain_sp _))
  have hnd : ∀ b ∈ (sp indent ++ (name ++ sp k)) ++ 61 :: (sp k ++ value), b ≠ (36 : UInt8) := by
    intro b hb
    simp only [List.mem_append, List.mem_cons] at hb
    rcases hb with hb | rfl | hb | hb
    · exact (hkey b (by simpa using hb)).2.1
    · decide
    · exact (Plain_sp _ b hb).2.1
    · exact (hval b hb).1
  have hfbo : firstBracketOK ((sp indent ++ (name ++ sp k)) ++ 61 :: (sp k ++ value)) = true := by
    rw [firstBracketOK_append_plain_left hkey,
      show (61 : UInt8) :: (sp k ++ value) = [61] ++ (sp k ++ value) from rfl,
      firstBracketOK_append_left (a := [61]) (by decide), firstBracketOK_append_plain_left (Plain_sp k)]
    exact hfb
  have hunrec : parseMappingEntry ((sp indent ++ (name ++ sp k)) ++ 61 :: (sp k ++ value)) = .unrecognized := by
    have hS : Stops isReSpace (name ++ (sp k ++ 61 :: (sp k ++ value))) :=
      Stops_of_class (fun b hb => isReSpace_false_of_isSpace (isSpace_eq_false_of_isWord hb)) (by simp [hname]) hword _
    have hsk : skipReSpace ((sp indent ++ (name ++ sp k)) ++ 61 :: (sp k ++ value))
        = name ++ (sp k ++ 61 :: (sp k ++ value)) := by
      rw [List.append_assoc, List.append_assoc]; exact skipReSpace_sp indent _ hS
    simp only [parseMappingEntry, matchHexRange_of_skip hsk (by rw [hname]; simpa using hcx)]
  have hsn := Stops_of_all (p := isSpace) fun b hb => isSpace_eq_false_of_isWord (hword b hb)
  have hsv := Stops_of_all (p := isSpace) fun b hb => (hval b hb).2
  rw [hprint, parseProcMapsGo_seen env log hlog _ hfbo _ (replaceAll_id env _ hnd), hunrec]
  simp only [splitEq_append _ _ (fun b hb => (hkey b hb).2.2.1),
    trimSpace_pad _ _ name (by simp [hname]) hsn.1 hsn.2,
    show sp k ++ value = sp k ++ (value ++ sp 0) by simp [sp],
    trimSpace_pad _ _ value hvne hsv.1 hsv.2, pairsOf_append]

theorem replaceAll_ref (env : MapEnv) (henv : EnvOK env) (P name S v : Str) (hP : ∀ b ∈ P, b ≠ (36 : UInt8))
    (hS : Stops isWord S) (hS36 : ∀ b ∈ S, b ≠ (36 : UInt8)) (hl : env.lookup name = some v) :
    replaceAll (pairsOf env) (P ++ 36 :: (name ++ S)) = P ++ (v ++ S) := by
  have hpf : ∀ p ∈ env, p.1.isPrefixOf name = true → p.1 = name := by
    obtain ⟨q, hq, hqn⟩ := lookup_mem hl
    intro p hp hpre
    rw [← hqn] at hpre ⊢
    exact henv.2 p hp q hq hpre
  have hid := replaceAllAux_plain env S [] hS36
  simp only [List.append_nil, replaceAllAux] at hid
  rw [replaceAll, replaceAllAux_plain env _ _ hP, replaceAllAux_key _ 36 name v _
    (replaceFirst_ref env name _ v hS (fun p hp => attrNameOK_word (henv.1 p hp)) hpf hl), hid]

theorem step_entryRef (env : MapEnv) (henv : EnvOK env) (log : Option LogPrefix) (e : MapEntry) (name suffix : Str)
    (hl : (MapLine.entryRef log e name suffix).wfIn env = true) (R : List Str) :
    parseProcMapsGo (pairsOf env) ((MapLine.entryRef log e name suffix).print :: R) =
      (match ((MapLine.entryRef log e name suffix).step env).2 with | some m => [m] | none => []) ++
        parseProcMapsGo (pairsOf env) R := by
  simp only [MapLine.wfIn, Bool.and_eq_true] at hl
  obtain ⟨⟨⟨⟨hlog, hn⟩, hsfx⟩, hfb⟩, hwf⟩ := hl
  obtain ⟨v, hl⟩ : ∃ v, env.lookup name = some v := by
    cases hq : env.lookup name with
    | none => simp [hq] at hwf
    | some v => exact ⟨v, rfl⟩
  simp only [hl, MapLine.step] at hwf ⊢
  obtain ⟨hfile, hpost⟩ := MapEntry.withFile_wf_parts hwf
  obtain ⟨P, hpre, hprint⟩ : ∃ P, Plain P ∧ ∀ f, (e.withFile f).print = P ++ (f ++ e.post) :=
    ⟨e.pre ++ sp (e.gap + 1), Plain_append e.Plain_pre (Plain_sp _), fun f => by rw [e.withFile_print, List.append_assoc]⟩
  have hfbo : firstBracketOK (P ++ 36 :: (name ++ (suffix ++ e.post))) = true := by
    rw [firstBracketOK_append_plain_left hpre,
      show (36 :: (name ++ (suffix ++ e.post)) : Str) = (36 :: name) ++ (suffix ++ e.post) by simp,
      firstBracketOK_append_left (by
        intro b hb
        rcases List.mem_cons.1 hb with rfl | hb
        · decide
        · exact (plain_of_isWord (attrNameOK_word hn b hb)).2.2.2)]
    exact firstBracketOK_append_plain_right hfb hpost
  have hS : Stops isWord (suffix ++ e.post) := by
    cases hq : suffix with
    | cons c t => simpa [suffixOK, hq] using hsfx
    | nil => exact e.Blank_post.stops _ (by decide)
  have hrepl := replaceAll_ref env henv _ name _ v (fun b hb => (hpre b hb).2.1) hS (by
    intro b hb
    rcases List.mem_append.1 hb with hb | hb
    · exact fun e => (fileOK_bytes hfile b (by simp [hb])).2.2 (e ▸ rfl)
    · exact (hpost b hb).2.1) hl
  rw [MapLine.print, hprint, List.cons_append, List.append_assoc,
    parseProcMapsGo_seen env log hlog _ hfbo _ hrepl, ← List.append_assoc v, ← hprint, parseMappingEntry_print _ hwf]
  cases (e.withFile (v ++ suffix)).mapping <;> rfl

theorem parseProcMapsGo_line (env : MapEnv) (henv : EnvOK env) (l : MapLine) (hl : l.wfIn env = true) (R : List Str) :
    parseProcMapsGo (pairsOf env) (l.print :: R) =
      (match (l.step env).2 with | some m => [m] | none => []) ++ parseProcMapsGo (pairsOf (l.step env).1) R ∧
    EnvOK (l.step env).1 := by
  cases l with
  | entry log e => exact ⟨step_entry env log e hl R, henv⟩
  | entryRef log e name suffix => exact ⟨step_entryRef env henv log e name suffix hl R, henv⟩
  | attr log indent name spaced value =>
    refine ⟨step_attr env log indent name spaced value hl R, ?_⟩
    simp only [MapLine.wfIn, Bool.and_eq_true] at hl
    exact EnvOK_snoc henv name value hl.1.1.1.2 hl.2

theorem parseProcMapsGo_lines (env : MapEnv) (henv : EnvOK env) (es : List (List Filler × MapLine))
    (hwf : wfLines env es = true) (fs : List Filler) (hfs : ∀ f ∈ fs, f.wf = true) :
    parseProcMapsGo (pairsOf env) (es.flatMap (fun p => printFillers p.1 ++ [p.2.print]) ++ printFillers fs) = mappingsOf env es := by
  induction es generalizing env with
  | nil =>
    have := parseProcMapsGo_fillers env fs hfs []
    simpa [parseProcMapsGo, mappingsOf] using this
  | cons p es ih =>
    simp only [wfLines, Bool.and_eq_true, List.all_eq_true] at hwf
    obtain ⟨⟨hfill, hline⟩, hrest⟩ := hwf
    obtain ⟨h1, h2⟩ := parseProcMapsGo_line env henv p.2 hline
      (es.flatMap (fun p => printFillers p.1 ++ [p.2.print]) ++ printFillers fs)
    simp only [List.flatMap_cons, List.append_assoc, List.cons_append, List.nil_append]
    rw [parseProcMapsGo_fillers env p.1 hfill, h1, ih _ h2 hrest]
    simp only [mappingsOf]
    cases (p.2.step env).2 <;> rfl

@[simp] theorem parseProcMaps_nil : parseProcMaps [] = [] := rfl
@[simp] theorem parseProcMapsGo_nil (ps : List (Str × Str)) : parseProcMapsGo ps [] = [] := rfl

theorem parseProcMaps_bodyLines (m : MapSection) (h : m.wf = true) : parseProcMaps m.bodyLines = m.mappings := by
  simp only [MapSection.wf, Bool.and_eq_true, List.all_eq_true] at h
  exact parseProcMapsGo_lines [] EnvOK_nil m.entries h.1 m.post h.2

/-- the `$name` rule on the shortest section that shows it: an assignment, then an entry referring to it -/
theorem MapSection.mappings_attr_ref (f1 f2 post : List Filler) (log1 log2 : Option LogPrefix) (indent : Nat)
    (name value suffix : Str) (spaced : Bool) (e : MapEntry) :
    (MapSection.mk [(f1, .attr log1 indent name spaced value), (f2, .entryRef log2 e name suffix)] post).mappings
      = (e.withFile (value ++ suffix)).mapping.toList := by
  simp only [MapSection.mappings, mappingsOf, MapLine.step, List.nil_append, MapEnv.lookup, List.find?_cons, beq_self_eq_true,
    Option.map_some]
  cases (e.withFile (value ++ suffix)).mapping <;> rfl

/-- after a record loop that stopped on the sentinel line (or ran out of lines). -/
theorem parseAdditionalSections_tail (sentinel : Str) (hs : isMemoryMapSentinel sentinel = true)
    (map : Option MapSection) (h : ∀ m, map = some m → m.wf = true) :
    (match tailLines sentinel map with
     | [] => parseAdditionalSections [] []
     | cur :: rest => parseAdditionalSections cur rest) = tailMappings map := by
  cases map with
  | none => simp [tailLines, tailMappings, parseAdditionalSections, skipToSentinel]
  | some m =>
    simp only [tailLines, tailMappings, parseAdditionalSections, hs, if_true]
    exact parseProcMaps_bodyLines m (h m rfl)

theorem LineOK_of_plain {l : Str} (h : Plain l) : LineOK l := LineOK_of_isPrint fun b hb => (h b hb).1

theorem LineOK_perm (p : Perm) : LineOK p.print := LineOK_of_plain (Plain_perm p)

theorem LineOK_optField {g : Nat} {o : Option Str} (h : ∀ s, o = some s → LineOK s) : LineOK (optField g o) := by
  cases o with
  | none => exact LineOK_nil
  | some s => exact LineOK_append (LineOK_sp _) (h s rfl)

/-- split a `LineOK` goal over `++`/`::` and discharge the standard pieces. -/
macro "lineok" : tactic =>
  `(tactic| simp only [LineOK_append_iff, LineOK_cons_iff, LineOK_sp, LineOK_dec, LineOK_hex, LineOK_hexPad,
      LineOK_perm, LineOK_printAddrs, LineOK_nil, and_true, true_and])

theorem LineOK_fileOK {f : Str} (h : fileOK f = true) : LineOK f :=
  LineOK_of_isPrint fun b hb => (fileOK_bytes h b hb).1

theorem LineOK_mapEntry {e : MapEntry} (h : e.wf = true) : LineOK e.print := by
  obtain ⟨hfile, hpost⟩ := MapEntry.wf_parts h
  rw [e.print_eq]
  refine LineOK_append (LineOK_of_plain e.Plain_pre) (LineOK_append (LineOK_optField fun s hs => ?_) (LineOK_of_plain hpost))
  rw [hs] at hfile
  exact LineOK_fileOK (by simpa using hfile)

theorem LineOK_fillers {fs : List Filler} (h : fs.all Filler.wf = true) : ∀ l ∈ printFillers fs, LineOK l := by
  intro l hl
  simp only [printFillers, List.mem_map] at hl
  obtain ⟨f, hf, rfl⟩ := hl
  exact LineOK_filler (by simpa using (List.all_eq_true.1 h) f hf)

theorem LineOK_optLog {log : Option LogPrefix} (h : log.all LogPrefix.wf = true) : LineOK (optLog log) := by
  cases log with
  | none => exact LineOK_nil
  | some p =>
    simp only [Option.all_some, LogPrefix.wf, Bool.and_eq_true, List.all_eq_true] at h
    have ht : LineOK p.text := LineOK_of_isPrint (fun b hb => (h.2 b hb).1)
    simp only [optLog, LogPrefix.print]
    lineok
    exact ⟨ht, by decide⟩

theorem LineOK_mapLine {env : MapEnv} {l : MapLine} (h : l.wfIn env = true) : LineOK l.print := by
  cases l with
  | entry log e =>
    simp only [MapLine.wfIn, Bool.and_eq_true] at h
    exact LineOK_append (LineOK_optLog h.1.1) (LineOK_mapEntry h.1.2)
  | entryRef log e name suffix =>
    simp only [MapLine.wfIn, Bool.and_eq_true] at h
    obtain ⟨⟨⟨⟨hlog, hn⟩, _⟩, _⟩, hres⟩ := h
    cases hq : env.lookup name with
    | none => simp [hq] at hres
    | some v =>
      obtain ⟨hfile, hpost⟩ := MapEntry.withFile_wf_parts (hq ▸ hres)
      have hsfx := ((LineOK_append_iff v suffix).1 (LineOK_fileOK hfile)).2
      simp only [MapLine.print, e.withFile_print]
      lineok
      exact ⟨LineOK_optLog hlog, LineOK_of_plain e.Plain_pre, ⟨by decide, LineOK_of_isWord (attrNameOK_word hn), hsfx⟩,
        LineOK_of_plain hpost⟩
  | attr log indent name spaced value =>
    simp only [MapLine.wfIn, Bool.and_eq_true] at h
    obtain ⟨⟨⟨⟨hlog, hn⟩, hv⟩, _⟩, _⟩ := h
    simp only [attrValueOK, Bool.and_eq_true, List.all_eq_true] at hv
    have hval : LineOK value := LineOK_of_isPrint (fun b hb => (hv.2 b hb).1.1)
    simp only [MapLine.print]
    lineok
    exact ⟨LineOK_optLog hlog, LineOK_of_isWord (attrNameOK_word hn), LineOK_assignSep spaced, hval⟩

theorem LineOK_wfLines {env : MapEnv} {es : List (List Filler × MapLine)} (h : wfLines env es = true) :
    ∀ p ∈ es, (∀ l ∈ printFillers p.1, LineOK l) ∧ LineOK p.2.print := by
  induction es generalizing env with
  | nil => intro p hp; cases hp
  | cons q es ih =>
    simp only [wfLines, Bool.and_eq_true] at h
    intro p hp
    rcases List.mem_cons.1 hp with rfl | hp
    · exact ⟨LineOK_fillers h.1.1, LineOK_mapLine h.1.2⟩
    · exact ih h.2 p hp

theorem LineOK_bodyLines {m : MapSection} (h : m.wf = true) : ∀ l ∈ m.bodyLines, LineOK l := by
  intro l hl
  simp only [MapSection.wf, Bool.and_eq_true] at h
  simp only [MapSection.bodyLines, List.mem_append, List.mem_flatMap] at hl
  rcases hl with ⟨p, hp, hl⟩ | hl
  · have := LineOK_wfLines h.1 p hp
    rcases hl with hl | hl
    · exact this.1 l hl
    · simp at hl; subst hl; exact this.2
  · exact LineOK_fillers h.2 l hl

theorem LineOK_tailLines {sentinel : Str} (hs : LineOK sentinel) {map : Option MapSection}
    (h : ∀ m, map = some m → m.wf = true) : ∀ l ∈ tailLines sentinel map, LineOK l := by
  intro l hl
  cases map with
  | none => simp [tailLines] at hl
  | some m =>
    simp only [tailLines, List.mem_cons] at hl
    rcases hl with rfl | hl
    · exact hs
    · exact LineOK_bodyLines (h m rfl) l hl

theorem wf_of_map {map : Option MapSection} (h : (match map with | none => true | some m => m.wf) = true) :
    ∀ m, map = some m → m.wf = true := by
  intro m hm; subst hm; exact h

theorem loop_fillers {σ β : Type} (loop : List Str → σ → β)
    (hfill : ∀ (f : Filler) R s, loop (f.print :: R) s = loop R s) (fs : List Filler) (R : List Str) (s : σ) :
    loop (printFillers fs ++ R) s = loop R s := by
  induction fs with
  | nil => rfl
  | cons f fs ih => rw [printFillers, List.map_cons, List.cons_append, hfill]; exact ih

/-- A loop that skips filler lines and consumes one record per line (turning state `s` into
`step s r`) runs through a block of records, each preceded by its filler lines, as a fold. -/
theorem loop_records {ρ σ β : Type} (loop : List Str → σ → β) (fill : ρ → List Filler) (print : ρ → Str) (step : σ → ρ → σ)
    (hfill : ∀ (f : Filler) R s, loop (f.print :: R) s = loop R s) (rs : List ρ)
    (hrec : ∀ r ∈ rs, ∀ R s, loop (print r :: R) s = loop R (step s r)) (R : List Str) (s : σ) :
    loop (rs.flatMap (fun r => printFillers (fill r) ++ [print r]) ++ R) s = loop R (rs.foldl step s) := by
  induction rs generalizing s with
  | nil => rfl
  | cons r rs ih =>
    rw [List.flatMap_cons, List.append_assoc, List.append_assoc, loop_fillers loop hfill, List.singleton_append,
      hrec r (List.mem_cons_self ..), ih fun x hx => hrec x (List.mem_cons_of_mem _ hx)]
    rfl

/-- The body of a document under a sample loop: the records with their filler lines, more filler
lines, the optional map section.  The loop returns the records' samples in order and stops on the
sentinel (or at the end of the input); what it leaves parses to the section's mappings. -/
theorem loop_document {ρ : Type} (loop : List Str → List RawSample → Outcome (List RawSample × Str × List Str))
    (fill : ρ → List Filler) (print : ρ → Str) (sample : ρ → RawSample) (sentinel : Str)
    (hfill : ∀ (f : Filler) R acc, loop (f.print :: R) acc = loop R acc) (rs : List ρ)
    (hrec : ∀ r ∈ rs, ∀ R acc, loop (print r :: R) acc = loop R (sample r :: acc))
    (hnil : ∀ acc, loop [] acc = .ok (acc.reverse, [], []))
    (hsent : ∀ R acc, loop (sentinel :: R) acc = .ok (acc.reverse, sentinel, R))
    (hs : isMemoryMapSentinel sentinel = true) (post : List Filler) (map : Option MapSection)
    (hm : ∀ m, map = some m → m.wf = true) :
    ∃ cur rest, loop (rs.flatMap (fun r => printFillers (fill r) ++ [print r]) ++ (printFillers post ++ tailLines sentinel map)) []
        = .ok (rs.map sample, cur, rest) ∧ parseAdditionalSections cur rest = tailMappings map := by
  have hacc : (rs.foldl (fun a r => sample r :: a) []).reverse = rs.map sample := by simp
  rw [loop_records loop fill print (fun a r => sample r :: a) hfill rs hrec, loop_fillers loop hfill]
  have := parseAdditionalSections_tail sentinel hs map hm
  cases map with
  | none => exact ⟨[], [], by rw [tailLines, hnil, hacc], this⟩
  | some m => exact ⟨sentinel, m.bodyLines, by rw [tailLines, hsent, hacc], this⟩

theorem LineOK_records {ρ : Type} (fill : ρ → List Filler) (print : ρ → Str) (rs : List ρ)
    (h : ∀ r ∈ rs, (fill r).all Filler.wf = true ∧ LineOK (print r)) :
    ∀ l ∈ rs.flatMap (fun r => printFillers (fill r) ++ [print r]), LineOK l := by
  intro l hl
  obtain ⟨r, hr, hl⟩ := List.mem_flatMap.1 hl
  rcases List.mem_append.1 hl with hl | hl
  · exact LineOK_fillers (h r hr).1 l hl
  · rw [List.mem_singleton.1 hl]; exact (h r hr).2

end PV.Legacy
