import PprofVerif.Model.Graph
/-!
Association tables (`tget`/`thas` after `tupd`, unique keys), then the accumulators of `newGraph` and its loop
over the frames of one sample, as far as cum and flat go.
Every step is stated as `old figure + ind condition v` (`ind c v` is `v` or 0), so that the loops become
inductions by rewriting.  `stepFrame` is split into `visit` (count the node once per sample) and `link`
(add the edge from the parent once per sample).
-/
namespace PV.Graph
open PV.GSpec
variable {κ : Type} [DecidableEq κ]

theorem WD.ext' {a b : WD} (h1 : a.w = b.w) (h2 : a.d = b.d) : a = b := by
  cases a; cases b; simp_all
@[simp] theorem WD.add_w (a b : WD) : (a + b).w = a.w + b.w := rfl
@[simp] theorem WD.add_d (a b : WD) : (a + b).d = a.d + b.d := rfl
@[simp] theorem WD.zero_w : (0 : WD).w = 0 := rfl
@[simp] theorem WD.zero_d : (0 : WD).d = 0 := rfl
@[simp] theorem WD.add_zero (a : WD) : a + 0 = a := WD.ext' (Int.add_zero _) (Int.add_zero _)
@[simp] theorem WD.zero_add (a : WD) : 0 + a = a := WD.ext' (Int.zero_add _) (Int.zero_add _)
theorem WD.add_assoc (a b c : WD) : a + b + c = a + (b + c) := WD.ext' (Int.add_assoc ..) (Int.add_assoc ..)
theorem WD.add_comm (a b : WD) : a + b = b + a := WD.ext' (Int.add_comm ..) (Int.add_comm ..)

theorem tget_tupd {α : Type} (t : List (κ × α)) (k k' : κ) (f : α → α) (d : α) :
    tget (tupd t k f d) k' d = if k = k' then f (tget t k d) else tget t k' d := by
  induction t with
  | nil => simp [tupd, tget]
  | cons hd tl ih =>
    obtain ⟨k0, v0⟩ := hd
    by_cases h0 : k0 = k
    · subst h0
      by_cases h1 : k0 = k' <;> simp [tupd, tget, h1]
    · by_cases h1 : k0 = k'
      · subst h1
        simp [tupd, tget, h0]
        intro h; exact absurd h.symm h0
      · simp [tupd, tget, h0, h1, ih]

theorem thas_tupd {α : Type} (t : List (κ × α)) (k k' : κ) (f : α → α) (d : α) :
    thas (tupd t k f d) k' = (thas t k' || decide (k = k')) := by
  induction t with
  | nil => simp [tupd, thas]
  | cons hd tl ih =>
    obtain ⟨k0, v0⟩ := hd
    by_cases h0 : k0 = k
    · subst h0
      by_cases h1 : k0 = k' <;> simp [tupd, thas, h1]
    · by_cases h1 : k0 = k'
      · subst h1
        simp [tupd, thas, h0]
      · simp [tupd, thas, h0, h1, ih]

theorem thas_iff_mem_keys {α : Type} (t : List (κ × α)) (k : κ) : thas t k = true ↔ k ∈ t.map Prod.fst := by
  induction t with
  | nil => exact ⟨fun h => (nomatch h), fun h => (nomatch h)⟩
  | cons hd tl ih =>
    rw [thas, List.map_cons, List.mem_cons]
    split
    · rename_i h; exact ⟨fun _ => Or.inl h.symm, fun _ => rfl⟩
    · rename_i h; exact ih.trans ⟨Or.inr, fun h' => h'.resolve_left fun e => h e.symm⟩

theorem thas_of_mem {α : Type} {t : List (κ × α)} {k : κ} {a : α} (hm : (k, a) ∈ t) : thas t k = true :=
  (thas_iff_mem_keys t k).mpr (List.mem_map_of_mem (f := Prod.fst) hm)

theorem mem_keys_tupd {α : Type} (t : List (κ × α)) (k k' : κ) (f : α → α) (d : α) :
    k' ∈ (tupd t k f d).map Prod.fst ↔ k' ∈ t.map Prod.fst ∨ k' = k := by
  rw [← thas_iff_mem_keys, ← thas_iff_mem_keys, thas_tupd, Bool.or_eq_true, decide_eq_true_eq, eq_comm (a := k)]

def KeysNodup {α : Type} (t : List (κ × α)) : Prop := (t.map Prod.fst).Nodup

theorem KeysNodup.tupd {α : Type} {t : List (κ × α)} (h : KeysNodup t) (k : κ) (f : α → α) (d : α) :
    KeysNodup (tupd t k f d) := by
  unfold KeysNodup at *
  induction t with
  | nil => simp [Graph.tupd]
  | cons hd tl ih =>
    obtain ⟨k0, v0⟩ := hd
    rw [List.map_cons, List.nodup_cons] at h
    by_cases h0 : k0 = k
    · subst h0
      simp only [Graph.tupd, if_true, List.map_cons, List.nodup_cons]
      exact h
    · simp only [Graph.tupd, h0, if_false, List.map_cons, List.nodup_cons]
      refine ⟨?_, ih h.2⟩
      rw [mem_keys_tupd]
      rintro (h1 | h1)
      · exact h.1 h1
      · exact h0 h1

theorem tget_of_mem {α : Type} (t : List (κ × α)) (h : KeysNodup t) (k : κ) (a d : α) (hm : (k, a) ∈ t) :
    tget t k d = a := by
  unfold KeysNodup at h
  induction t with
  | nil => simp at hm
  | cons hd tl ih =>
    obtain ⟨k0, v0⟩ := hd
    rw [List.map_cons, List.nodup_cons] at h
    rcases List.mem_cons.mp hm with heq | hm'
    · obtain ⟨rfl, rfl⟩ := Prod.mk.inj heq
      simp [tget]
    · have hne : k0 ≠ k := by
        rintro rfl
        exact h.1 (List.mem_map.mpr ⟨(k0, a), hm', rfl⟩)
      simp only [tget, hne, if_false]
      exact ih h.2 hm'

def ind (c : Prop) [Decidable c] (v : WD) : WD := if c then v else 0
@[simp] theorem ind_true {c : Prop} [Decidable c] (h : c) (v : WD) : ind c v = v := if_pos h
@[simp] theorem ind_false {c : Prop} [Decidable c] (h : ¬c) (v : WD) : ind c v = 0 := if_neg h
@[simp] theorem ind_zero (c : Prop) [Decidable c] : ind c (0 : WD) = 0 := ite_self _
theorem ind_congr {c c' : Prop} [Decidable c] [Decidable c'] (h : c ↔ c') (v : WD) : ind c v = ind c' v :=
  ite_congr (propext h) (fun _ => rfl) (fun _ => rfl)

@[simp] theorem addCum_cum (g : GState κ) (n m : κ) (v : WD) :
    (g.addCum n v).cum m = g.cum m + ind (n = m) v := by
  unfold GState.addCum GState.cum ind
  rw [tget_tupd]; split
  · rename_i h; rw [h]
  · exact (WD.add_zero _).symm
@[simp] theorem addCum_flat (g : GState κ) (n m : κ) (v : WD) : (g.addCum n v).flat m = g.flat m := by
  unfold GState.addCum GState.flat
  rw [tget_tupd]; split
  · rename_i h; rw [h]
  · rfl
@[simp] theorem addCum_edges (g : GState κ) (n : κ) (v : WD) : (g.addCum n v).edges = g.edges := rfl
@[simp] theorem addFlat_flat (g : GState κ) (n m : κ) (v : WD) :
    (g.addFlat n v).flat m = g.flat m + ind (n = m) v := by
  unfold GState.addFlat GState.flat ind
  rw [tget_tupd]; split
  · rename_i h; rw [h]
  · exact (WD.add_zero _).symm
@[simp] theorem addFlat_cum (g : GState κ) (n m : κ) (v : WD) : (g.addFlat n v).cum m = g.cum m := by
  unfold GState.addFlat GState.cum
  rw [tget_tupd]; split
  · rename_i h; rw [h]
  · rfl
@[simp] theorem addFlat_edges (g : GState κ) (n : κ) (v : WD) : (g.addFlat n v).edges = g.edges := rfl
@[simp] theorem addEdge_nodes (g : GState κ) (p n : κ) (v : WD) (r : Bool) : (g.addEdge p n v r).nodes = g.nodes := rfl
@[simp] theorem addEdge_cum (g : GState κ) (p n m : κ) (v : WD) (r : Bool) : (g.addEdge p n v r).cum m = g.cum m := rfl
@[simp] theorem addEdge_flat (g : GState κ) (p n m : κ) (v : WD) (r : Bool) : (g.addEdge p n v r).flat m = g.flat m := rfl

/-- the table entry of an edge -/
def GState.edgeAt (g : GState κ) (a b : κ) : EdgeAcc := tget g.edges (a, b) EdgeAcc.zero
theorem weight_eq_edgeAt (g : GState κ) (a b : κ) : g.weight a b = (g.edgeAt a b).weight := rfl
theorem residual_eq_edgeAt (g : GState κ) (a b : κ) : g.residual a b = (g.edgeAt a b).residual := rfl

theorem addEdge_edgeAt (g : GState κ) (p n a b : κ) (v : WD) (r : Bool) :
    (g.addEdge p n v r).edgeAt a b =
      if p = a ∧ n = b then ⟨(g.edgeAt a b).weight + v, (g.edgeAt a b).residual || r⟩ else g.edgeAt a b := by
  unfold GState.addEdge GState.edgeAt
  rw [tget_tupd]; simp only [Prod.mk.injEq]; split
  · rename_i h; rw [h.1, h.2]
  · rfl

theorem addEdge_hasEdge (g : GState κ) (p n a b : κ) (v : WD) (r : Bool) :
    (g.addEdge p n v r).hasEdge a b = (g.hasEdge a b || decide (p = a ∧ n = b)) := by
  unfold GState.addEdge GState.hasEdge
  rw [thas_tupd]; simp only [Prod.mk.injEq]
theorem edgeAt_of_edges {g g' : GState κ} (h : g.edges = g'.edges) (a b : κ) : g.edgeAt a b = g'.edgeAt a b :=
  congrArg (tget · (a, b) EdgeAcc.zero) h
theorem hasEdge_of_edges {g g' : GState κ} (h : g.edges = g'.edges) (a b : κ) : g.hasEdge a b = g'.hasEdge a b :=
  congrArg (thas · (a, b)) h
@[simp] theorem addCum_hasEdge (g : GState κ) (n a b : κ) (v : WD) : (g.addCum n v).hasEdge a b = g.hasEdge a b := rfl
@[simp] theorem addFlat_hasEdge (g : GState κ) (n a b : κ) (v : WD) : (g.addFlat n v).hasEdge a b = g.hasEdge a b := rfl
@[simp] theorem addCum_edgeAt (g : GState κ) (n a b : κ) (v : WD) : (g.addCum n v).edgeAt a b = g.edgeAt a b := rfl
@[simp] theorem addFlat_edgeAt (g : GState κ) (n a b : κ) (v : WD) : (g.addFlat n v).edgeAt a b = g.edgeAt a b := rfl

/-! ### one frame: `stepFrame` = (not kept) mark residual | (kept) visit ; link ; advance -/
def visit (v : WD) (a : Inner κ) (n : κ) : Inner κ :=
  if a.seenN.contains n then a else { a with seenN := n :: a.seenN, g := a.g.addCum n v }

def link (v : WD) (a : Inner κ) (n : κ) : Inner κ :=
  match a.parent with
  | some p =>
    if !(a.seenE.contains (n, p)) && n != p then
      { a with seenE := (n, p) :: a.seenE, g := a.g.addEdge p n v a.residual }
    else a
  | none => a

theorem stepFrame_eq (K : κ → Bool) (v : WD) (a : Inner κ) (n : κ) :
    stepFrame K v a n =
      if K n = true then { link v (visit v a n) n with parent := some n, residual := false }
      else { a with residual := true } := by
  unfold stepFrame
  cases hk : K n
  · rfl
  · rfl

theorem visit_eq (v : WD) (a : Inner κ) (n : κ) :
    visit v a n = if n ∈ a.seenN then a else { a with seenN := n :: a.seenN, g := a.g.addCum n v } := by
  unfold visit; simp only [List.contains_iff_mem]

@[simp] theorem visit_seenE (v : WD) (a : Inner κ) (n : κ) : (visit v a n).seenE = a.seenE := by
  unfold visit; split <;> rfl
@[simp] theorem visit_parent (v : WD) (a : Inner κ) (n : κ) : (visit v a n).parent = a.parent := by
  unfold visit; split <;> rfl
@[simp] theorem visit_residual (v : WD) (a : Inner κ) (n : κ) : (visit v a n).residual = a.residual := by
  unfold visit; split <;> rfl
@[simp] theorem visit_flat (v : WD) (a : Inner κ) (n m : κ) : (visit v a n).g.flat m = a.g.flat m := by
  unfold visit; split
  · rfl
  · exact addCum_flat ..
@[simp] theorem visit_edges (v : WD) (a : Inner κ) (n : κ) : (visit v a n).g.edges = a.g.edges := by
  unfold visit; split <;> rfl

@[simp] theorem link_seenN (v : WD) (a : Inner κ) (n : κ) : (link v a n).seenN = a.seenN := by
  unfold link; split <;> (try split) <;> rfl
@[simp] theorem link_cum (v : WD) (a : Inner κ) (n m : κ) : (link v a n).g.cum m = a.g.cum m := by
  unfold link; split <;> (try split) <;> rfl
@[simp] theorem link_flat (v : WD) (a : Inner κ) (n m : κ) : (link v a n).g.flat m = a.g.flat m := by
  unfold link; split <;> (try split) <;> rfl

theorem stepFrame_seenN (K : κ → Bool) (v : WD) (a : Inner κ) (n : κ) :
    (stepFrame K v a n).seenN = if K n = true ∧ n ∉ a.seenN then n :: a.seenN else a.seenN := by
  rw [stepFrame_eq]
  by_cases hk : K n = true
  · rw [if_pos hk]
    show (link v (visit v a n) n).seenN = _
    rw [link_seenN, visit_eq]
    by_cases hs : n ∈ a.seenN
    · rw [if_pos hs, if_neg (fun h => h.2 hs)]
    · rw [if_neg hs, if_pos ⟨hk, hs⟩]
  · rw [if_neg hk, if_neg (fun h => hk h.1)]

theorem stepFrame_cum (K : κ → Bool) (v : WD) (a : Inner κ) (n m : κ) :
    (stepFrame K v a n).g.cum m = a.g.cum m + ind (K n = true ∧ n ∉ a.seenN ∧ n = m) v := by
  rw [stepFrame_eq]
  by_cases hk : K n = true
  · rw [if_pos hk]
    show (link v (visit v a n) n).g.cum m = _
    rw [link_cum, visit_eq]
    by_cases hs : n ∈ a.seenN
    · rw [if_pos hs, ind_false (fun h => h.2.1 hs), WD.add_zero]
    · rw [if_neg hs]
      exact (addCum_cum ..).trans (congrArg _ (ind_congr ⟨fun h => ⟨hk, hs, h⟩, fun h => h.2.2⟩ v))
  · rw [if_neg hk, ind_false (fun h => hk h.1), WD.add_zero]

theorem stepFrame_flat (K : κ → Bool) (v : WD) (a : Inner κ) (n m : κ) :
    (stepFrame K v a n).g.flat m = a.g.flat m := by
  rw [stepFrame_eq]; split
  · exact (link_flat ..).trans (visit_flat ..)
  · rfl

theorem stepFrame_parent (K : κ → Bool) (v : WD) (a : Inner κ) (n : κ) :
    (stepFrame K v a n).parent = if K n = true then some n else a.parent := by
  rw [stepFrame_eq]; split <;> rfl

theorem stepFrame_residual (K : κ → Bool) (v : WD) (a : Inner κ) (n : κ) :
    (stepFrame K v a n).residual = !K n := by
  rw [stepFrame_eq]
  cases K n <;> rfl

theorem foldFrames_cum (K : κ → Bool) (v : WD) (fs : List κ) : ∀ (a : Inner κ) (m : κ),
    (fs.foldl (stepFrame K v) a).g.cum m = a.g.cum m + ind (m ∈ fs ∧ K m = true ∧ m ∉ a.seenN) v := by
  induction fs with
  | nil => intro a m; rw [ind_false (fun h => nomatch h.1)]; exact (WD.add_zero _).symm
  | cons f fs ih =>
    intro a m
    rw [List.foldl_cons, ih, stepFrame_cum, stepFrame_seenN, WD.add_assoc]
    congr 1
    by_cases hc : K f = true ∧ f ∉ a.seenN
    · rw [if_pos hc]
      by_cases hfm : f = m
      · -- `f` is counted now, and is seen from here on
        subst hfm
        rw [ind_true ⟨hc.1, hc.2, rfl⟩, ind_false (fun h => h.2.2 List.mem_cons_self),
          ind_true ⟨List.mem_cons_self, hc⟩, WD.add_zero]
      · rw [ind_false (fun h => hfm h.2.2), WD.zero_add]
        have hmf : m ≠ f := fun h => hfm h.symm
        exact ind_congr ⟨fun h => ⟨List.mem_cons_of_mem _ h.1, h.2.1, fun hm => h.2.2 (List.mem_cons_of_mem _ hm)⟩,
          fun h => ⟨(List.mem_cons.mp h.1).resolve_left hmf, h.2.1,
            fun hm => (List.mem_cons.mp hm).elim hmf h.2.2⟩⟩ v
    · rw [if_neg hc, ind_false (fun h => hc ⟨h.1, h.2.1⟩), WD.zero_add]
      exact ind_congr ⟨fun h => ⟨List.mem_cons_of_mem _ h.1, h.2⟩,
        fun h => ⟨(List.mem_cons.mp h.1).resolve_left (fun e => hc (e ▸ h.2)), h.2⟩⟩ v

theorem foldFrames_flat (K : κ → Bool) (v : WD) (fs : List κ) : ∀ (a : Inner κ) (m : κ),
    (fs.foldl (stepFrame K v) a).g.flat m = a.g.flat m := by
  induction fs with
  | nil => intro a m; rfl
  | cons f fs ih => intro a m; rw [List.foldl_cons, ih, stepFrame_flat]

theorem foldFrames_last (K : κ → Bool) (v : WD) (fs : List κ) (x : κ) (a : Inner κ) :
    ((fs ++ [x]).foldl (stepFrame K v) a).residual = !K x ∧
    (K x = true → ((fs ++ [x]).foldl (stepFrame K v) a).parent = some x) := by
  rw [List.foldl_append, List.foldl_cons, List.foldl_nil, stepFrame_residual, stepFrame_parent]
  exact ⟨rfl, fun h => if_pos h⟩
end PV.Graph
