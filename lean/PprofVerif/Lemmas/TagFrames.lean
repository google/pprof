import Batteries.Data.List.Basic
import PprofVerif.Spec.TagFrames
import PprofVerif.Lemmas.GraphValid
/-!
`addLabelNodes` (the model of internal/driver/tagroot.go) against `extendFrames`: the stack of
every sample afterwards is root-key pseudo frames ++ its own frames ++ leaf-key pseudo frames.

Proof shape: the interning state only ever APPENDS locations and functions with fresh ids, so every
lookup that succeeded before still gives the same answer (`Ext`), and every id handed out resolves
to the pseudo location / function it was created for (`Pseudo`).
-/
namespace PV.Graph
open PV

structure Ext (p1 p2 : Profile) : Prop where
  locs : ∀ id l, p1.findLocation id = some l → p2.findLocation id = some l
  fns : ∀ id f, p1.findFunction id = some f → p2.findFunction id = some f
  maps : p2.mappings = p1.mappings

theorem Ext.refl (p : Profile) : Ext p p := ⟨fun _ _ h => h, fun _ _ h => h, rfl⟩
theorem Ext.trans {p1 p2 p3 : Profile} (a : Ext p1 p2) (b : Ext p2 p3) : Ext p1 p3 :=
  ⟨fun id l h => b.locs id l (a.locs id l h), fun id f h => b.fns id f (a.fns id f h), b.maps.trans a.maps⟩

def pseudoLoc (id fid : Nat) : Location :=
  { id := id, mappingID := 0, address := 0, lines := [{ functionID := fid, line := 0, column := 0 }], isFolded := false }
def pseudoFn (fid : Nat) (key : Str × Str) : Function :=
  { id := fid, name := key.1, systemName := [], filename := key.2, startLine := 0 }

/-- location id `id` resolves to the pseudo location made for `key` = (function name, file name) -/
def Pseudo (p : Profile) (id : Nat) (key : Str × Str) : Prop :=
  ∃ fid, fid ≠ 0 ∧ p.findLocation id = some (pseudoLoc id fid) ∧ p.findFunction fid = some (pseudoFn fid key)

theorem Pseudo.mono {p p' : Profile} {id : Nat} {key : Str × Str} (h : Pseudo p id key) (e : Ext p p') :
    Pseudo p' id key := by
  obtain ⟨fid, h0, h1, h2⟩ := h
  exact ⟨fid, h0, e.locs _ _ h1, e.fns _ _ h2⟩

/-- the profile with one more pseudo location and its function, as `internLoc` appends them -/
def addPseudo (p : Profile) (lid fid : Nat) (key : Str × Str) : Profile :=
  { p with functions := p.functions ++ [pseudoFn fid key], locations := p.locations ++ [pseudoLoc lid fid] }

theorem find?_append_fresh {α : Type} {l : List α} {x : α} {q : α → Bool} (hl : ∀ y ∈ l, q y = false) (hx : q x = true) :
    (l ++ [x]).find? q = some x := by
  rw [List.find?_append, List.find?_eq_none.mpr (fun y hy => by rw [hl y hy]; exact Bool.false_ne_true)]
  exact List.find?_cons_of_pos (l := []) hx

theorem find?_append_old {α : Type} {l : List α} {x y : α} {q : α → Bool} (h : l.find? q = some y) :
    (l ++ [x]).find? q = some y := by
  rw [List.find?_append, h]; rfl

theorem Ext.addPseudo (p : Profile) (lid fid : Nat) (key : Str × Str) : Ext p (addPseudo p lid fid key) :=
  ⟨fun _ _ hf => find?_append_old hf, fun _ _ hf => find?_append_old hf, rfl⟩

theorem Pseudo.addPseudo (p : Profile) (lid fid : Nat) (key : Str × Str) (h0 : fid ≠ 0)
    (hl : ∀ l ∈ p.locations, l.id < lid) (hf : ∀ f ∈ p.functions, f.id < fid) :
    Pseudo (addPseudo p lid fid key) lid key :=
  ⟨fid, h0,
    find?_append_fresh (fun y hy => beq_false_of_ne (Nat.ne_of_lt (hl y hy))) (beq_self_eq_true lid),
    find?_append_fresh (fun y hy => beq_false_of_ne (Nat.ne_of_lt (hf y hy))) (beq_self_eq_true fid)⟩

structure TagInv (p0 : Profile) (st : TagSt) : Prop where
  ext : Ext p0 st.p
  locBound : ∀ l ∈ st.p.locations, l.id < st.nextLoc
  fnBound : ∀ f ∈ st.p.functions, f.id < st.nextFn
  fnPos : 0 < st.nextFn
  tblOK : ∀ key id, st.tbl.lookup key = some id → Pseudo st.p id key

theorem le_maxId (ids : List Nat) (x : Nat) (h : x ∈ ids) : x ≤ maxId ids :=
  ListFacts.le_foldl_max (.inr h)

theorem internLoc_none (st : TagSt) (fname file : Str) (h : st.tbl.lookup (fname, file) = none) :
    internLoc st fname file =
      ({ p := addPseudo st.p st.nextLoc st.nextFn (fname, file), tbl := st.tbl ++ [((fname, file), st.nextLoc)],
         nextLoc := st.nextLoc + 1, nextFn := st.nextFn + 1 }, st.nextLoc) := by
  unfold internLoc; rw [h]; rfl

theorem mem_append_singleton_lt {α : Type} (key : α → Nat) {l : List α} {x : α} {n : Nat}
    (hl : ∀ y ∈ l, key y < n) (hx : key x = n) : ∀ y ∈ l ++ [x], key y < n + 1 := by
  intro y hy
  rcases List.mem_append.mp hy with hy | hy
  · exact Nat.lt_succ_of_lt (hl y hy)
  · rw [List.mem_singleton.mp hy, hx]; exact Nat.lt_succ_self _

theorem internLoc_spec (p0 : Profile) (st : TagSt) (fname file : Str) (h : TagInv p0 st) :
    TagInv p0 (internLoc st fname file).1 ∧ Ext st.p (internLoc st fname file).1.p ∧
    Pseudo (internLoc st fname file).1.p (internLoc st fname file).2 (fname, file) := by
  cases hl : st.tbl.lookup (fname, file) with
  | some id =>
    have : internLoc st fname file = (st, id) := by unfold internLoc; rw [hl]
    rw [this]
    exact ⟨h, Ext.refl _, h.tblOK _ _ hl⟩
  | none =>
    rw [internLoc_none st fname file hl]
    have hext := Ext.addPseudo st.p st.nextLoc st.nextFn (fname, file)
    have hnew := Pseudo.addPseudo st.p st.nextLoc st.nextFn (fname, file) (Nat.pos_iff_ne_zero.mp h.fnPos)
      h.locBound h.fnBound
    refine ⟨⟨h.ext.trans hext, mem_append_singleton_lt Location.id h.locBound rfl,
      mem_append_singleton_lt Function.id h.fnBound rfl, Nat.succ_pos _, ?_⟩, hext, hnew⟩
    intro key id hk
    rw [List.lookup_append] at hk
    cases ho : st.tbl.lookup key with
    | some id' =>
      rw [ho, Option.some_or] at hk
      exact (h.tblOK key id (ho.trans hk)).mono hext
    | none =>
      rw [ho, Option.none_or, List.lookup_cons] at hk
      split at hk
      · rename_i heq
        cases hk
        rw [eq_of_beq heq]
        exact hnew
      · exact nomatch hk

theorem forall₂_imp {α β : Type} {R S : α → β → Prop} (H : ∀ a b, R a b → S a b) {l : List α} {l' : List β}
    (h : List.Forall₂ R l l') : List.Forall₂ S l l' := by
  induction h with
  | nil => exact .nil
  | cons hab _ ih => exact .cons (H _ _ hab) ih

theorem forall₂_snoc {α β : Type} {R : α → β → Prop} {l : List α} {l' : List β} (h : List.Forall₂ R l l')
    {a : α} {b : β} (hab : R a b) : List.Forall₂ R (l ++ [a]) (l' ++ [b]) := by
  induction h with
  | nil => exact .cons hab .nil
  | cons h' _ ih => exact .cons h' ih

/-- ids paired with the keys they were made for -/
def AllPseudo (p : Profile) (s : Sample) : List Nat → List Str → Prop :=
  List.Forall₂ fun id k => Pseudo p id (joinComma (labelValues s k), k)

theorem AllPseudo.mono {p p' : Profile} {s : Sample} {ids : List Nat} {keys : List Str}
    (h : AllPseudo p s ids keys) (e : Ext p p') : AllPseudo p' s ids keys :=
  forall₂_imp (fun _ _ hk => hk.mono e) h

theorem labelFold_spec (p0 : Profile) (s : Sample) (ks : List Str) : ∀ (st : TagSt) (ids : List Nat) (done : List Str),
    TagInv p0 st → AllPseudo st.p s ids done →
    let r := ks.foldl (fun (acc : TagSt × List Nat) k =>
      let (st', id) := internLoc acc.1 (joinComma (labelValues s k)) k
      (st', acc.2 ++ [id])) (st, ids)
    TagInv p0 r.1 ∧ Ext st.p r.1.p ∧ AllPseudo r.1.p s r.2 (done ++ ks) := by
  induction ks with
  | nil => intro st ids done h ha; rw [List.append_nil]; exact ⟨h, Ext.refl _, ha⟩
  | cons k ks ih =>
    intro st ids done h ha
    simp only [List.foldl_cons]
    obtain ⟨h1, e1, p1⟩ := internLoc_spec p0 st (joinComma (labelValues s k)) k h
    obtain ⟨h2, e2, a2⟩ := ih _ _ (done ++ [k]) h1 (forall₂_snoc (ha.mono e1) p1)
    refine ⟨h2, e1.trans e2, ?_⟩
    simpa using a2

theorem makeLabelLocs_spec (p0 : Profile) (st : TagSt) (s : Sample) (keys : List Str) (h : TagInv p0 st) :
    TagInv p0 (makeLabelLocs st s keys).1 ∧ Ext st.p (makeLabelLocs st s keys).1.p ∧
    AllPseudo (makeLabelLocs st s keys).1.p s (makeLabelLocs st s keys).2 keys.reverse := by
  unfold makeLabelLocs
  have := labelFold_spec p0 s keys.reverse st [] [] h .nil
  simpa using this

theorem nodeInfo_mono {clean : Str → Str} {p p' : Profile} (e : Ext p p') {o : GOpts} {l : Location} {ln : Line}
    {objfile : Str} {ni : NodeInfo} (h : nodeInfo clean p o l ln objfile = some ni) :
    nodeInfo clean p' o l ln objfile = some ni := by
  rw [nodeInfo_eq] at h ⊢
  split
  · rwa [if_pos ‹_›] at h
  · rw [if_neg ‹_›] at h
    cases hf : p.findFunction ln.functionID with
    | none => rw [hf] at h; exact nomatch h
    | some fn => rw [e.fns _ _ hf]; rwa [hf] at h

theorem locNodes_mono {clean : Str → Str} {p p' : Profile} (e : Ext p p') {o : GOpts} {l : Location}
    {ns : List NodeInfo} (h : locNodes clean p o l = some ns) : locNodes clean p' o l = some ns := by
  unfold locNodes at h ⊢
  unfold Profile.findMapping at h ⊢
  rw [e.maps]
  exact optAll_mono (fun _ _ _ hb => nodeInfo_mono e hb) h

theorem perLoc_mono {clean : Str → Str} {p p' : Profile} (e : Ext p p') {o : GOpts} {ids : List Nat}
    {per : List (List NodeInfo)} (h : optAll (locOf clean p o) ids = some per) :
    optAll (locOf clean p' o) ids = some per := by
  refine optAll_mono ?_ h
  intro id _ b hb
  unfold locOf at hb ⊢
  cases hl : p.findLocation id with
  | none => simp [hl] at hb
  | some l =>
    rw [e.locs _ _ hl]
    simp only [hl] at hb
    exact locNodes_mono e hb

theorem pseudo_locNodes (clean : Str → Str) {p : Profile} (hm : p.findMapping 0 = none) (o : GOpts) {s : Sample}
    {id : Nat} {k : Str} (h : Pseudo p id (joinComma (labelValues s k), k)) :
    locOf clean p o id = some [tagFrame clean s k] := by
  obtain ⟨fid, h0, hl, hf⟩ := h
  unfold locOf
  rw [hl]
  simp only
  unfold locNodes pseudoLoc
  simp only [hm, List.isEmpty_cons, Bool.false_eq_true, if_false, optAll, nodeInfo_eq, h0, hf, Option.map_some]
  -- name and file are those of the pseudo function; every other field is blank on both branches
  unfold fnNodeInfo pseudoFn tagFrame
  simp only [ite_self]

theorem AllPseudo.perLoc (clean : Str → Str) {p : Profile} (hm : p.findMapping 0 = none) (o : GOpts) {s : Sample}
    {ids : List Nat} {keys : List Str} (h : AllPseudo p s ids keys) :
    optAll (locOf clean p o) ids = some (keys.map fun k => [tagFrame clean s k]) := by
  induction h with
  | nil => rfl
  | cons hk _ ih => rw [optAll_cons, pseudo_locNodes clean hm o hk, ih]; rfl

/-- `s'` is `s` with pseudo location ids for the leaf keys in front and for the root keys behind -/
def Tagged (p : Profile) (rootKeys leafKeys : List Str) (s s' : Sample) : Prop :=
  ∃ leaves roots, s' = { s with locationIDs := leaves ++ s.locationIDs ++ roots } ∧
    AllPseudo p s leaves leafKeys.reverse ∧ AllPseudo p s roots rootKeys.reverse

theorem Tagged.mono {p p' : Profile} {rk lk : List Str} {s s' : Sample} (h : Tagged p rk lk s s') (e : Ext p p') :
    Tagged p' rk lk s s' := by
  obtain ⟨lv, rt, h1, h2, h3⟩ := h
  exact ⟨lv, rt, h1, h2.mono e, h3.mono e⟩

/-- the branch of `tagSample` for "no pseudo locations" leaves the sample as the general branch would -/
theorem tagSample_eq (rk lk : List Str) (acc : TagSt × List Sample) (s : Sample) :
    tagSample rk lk acc s =
      ((makeLabelLocs (makeLabelLocs acc.1 s rk).1 s lk).1,
       acc.2 ++ [{ s with locationIDs := (makeLabelLocs (makeLabelLocs acc.1 s rk).1 s lk).2 ++ s.locationIDs ++
                                          (makeLabelLocs acc.1 s rk).2 }]) := by
  unfold tagSample
  dsimp only
  split
  · rename_i hz
    rw [List.eq_nil_of_length_eq_zero (Nat.eq_zero_of_add_eq_zero hz).1,
      List.eq_nil_of_length_eq_zero (Nat.eq_zero_of_add_eq_zero hz).2, List.nil_append, List.append_nil]
  · rfl

theorem tagSample_spec (p0 : Profile) (rk lk : List Str) (acc : TagSt × List Sample) (s : Sample)
    (h : TagInv p0 acc.1) :
    TagInv p0 (tagSample rk lk acc s).1 ∧ Ext acc.1.p (tagSample rk lk acc s).1.p ∧
    ∃ s', (tagSample rk lk acc s).2 = acc.2 ++ [s'] ∧ Tagged (tagSample rk lk acc s).1.p rk lk s s' := by
  obtain ⟨h1, e1, a1⟩ := makeLabelLocs_spec p0 acc.1 s rk h
  obtain ⟨h2, e2, a2⟩ := makeLabelLocs_spec p0 (makeLabelLocs acc.1 s rk).1 s lk h1
  rw [tagSample_eq]
  exact ⟨h2, e1.trans e2, _, rfl, _, _, rfl, a2, a1.mono e2⟩

/-- all samples: the output list is pointwise `Tagged` relative to the FINAL tables -/
def AllTagged (p : Profile) (rk lk : List Str) : List Sample → List Sample → Prop :=
  List.Forall₂ (Tagged p rk lk)

theorem AllTagged.mono {p p' : Profile} {rk lk : List Str} (e : Ext p p') {l l' : List Sample}
    (h : AllTagged p rk lk l l') : AllTagged p' rk lk l l' :=
  forall₂_imp (fun _ _ ht => ht.mono e) h

theorem tagFold_spec (p0 : Profile) (rk lk : List Str) (ss : List Sample) :
    ∀ (acc : TagSt × List Sample) (done : List Sample), TagInv p0 acc.1 → AllTagged acc.1.p rk lk done acc.2 →
    TagInv p0 (ss.foldl (tagSample rk lk) acc).1 ∧
    AllTagged (ss.foldl (tagSample rk lk) acc).1.p rk lk (done ++ ss) (ss.foldl (tagSample rk lk) acc).2 := by
  induction ss with
  | nil => intro acc done h ha; rw [List.append_nil]; exact ⟨h, ha⟩
  | cons s ss ih =>
    intro acc done h ha
    simp only [List.foldl_cons]
    obtain ⟨h1, e1, s', hs', ht⟩ := tagSample_spec p0 rk lk acc s h
    have ha1 : AllTagged (tagSample rk lk acc s).1.p rk lk (done ++ [s]) (tagSample rk lk acc s).2 := by
      rw [hs']; exact forall₂_snoc (ha.mono e1) ht
    rw [List.append_cons]
    exact ih _ (done ++ [s]) h1 ha1

theorem addLabelNodes_spec (p : Profile) (rk lk : List Str) :
    Ext p (addLabelNodes p rk lk) ∧
      AllTagged (addLabelNodes p rk lk) rk lk p.samples (addLabelNodes p rk lk).samples := by
  have h0 : TagInv p { p := p, tbl := [], nextLoc := maxId (p.locations.map (·.id)) + 1, nextFn := maxId (p.functions.map (·.id)) + 1 } := by
    refine ⟨Ext.refl _, ?_, ?_, Nat.succ_pos _, ?_⟩
    · intro l hl
      exact Nat.lt_succ_of_le (le_maxId _ _ (List.mem_map.mpr ⟨l, hl, rfl⟩))
    · intro f hf
      exact Nat.lt_succ_of_le (le_maxId _ _ (List.mem_map.mpr ⟨f, hf, rfl⟩))
    · intro key id hk; exact nomatch hk
  obtain ⟨h1, ha⟩ := tagFold_spec p rk lk p.samples (_, []) [] h0 .nil
  unfold addLabelNodes
  simp only
  generalize List.foldl (tagSample rk lk) _ p.samples = r at h1 ha
  obtain ⟨st, samples⟩ := r
  -- lookups do not see the sample list
  exact ⟨⟨h1.ext.locs, h1.ext.fns, h1.ext.maps⟩, ha⟩

theorem flatten_singletons {α β : Type} (g : α → β) (l : List α) : (l.map (fun k => [g k])).flatten = l.map g := by
  induction l with
  | nil => rfl
  | cons a r ih => simp [ih]

theorem framesOf_tagged {clean : Str → Str} {p p' : Profile} (e : Ext p p') (hm : p'.findMapping 0 = none)
    {o : GOpts} {rk lk : List Str} {s s' : Sample} {fs : List NodeInfo}
    (ht : Tagged p' rk lk s s') (hf : framesOf clean p o s = some fs) :
    framesOf clean p' o s' = some (extendFrames clean rk lk s fs) := by
  obtain ⟨lv, rt, rfl, hlv, hrt⟩ := ht
  rw [framesOf_eq] at hf ⊢
  cases hper : optAll (locOf clean p o) s.locationIDs with
  | none => simp [hper] at hf
  | some per =>
    simp only [hper, Option.map_some, Option.some.injEq] at hf
    have hown := perLoc_mono e hper
    have hall := optAll_append (optAll_append (hlv.perLoc clean hm o) hown) (hrt.perLoc clean hm o)
    simp only [hall, Option.map_some]
    rw [← hf]
    unfold extendFrames tagFrames
    simp only [List.map_append, List.reverse_append, List.flatten_append, List.map_map, List.map_reverse,
      List.reverse_reverse, List.append_assoc]
    have hsing : ∀ (l : List Str),
        (List.map (List.reverse ∘ fun k => [tagFrame clean s k]) l).flatten = l.map (tagFrame clean s) :=
      flatten_singletons (tagFrame clean s)
    rw [hsing, hsing]

open PV.GSpec

/-- the abstract sample of a tagged sample -/
def extendSample (clean : Str → Str) (rk lk : List Str) (s : Sample) (g : GSample NodeInfo) : GSample NodeInfo :=
  { g with frames := extendFrames clean rk lk s g.frames }

/-- one sample of `samplesOf` -/
def sampleOf (clean : Str → Str) (p : Profile) (o : GOpts) (vi : Nat) (mean : Bool) (s : Sample) :
    Option (GSample NodeInfo) :=
  match framesOf clean p o s, s.values[vi]?, (if mean then s.values[0]? else some 0) with
  | some fs, some w, some d => some { frames := fs, w := w, d := d, base := isBase s }
  | _, _, _ => none

theorem samplesOf_eq (clean : Str → Str) (p : Profile) (o : GOpts) (vi : Nat) (mean : Bool) :
    samplesOf clean p o vi mean = optAll (sampleOf clean p o vi mean) p.samples := rfl

theorem sampleOf_tagged {clean : Str → Str} {p p' : Profile} (e : Ext p p') (hm : p'.findMapping 0 = none)
    {o : GOpts} {rk lk : List Str} {vi : Nat} {mean : Bool} {s s' : Sample} {g : GSample NodeInfo}
    (ht : Tagged p' rk lk s s') (h : sampleOf clean p o vi mean s = some g) :
    sampleOf clean p' o vi mean s' = some (extendSample clean rk lk s g) := by
  obtain ⟨lv, rt, hs', _, _⟩ := id ht
  unfold sampleOf at h ⊢
  split at h
  · rename_i fs w d hfs hw hd
    cases h
    rw [framesOf_tagged e hm ht hfs,
      show s'.values = s.values by rw [hs'], show isBase s' = isBase s by rw [hs']; rfl, hw, hd]
    rfl
  · exact nomatch h
theorem samples_tagged {clean : Str → Str} {p p' : Profile} (e : Ext p p') (hm : p'.findMapping 0 = none)
    {o : GOpts} {rk lk : List Str} {vi : Nat} {mean : Bool} {l l' : List Sample} (ht : AllTagged p' rk lk l l') :
    ∀ (ss : List (GSample NodeInfo)), optAll (sampleOf clean p o vi mean) l = some ss →
    optAll (sampleOf clean p' o vi mean) l' = some (List.zipWith (extendSample clean rk lk) l ss) := by
  induction ht with
  | nil => intro ss h; cases h; rfl
  | cons ht _ ih =>
    intro ss h
    obtain ⟨g, gs, hg, hr, rfl⟩ := optAll_cons_some h
    rw [optAll_cons, sampleOf_tagged e hm ht hg, ih gs hr]
    rfl

theorem samplesOf_addLabelNodes (clean : Str → Str) (p : Profile) (o : GOpts) (rk lk : List Str)
    (vi : Nat) (mean : Bool) (hm : p.findMapping 0 = none) (ss : List (GSample NodeInfo))
    (h : samplesOf clean p o vi mean = some ss) :
    samplesOf clean (addLabelNodes p rk lk) o vi mean =
      some (List.zipWith (extendSample clean rk lk) p.samples ss) := by
  obtain ⟨e, hall⟩ := addLabelNodes_spec p rk lk
  have hm' : (addLabelNodes p rk lk).findMapping 0 = none := by
    unfold Profile.findMapping at hm ⊢
    rw [e.maps]; exact hm
  rw [samplesOf_eq] at h ⊢
  exact samples_tagged e hm' hall ss h

end PV.Graph
