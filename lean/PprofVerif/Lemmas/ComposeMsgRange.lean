import PprofVerif.Lemmas.CodecTotal
/-!
`unmarshal` is total and every integer of the message it returns fits its Go type (the `Ranged`
predicates for the wire-level messages of profile/encode.go).  No decoder table can panic and each
preserves `Ranged` (one `apply_safe` per message type, by cases on the field number); `unmarshal_safe`
is the invariant rule `decodeLoop_safe` at `ProfileX.Ranged`.  The totality half is C02's
`unmarshal_never_panics`; the range half becomes C01's side condition `InRange` in
`Lemmas/ComposeParse.lean`.
-/
namespace PV
namespace Codec
open Wire
open Outcome (Safe)

def LabelX.Ranged (l : LabelX) : Prop := InI64 l.numX
def SampleX.Ranged (s : SampleX) : Prop :=
  (∀ i ∈ s.locationIDX, i < two64) ∧ (∀ v ∈ s.value, InI64 v) ∧ ∀ l ∈ s.labelX, l.Ranged
def MappingX.Ranged (m : MappingX) : Prop := m.id < two64 ∧ m.start < two64 ∧ m.limit < two64 ∧ m.offset < two64
def LineX.Ranged (l : LineX) : Prop := l.functionIDX < two64 ∧ InI64 l.line ∧ InI64 l.column
def LocationX.Ranged (l : LocationX) : Prop :=
  l.id < two64 ∧ l.mappingIDX < two64 ∧ l.address < two64 ∧ ∀ ln ∈ l.line, ln.Ranged
def FunctionX.Ranged (f : FunctionX) : Prop := f.id < two64 ∧ InI64 f.startLine

structure ProfileX.Ranged (x : ProfileX) : Prop where
  timeNanos : InI64 x.timeNanos
  durationNanos : InI64 x.durationNanos
  period : InI64 x.period
  samples : ∀ s ∈ x.sample, s.Ranged
  mappings : ∀ m ∈ x.mapping, m.Ranged
  locations : ∀ l ∈ x.location, l.Ranged
  functions : ∀ f ∈ x.function, f.Ranged

theorem InI64_0 : InI64 0 := by decide

theorem forall_mem_concat {α} {P : α → Prop} {l : List α} {a : α} (hl : ∀ x ∈ l, P x) (ha : P a) :
    ∀ x ∈ l ++ [a], P x :=
  List.forall_mem_append.mpr ⟨hl, List.forall_mem_singleton.mpr ha⟩

theorem ValueTypeX.apply_safe (m : ValueTypeX) (f : Field) : (ValueTypeX.apply m f).Safe fun _ => True := by
  unfold ValueTypeX.apply
  split
  · exact (decodeInt64_safe f).bind fun _ _ => trivial
  · exact (decodeInt64_safe f).bind fun _ _ => trivial
  · trivial

theorem LabelX.apply_safe {m : LabelX} (f : Field) (hm : m.Ranged) : (LabelX.apply m f).Safe LabelX.Ranged := by
  unfold LabelX.apply
  split
  · exact (decodeInt64_safe f).bind fun _ _ => hm
  · exact (decodeInt64_safe f).bind fun _ _ => hm
  · exact (decodeInt64_safe f).bind fun _ hx => hx
  · exact (decodeInt64_safe f).bind fun _ _ => hm
  · exact hm

theorem SampleX.apply_safe {m : SampleX} {f : Field} (hf : f.u64 < two64) (hm : m.Ranged) :
    (SampleX.apply m f).Safe SampleX.Ranged := by
  unfold SampleX.apply
  obtain ⟨a, b, c⟩ := hm
  split
  · exact (decodeUint64s_safe hf _).bind fun _ hx => ⟨hx a, b, c⟩
  · exact (decodeInt64s_safe f _).bind fun _ hx => ⟨a, hx b, c⟩
  · exact (decodeMessage_safe LabelX.apply LabelX.Ranged (fun _ f _ => LabelX.apply_safe f) {} InI64_0 f).bind fun _ hx =>
      ⟨a, b, forall_mem_concat c hx⟩
  · exact ⟨a, b, c⟩

theorem MappingX.apply_safe {m : MappingX} {f : Field} (hf : f.u64 < two64) (hm : m.Ranged) :
    (MappingX.apply m f).Safe MappingX.Ranged := by
  unfold MappingX.apply
  obtain ⟨a, b, c, d⟩ := hm
  split
  · exact (decodeUint64_safe hf).bind fun _ hx => ⟨hx, b, c, d⟩
  · exact (decodeUint64_safe hf).bind fun _ hx => ⟨a, hx, c, d⟩
  · exact (decodeUint64_safe hf).bind fun _ hx => ⟨a, b, hx, d⟩
  · exact (decodeUint64_safe hf).bind fun _ hx => ⟨a, b, c, hx⟩
  · exact (decodeInt64_safe f).bind fun _ _ => ⟨a, b, c, d⟩
  · exact (decodeInt64_safe f).bind fun _ _ => ⟨a, b, c, d⟩
  · exact (decodeBool_safe f).bind fun _ _ => ⟨a, b, c, d⟩
  · exact (decodeBool_safe f).bind fun _ _ => ⟨a, b, c, d⟩
  · exact (decodeBool_safe f).bind fun _ _ => ⟨a, b, c, d⟩
  · exact (decodeBool_safe f).bind fun _ _ => ⟨a, b, c, d⟩
  · exact ⟨a, b, c, d⟩

theorem LineX.apply_safe {m : LineX} {f : Field} (hf : f.u64 < two64) (hm : m.Ranged) :
    (LineX.apply m f).Safe LineX.Ranged := by
  unfold LineX.apply
  obtain ⟨a, b, c⟩ := hm
  split
  · exact (decodeUint64_safe hf).bind fun _ hx => ⟨hx, b, c⟩
  · exact (decodeInt64_safe f).bind fun _ hx => ⟨a, hx, c⟩
  · exact (decodeInt64_safe f).bind fun _ hx => ⟨a, b, hx⟩
  · exact ⟨a, b, c⟩

theorem LocationX.apply_safe {m : LocationX} {f : Field} (hf : f.u64 < two64) (hm : m.Ranged) :
    (LocationX.apply m f).Safe LocationX.Ranged := by
  unfold LocationX.apply
  obtain ⟨a, b, c, d⟩ := hm
  split
  · exact (decodeUint64_safe hf).bind fun _ hx => ⟨hx, b, c, d⟩
  · exact (decodeUint64_safe hf).bind fun _ hx => ⟨a, hx, c, d⟩
  · exact (decodeUint64_safe hf).bind fun _ hx => ⟨a, b, hx, d⟩
  · exact (decodeMessage_safe LineX.apply LineX.Ranged (fun _ _ => LineX.apply_safe) {}
      ⟨zero_lt_two64, InI64_0, InI64_0⟩ f).bind
      fun _ hx => ⟨a, b, c, forall_mem_concat d hx⟩
  · exact (decodeBool_safe f).bind fun _ _ => ⟨a, b, c, d⟩
  · exact ⟨a, b, c, d⟩

theorem FunctionX.apply_safe {m : FunctionX} {f : Field} (hf : f.u64 < two64) (hm : m.Ranged) :
    (FunctionX.apply m f).Safe FunctionX.Ranged := by
  unfold FunctionX.apply
  obtain ⟨a, b⟩ := hm
  split
  · exact (decodeUint64_safe hf).bind fun _ hx => ⟨hx, b⟩
  · exact (decodeInt64_safe f).bind fun _ _ => ⟨a, b⟩
  · exact (decodeInt64_safe f).bind fun _ _ => ⟨a, b⟩
  · exact (decodeInt64_safe f).bind fun _ _ => ⟨a, b⟩
  · exact (decodeInt64_safe f).bind fun _ hx => ⟨a, hx⟩
  · exact ⟨a, b⟩

theorem ProfileX.apply_safe {m : ProfileX} (f : Field) (hm : m.Ranged) :
    (ProfileX.apply m f).Safe ProfileX.Ranged := by
  unfold ProfileX.apply
  obtain ⟨a, b, c, d, e, g, k⟩ := hm
  split
  · exact (decodeMessage_safe ValueTypeX.apply (fun _ => True) (fun m f _ _ => ValueTypeX.apply_safe m f) {} trivial f).bind fun _ _ =>
      ⟨a, b, c, d, e, g, k⟩
  · exact (decodeMessage_safe SampleX.apply SampleX.Ranged (fun _ _ => SampleX.apply_safe) {}
      ⟨List.forall_mem_nil _, List.forall_mem_nil _, List.forall_mem_nil _⟩ f).bind fun _ hx =>
      ⟨a, b, c, forall_mem_concat d hx, e, g, k⟩
  · exact (decodeMessage_safe MappingX.apply MappingX.Ranged (fun _ _ => MappingX.apply_safe) {}
      ⟨zero_lt_two64, zero_lt_two64, zero_lt_two64, zero_lt_two64⟩ f).bind fun _ hx =>
      ⟨a, b, c, d, forall_mem_concat e hx, g, k⟩
  · exact (decodeMessage_safe LocationX.apply LocationX.Ranged (fun _ _ => LocationX.apply_safe) {}
      ⟨zero_lt_two64, zero_lt_two64, zero_lt_two64, List.forall_mem_nil _⟩ f).bind fun _ hx =>
      ⟨a, b, c, d, e, forall_mem_concat g hx, k⟩
  · exact (decodeMessage_safe FunctionX.apply FunctionX.Ranged (fun _ _ => FunctionX.apply_safe) {}
      ⟨zero_lt_two64, InI64_0⟩ f).bind
      fun _ hx => ⟨a, b, c, d, e, g, forall_mem_concat k hx⟩
  · -- string table: `stringTable[0]` after the append always exists
    refine (decodeString_safe f).bind fun s _ => ?_
    dsimp only
    split
    · exact absurd ‹_› (List.append_ne_nil_of_right_ne_nil _ (List.cons_ne_nil _ _))
    · split
      · trivial
      · exact ⟨a, b, c, d, e, g, k⟩
  · exact (decodeInt64_safe f).bind fun _ _ => ⟨a, b, c, d, e, g, k⟩
  · exact (decodeInt64_safe f).bind fun _ _ => ⟨a, b, c, d, e, g, k⟩
  · split
    · trivial
    · exact (decodeInt64_safe f).bind fun _ hx => ⟨hx, b, c, d, e, g, k⟩
  · exact (decodeInt64_safe f).bind fun _ hx => ⟨a, hx, c, d, e, g, k⟩
  · exact (decodeMessage_safe ValueTypeX.apply (fun _ => True) (fun m f _ _ => ValueTypeX.apply_safe m f) {} trivial f).bind fun _ _ =>
      ⟨a, b, c, d, e, g, k⟩
  · exact (decodeInt64_safe f).bind fun _ hx => ⟨a, b, hx, d, e, g, k⟩
  · exact (decodeInt64s_safe f _).bind fun _ _ => ⟨a, b, c, d, e, g, k⟩
  · exact (decodeInt64_safe f).bind fun _ _ => ⟨a, b, c, d, e, g, k⟩
  · exact (decodeInt64_safe f).bind fun _ _ => ⟨a, b, c, d, e, g, k⟩
  · exact ⟨a, b, c, d, e, g, k⟩

theorem ProfileX.zero_ranged : ({} : ProfileX).Ranged :=
  ⟨InI64_0, InI64_0, InI64_0, List.forall_mem_nil _, List.forall_mem_nil _, List.forall_mem_nil _,
    List.forall_mem_nil _⟩

/-- `unmarshal` is proto.go decodeMessage with the decoder tables of encode.go (nested messages, packed
fields, the string-table check). -/
theorem unmarshal_safe (b : Bytes) : (unmarshal b).Safe ProfileX.Ranged :=
  decodeLoop_safe ProfileX.apply ProfileX.Ranged (fun _ f _ => ProfileX.apply_safe f) b.length {} b
    (Nat.le_refl _) ProfileX.zero_ranged

end Codec
end PV
