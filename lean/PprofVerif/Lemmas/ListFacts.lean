/-!
Facts about `List` alone that several of the lemma towers need and the core library does not state:
congruence of `map`/`flatMap` on the members of the list, lookups with `find?`, bounds for
`foldl max`, counts of two distinct elements, and induction from the right end.
-/
namespace PV.ListFacts

theorem map_eq_self {α} {f : α → α} {l : List α} (h : ∀ a ∈ l, f a = a) : l.map f = l :=
  (List.map_congr_left h).trans (List.map_id l)

theorem flatMap_congr_mem {α β} {l : List α} {f g : α → List β} (h : ∀ x ∈ l, f x = g x) :
    l.flatMap f = l.flatMap g := by
  rw [List.flatMap_def, List.flatMap_def, List.map_congr_left h]

theorem find?_of_any {α} {l : List α} {q : α → Bool} (h : l.any q = true) :
    ∃ a, l.find? q = some a ∧ a ∈ l := by
  obtain ⟨a, ha⟩ := Option.isSome_iff_exists.1 (List.find?_isSome.2 (List.any_eq_true.1 h))
  exact ⟨a, ha, List.mem_of_find?_eq_some ha⟩

/-- whether some entry has key `i` depends on the list of keys only -/
theorem any_of_map_eq {α β κ} [BEq κ] {f : α → κ} {g : β → κ} {as : List α} {bs : List β}
    (h : as.map f = bs.map g) (i : κ) : as.any (fun a => f a == i) = bs.any (fun b => g b == i) :=
  (List.any_map (p := (· == i))).symm.trans ((congrArg (List.any · (· == i)) h).trans List.any_map)

/-- looking an entry up by its key commutes with a rewrite of the entries that keeps the keys -/
theorem find?_map_of_key_eq {α κ} [BEq κ] (g : α → α) (key : α → κ) (hk : ∀ a, key (g a) = key a)
    (l : List α) (i : κ) :
    (l.map g).find? (fun a => key a == i) = (l.find? (fun a => key a == i)).map g := by
  rw [List.find?_map]
  exact congrArg (fun q => (l.find? q).map g) (funext fun a => congrArg (· == i) (hk a))

theorem foldl_max_le_iff {α} (key : α → Nat) (l : List α) (a B : Nat) :
    l.foldl (fun a x => max a (key x)) a ≤ B ↔ a ≤ B ∧ ∀ x ∈ l, key x ≤ B := by
  induction l generalizing a with
  | nil => simp
  | cons y rest ih => rw [List.foldl_cons, ih, Nat.max_le, List.forall_mem_cons, and_assoc]

theorem le_foldl_max {l : List Nat} {a x : Nat} (h : x ≤ a ∨ x ∈ l) : x ≤ l.foldl max a :=
  have hb := (foldl_max_le_iff id l a _).mp (Nat.le_refl (l.foldl max a))
  h.elim (Nat.le_trans · hb.1) (hb.2 x)

/-- the elements equal to `b` are among those different from `a` -/
theorem count_add_count_le {α} [BEq α] [LawfulBEq α] {a b : α} (hab : a ≠ b) (l : List α) :
    l.count a + l.count b ≤ l.length := by
  rw [List.length_eq_countP_add_countP (· == a) (l := l)]
  refine Nat.add_le_add_left (List.countP_mono_left fun x _ hx => ?_) _
  cases beq_iff_eq.mp hx
  simpa using hab.symm

theorem concat_induction {α} {motive : List α → Prop} (nil : motive [])
    (concat : ∀ l a, motive l → motive (l ++ [a])) (b : List α) : motive b := by
  rw [← List.reverse_reverse b]
  induction b.reverse with
  | nil => exact nil
  | cons a l ih => rw [List.reverse_cons]; exact concat _ _ ih

end PV.ListFacts
