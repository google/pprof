import PprofVerif.Model.Profile
import PprofVerif.Lemmas.ListFacts
/-!
What `Profile.Valid` says, clause by clause (`Profile.valid_iff`), and the forms in which the towers
read it: every id a sample, a line or a location refers to is found by the profile's lookup, and
id 0 ("none") is in no table.
-/
namespace PV

theorem idsNodup_iff (ids : List Nat) : idsNodup ids = true ↔ ids.Nodup ∧ 0 ∉ ids := by
  unfold idsNodup; exact decide_eq_true_iff

theorem Profile.valid_iff (p : Profile) : p.Valid ↔
    (p.sampleType.length ≠ 0 ∨ p.samples = []) ∧
    (∀ s ∈ p.samples, s.values.length = p.sampleType.length ∧
      ∀ id ∈ s.locationIDs, id ≠ 0 ∧ p.locations.any (·.id == id) = true) ∧
    idsNodup (p.mappings.map (·.id)) ∧ idsNodup (p.functions.map (·.id)) ∧
    idsNodup (p.locations.map (·.id)) ∧
    (∀ l ∈ p.locations, (l.mappingID = 0 ∨ p.mappings.any (·.id == l.mappingID) = true) ∧
      ∀ ln ∈ l.lines, ln.functionID ≠ 0 ∧ p.functions.any (·.id == ln.functionID) = true) := by
  unfold Profile.Valid Profile.validB
  simp only [Bool.and_eq_true, List.all_eq_true, Bool.or_eq_true, bne_iff_ne, ne_eq,
    beq_iff_eq, decide_eq_true_eq, List.isEmpty_iff, and_assoc]

namespace Profile.Valid
variable {p : Profile}

theorem values_length (hv : p.Valid) {s : Sample} (hs : s ∈ p.samples) : s.values.length = p.sampleType.length :=
  (((Profile.valid_iff p).mp hv).2.1 s hs).1

theorem findLocation (hv : p.Valid) {s : Sample} (hs : s ∈ p.samples) {id : Nat} (hid : id ∈ s.locationIDs) :
    id ≠ 0 ∧ ∃ l, p.findLocation id = some l ∧ l ∈ p.locations := by
  obtain ⟨_, hS, _⟩ := (Profile.valid_iff p).mp hv
  exact ⟨((hS s hs).2 id hid).1, ListFacts.find?_of_any ((hS s hs).2 id hid).2⟩

theorem findFunction (hv : p.Valid) {l : Location} (hl : l ∈ p.locations) {ln : Line} (hln : ln ∈ l.lines) :
    ln.functionID ≠ 0 ∧ ∃ f, p.findFunction ln.functionID = some f ∧ f ∈ p.functions := by
  obtain ⟨_, _, _, _, _, hR⟩ := (Profile.valid_iff p).mp hv
  exact ⟨((hR l hl).2 ln hln).1, ListFacts.find?_of_any ((hR l hl).2 ln hln).2⟩

theorem findMapping (hv : p.Valid) {l : Location} (hl : l ∈ p.locations) :
    l.mappingID = 0 ∨ ∃ m, p.findMapping l.mappingID = some m ∧ m ∈ p.mappings := by
  obtain ⟨_, _, _, _, _, hR⟩ := (Profile.valid_iff p).mp hv
  exact (hR l hl).1.imp_right ListFacts.find?_of_any

/-- id 0 means "no mapping": no mapping of a valid profile has it. -/
theorem findMapping_zero (hv : p.Valid) : p.findMapping 0 = none := by
  obtain ⟨_, _, hM, _⟩ := (Profile.valid_iff p).mp hv
  refine List.find?_eq_none.mpr fun m hm hid => ((idsNodup_iff _).mp hM).2 ?_
  exact List.mem_map.mpr ⟨m, hm, beq_iff_eq.mp hid⟩

/-- Validity looks at the tables through their ids only: it passes to a profile with the same samples
and the same mapping and location ids whose functions have distinct non-zero ids, when every location
refers to the mapping of an old location and to functions of the new table. -/
theorem of_same_ids {q : Profile} (hv : p.Valid)
    (hT : q.sampleType = p.sampleType) (hS : q.samples = p.samples)
    (hM : q.mappings.map (·.id) = p.mappings.map (·.id))
    (hL : q.locations.map (·.id) = p.locations.map (·.id))
    (hF : idsNodup (q.functions.map (·.id)))
    (hR : ∀ l' ∈ q.locations, (∃ l ∈ p.locations, l'.mappingID = l.mappingID) ∧
      ∀ ln ∈ l'.lines, ln.functionID ≠ 0 ∧ q.functions.any (·.id == ln.functionID) = true) : q.Valid := by
  obtain ⟨pT, pS, pM, _, pL, pR⟩ := (Profile.valid_iff p).mp hv
  refine (Profile.valid_iff q).mpr ⟨hT ▸ hS ▸ pT, ?_, hM ▸ pM, hF, hL ▸ pL, fun l' hl' => ⟨?_, (hR l' hl').2⟩⟩
  · rw [hT, hS]
    exact fun s hs => ⟨(pS s hs).1, fun id hid =>
      ⟨((pS s hs).2 id hid).1, (ListFacts.any_of_map_eq hL id).trans ((pS s hs).2 id hid).2⟩⟩
  · obtain ⟨l, hl, e⟩ := (hR l' hl').1
    exact e ▸ (pR l hl).1.imp_right ((ListFacts.any_of_map_eq hM _).trans ·)

end Profile.Valid
end PV
