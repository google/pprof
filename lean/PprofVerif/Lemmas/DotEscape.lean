import PprofVerif.Model.Dot
/-! C18: `escapeForDot` (`internal/graph/dotgraph.go`) byte-wise, quoted-string scanning of escaped text, closure of
"safe between quotes" under concatenation, display round trip. -/
namespace PV.Dot

theorem replaceByte_eq_flatMap (c : UInt8) (rep s : Bytes) :
    replaceByte c rep s = s.flatMap (fun b => if b = c then rep else [b]) := by
  induction s with
  | nil => rfl
  | cons b r ih =>
    simp only [replaceByte, List.flatMap_cons]
    split <;> simp [ih]

theorem escByte_cases {P : UInt8 → Bytes → Prop} (bs : P BS [BS, BS]) (dq : P DQ [BS, DQ]) (nl : P NL [BS, LL])
    (other : ∀ b, b ≠ BS → b ≠ DQ → b ≠ NL → P b [b]) (b : UInt8) : P b (escByte b) := by
  unfold escByte
  by_cases h1 : b = BS
  · rw [if_pos h1]; exact h1 ▸ bs
  · by_cases h2 : b = DQ
    · rw [if_neg h1, if_pos h2]; exact h2 ▸ dq
    · by_cases h3 : b = NL
      · rw [if_neg h1, if_neg h2, if_pos h3]; exact h3 ▸ nl
      · rw [if_neg h1, if_neg h2, if_neg h3]; exact other b h1 h2 h3

/-- the three nested `ReplaceAll` calls act byte by byte -/
theorem escape_eq_flatMap (s : Bytes) : escape s = s.flatMap escByte := by
  simp only [escape, escapeSpec, List.foldl, replaceByte_eq_flatMap, List.flatMap_assoc]
  congr 1
  funext b
  exact escByte_cases (P := fun b e => List.flatMap (fun x => List.flatMap (fun b => if b = NL then [BS, LL] else [b])
      (if x = DQ then [BS, DQ] else [x])) (if b = BS then [BS, BS] else [b]) = e)
    (by decide) (by decide) (by decide) (fun b h1 h2 h3 => by simp [h1, h2, h3]) b

/-- One step of a string that is safe between quotes: the scanner state `e'` after the first byte
is the same whatever follows it, for `qsafeA` and for `scanA` alike. -/
theorem qsafeA_cons {e : Bool} {x : UInt8} {t : Bytes} (h : qsafeA e (x :: t) = true) :
    ∃ e', qsafeA e' t = true ∧ (∀ u, qsafeA e (x :: u) = qsafeA e' u) ∧
      ∀ u, scanA e (x :: u) = (scanA e' u).map fun p => (x :: p.1, p.2) := by
  cases e
  · by_cases hx : x = DQ
    · simp [qsafeA, hx] at h
    · by_cases hb : x = BS
      · simp only [qsafeA, scanA, if_neg hx, if_pos hb] at h ⊢
        exact ⟨true, h, fun _ => rfl, fun _ => rfl⟩
      · simp only [qsafeA, scanA, if_neg hx, if_neg hb] at h ⊢
        exact ⟨false, h, fun _ => rfl, fun _ => rfl⟩
  · exact ⟨false, h, fun _ => rfl, fun _ => rfl⟩

theorem scanA_of_qsafeA (b : Bytes) : ∀ (esc : Bool), qsafeA esc b = true → ∀ r,
    scanA esc (b ++ DQ :: r) = some (b, r) := by
  induction b with
  | nil => intro esc h r; cases esc <;> simp [scanA, qsafeA] at h ⊢
  | cons x t ih =>
    intro esc h r
    obtain ⟨e', h', _, hs⟩ := qsafeA_cons h
    rw [List.cons_append, hs, ih e' h' r]; rfl

theorem scanQ_of_qsafeB (b : Bytes) (h : qsafeB b = true) (r : Bytes) :
    scanQ (b ++ DQ :: r) = some (b, r) := scanA_of_qsafeA b false h r

theorem lexQuoted_of_qsafeB {b : Bytes} (h : qsafeB b = true) (r : Bytes) :
    lexQuoted (DQ :: b ++ DQ :: r) = some (b, r) := by
  simp only [List.cons_append, lexQuoted, if_true]
  exact scanQ_of_qsafeB b h r

theorem qsafeA_append {a b : Bytes} {esc : Bool} (ha : qsafeA esc a = true) (hb : qsafeA false b = true) :
    qsafeA esc (a ++ b) = true := by
  induction a generalizing esc with
  | nil => cases esc <;> simp [qsafeA] at ha ⊢; exact hb
  | cons x t ih =>
    obtain ⟨e', h', hq, _⟩ := qsafeA_cons ha
    rw [List.cons_append, hq]; exact ih h'

theorem qsafeB_append {a b : Bytes} (ha : qsafeB a = true) (hb : qsafeB b = true) :
    qsafeB (a ++ b) = true := qsafeA_append ha hb

theorem qsafeB_escByte (b : UInt8) : qsafeB (escByte b) = true :=
  escByte_cases (P := fun _ e => qsafeB e = true) (by decide) (by decide) (by decide)
    (fun b h1 h2 _ => by simp [qsafeB, qsafeA, h1, h2]) b

theorem qsafeB_escape (s : Bytes) : qsafeB (escape s) = true := by
  rw [escape_eq_flatMap]
  induction s with
  | nil => rfl
  | cons b r ih => simpa [List.flatMap_cons] using qsafeB_append (qsafeB_escByte b) ih

theorem unescape_escByte_append (b : UInt8) (t : Bytes) :
    unescapeA false (escByte b ++ t) = b :: unescapeA false t :=
  escByte_cases (P := fun b e => unescapeA false (e ++ t) = b :: unescapeA false t)
    (by simp [unescapeA, show ¬ BS = LL by decide, show ¬ BS = 0x6e by decide])
    (by simp [unescapeA, show ¬ DQ = LL by decide, show ¬ DQ = 0x6e by decide])
    (by simp [unescapeA]) (fun b h1 _ _ => by simp [unescapeA, h1]) b

theorem unescape_escape (s : Bytes) : unescape (escape s) = s := by
  rw [escape_eq_flatMap]
  unfold unescape
  induction s with
  | nil => rfl
  | cons b r ih => simp [List.flatMap_cons, unescape_escByte_append, ih]

theorem not_mem_NL_escByte (b : UInt8) : NL ∉ escByte b :=
  escByte_cases (P := fun _ e => NL ∉ e) (by decide) (by decide) (by decide)
    (fun b _ _ h3 => by simpa using Ne.symm h3) b

theorem not_mem_NL_escape (s : Bytes) : NL ∉ escape s := by
  rw [escape_eq_flatMap]
  simp only [List.mem_flatMap, not_exists, not_and]
  intro b _
  exact not_mem_NL_escByte b

end PV.Dot
