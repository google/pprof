import PprofVerif.Model.Settings
/-! `strconv.Atoi (fmt.Sprint n) = n` for every int64 (C19, int-valued options). -/
namespace PV.Settings

theorem digitByte_toNat {d : Nat} (h : d < 10) : (digitByte d).toNat = 48 + d := by
  rw [digitByte, UInt8.toNat_ofNat', Nat.mod_eq_of_lt (by omega)]

theorem parseDigits_digit {d : Nat} (h : d < 10) (rest : List UInt8) (acc : Nat) :
    parseDigits (digitByte d :: rest) acc = parseDigits rest (acc * 10 + d) := by
  have hd := digitByte_toNat h
  have : isDigit (digitByte d) = true := by
    rw [isDigit, hd]
    exact Bool.and_eq_true_iff.2 ⟨decide_eq_true (Nat.le_add_right ..), decide_eq_true (by omega)⟩
  rw [parseDigits, if_pos this, hd, Nat.add_sub_cancel_left]

theorem parseDigits_natDigitsRev : ∀ (fuel n : Nat) (rest : List UInt8), n < fuel →
    parseDigits ((natDigitsRev fuel n).reverse ++ rest) 0 = parseDigits rest n := by
  intro fuel
  induction fuel with
  | zero => exact fun _ _ h => nomatch h
  | succ fuel ih =>
    intro n rest h
    show parseDigits ((digitByte (n % 10) :: _).reverse ++ rest) 0 = _
    rw [List.reverse_cons, List.append_assoc, List.singleton_append]
    -- the leading digits reach `n / 10`, the last digit makes it `n`
    have lead : parseDigits ((if n / 10 = 0 then [] else natDigitsRev fuel (n / 10)).reverse ++
        digitByte (n % 10) :: rest) 0 = parseDigits (digitByte (n % 10) :: rest) (n / 10) := by
      split
      · rename_i h0; rw [h0]; rfl
      · rename_i hne
        have hpos : 0 < n := Nat.pos_of_ne_zero fun h0 => hne (by rw [h0])
        exact ih (n / 10) _ (Nat.lt_of_lt_of_le (Nat.div_lt_self hpos (by decide)) (Nat.le_of_lt_succ h))
    rw [lead, parseDigits_digit (Nat.mod_lt _ (by decide)), Nat.div_add_mod']

theorem parse_showNat (n : Nat) : parseDigits (showNat n) 0 = some n := by
  have := parseDigits_natDigitsRev (n + 1) n [] (Nat.lt_succ_self n)
  rwa [List.append_nil] at this

theorem showNat_ne_nil (n : Nat) : showNat n ≠ [] := by
  rw [showNat, natDigitsRev]
  exact fun h => nomatch List.reverse_eq_nil_iff.1 h

theorem atoiDigits_showNat (neg : Bool) (m : Nat) {v : Int} (hv : (if neg then -(m : Int) else m) = v)
    (h : inI64 v = true) : atoiDigits neg (showNat m) = some v := by
  unfold atoiDigits
  split
  · exact absurd ‹_› (showNat_ne_nil m)
  · rw [parse_showNat]; dsimp only; rw [hv, if_pos h]

theorem atoi_showInt (n : Int) (h : inI64 n = true) : atoi (showInt n) = some n := by
  unfold showInt
  split
  · rename_i hn
    exact atoiDigits_showNat true n.natAbs
      ((if_pos rfl).trans (by rw [Int.ofNat_natAbs_of_nonpos (Int.le_of_lt hn), Int.neg_neg])) h
  · rename_i hn
    have := atoiDigits_showNat false n.natAbs
      ((if_neg Bool.false_ne_true).trans (Int.natAbs_of_nonneg (Int.not_lt.1 hn))) h
    -- the first character is a digit, since parsing succeeds: not a sign
    have hp := parse_showNat n.natAbs
    cases hs : showNat n.natAbs with
    | nil => exact absurd hs (showNat_ne_nil _)
    | cons c r =>
      rw [hs] at this hp
      have hc : isDigit c = true := by
        rw [parseDigits] at hp
        split at hp
        · assumption
        · cases hp
      have h1 : c ≠ 45 := fun e => by rw [e] at hc; cases hc
      have h2 : c ≠ 43 := fun e => by rw [e] at hc; cases hc
      rw [atoi, if_neg h1, if_neg h2, this]

theorem showInt_ne_nil (n : Int) : showInt n ≠ [] := by
  unfold showInt
  split
  · exact fun h => nomatch h
  · exact showNat_ne_nil _

theorem showInt_inj {a b : Int} (ha : inI64 a = true) (hb : inI64 b = true)
    (h : showInt a = showInt b) : a = b :=
  Option.some.inj ((atoi_showInt a ha).symm.trans (h ▸ atoi_showInt b hb))

end PV.Settings
