import PprofVerif.Model.CombineBridge
import PprofVerif.Lemmas.NormalizeIdem
import PprofVerif.Lemmas.Combine
/-!
Composition C07 ← C01: the diff-base label and the weight function survive the proto round trip.
`Model/CombineBridge.lean` maps an id-based profile to the weight-function view of C07.  The only
change a write/read round trip makes to a profile is `Profile.normalize` (C01); it keeps stacks and
values, and it keeps `Sample.DiffBaseSample()` because the label value `true` is not the empty
string (`isBase_normalize`) — so the C07 view is unchanged (`ofProfile_normalize`).
`SetLabel("pprof::base", ["true"])` is `setBase` in the C07 view (`ofProfile_setBaseP`).
-/
namespace PV
namespace Combine
open Codec

theorem trueStr_ne_nil : Str.ofString "true" ≠ [] := by decide +kernel

theorem lookup_map_snd {β γ} (k : Str) (g : β → γ) : ∀ l : List (Str × β),
    (l.map fun e => (e.1, g e.2)).lookup k = (l.lookup k).map g
  | [] => rfl
  | (k0, v0) :: r => by
    rw [List.map_cons, List.lookup_cons, List.lookup_cons, lookup_map_snd k g r]
    cases k == k0 <;> rfl

theorem lookup_filter_snd {β} (k : Str) (q : β → Bool) : ∀ l : List (Str × β), (Codec.keys l).Nodup →
    (l.filter fun e => q e.2).lookup k = (l.lookup k).filter q
  | [], _ => rfl
  | (k0, v0) :: r, hnd => by
    obtain ⟨hk, hr⟩ := List.nodup_cons.mp hnd
    have ih := lookup_filter_snd k q r hr
    rw [List.lookup_cons]
    cases hq : q v0
    · rw [List.filter_cons_of_neg (by simp [hq]), ih]
      cases hke : k == k0
      · rfl
      · -- `k0` does not occur in `r`
        rw [eq_of_beq hke, lookup_of_not_mem_keys hk, Option.filter_some, hq]; rfl
    · rw [List.filter_cons_of_pos (by simp [hq]), List.lookup_cons, ih]
      cases k == k0
      · rfl
      · rw [Option.filter_some, hq]; rfl

theorem contains_filter_ne_nil (vs : List Str) (t : Str) (ht : t ≠ []) :
    (vs.filter (· ≠ [])).contains t = vs.contains t := by
  have hm (l : List Str) : l.contains t = true ↔ t ∈ l := List.contains_iff_mem
  rw [Bool.eq_iff_iff, hm, hm, List.mem_filter]
  exact ⟨And.left, fun h => ⟨h, decide_eq_true ht⟩⟩

theorem normalize_label (s : PV.Sample) : (Sample.normalize s).label =
    ((s.label.map fun e => (e.1, e.2.filter (· ≠ []))).filter fun e => decide (e.2 ≠ [])) := rfl

/-- the label `pprof::base=true` survives normalisation (its value is not the empty string),
for samples whose label map is a real map (distinct keys) -/
theorem isBase_normalize (s : PV.Sample) (hnd : (Codec.keys s.label).Nodup) :
    Graph.isBase (Sample.normalize s) = Graph.isBase s := by
  unfold Graph.isBase
  rw [normalize_label, lookup_filter_snd _ (fun vs => decide (vs ≠ [])) _
      (by rw [Codec.keys, List.map_map]; exact hnd),
    lookup_map_snd]
  cases s.label.lookup (Str.ofString "pprof::base") with
  | none => rfl
  | some vs =>
    -- an entry left without values is dropped, and then contains nothing either
    rw [Option.map_some, Option.filter_some]
    show _ = vs.contains (Str.ofString "true")
    rw [← contains_filter_ne_nil vs _ trueStr_ne_nil]
    generalize vs.filter (· ≠ []) = F
    cases F <;> rfl

theorem nodup_keys_of_mapsSorted {p : Profile} (hs : p.mapsSorted = true) {s : PV.Sample}
    (h : s ∈ p.samples) : (Codec.keys s.label).Nodup ∧ (Codec.keys s.numLabel).Nodup := by
  have hss := List.all_eq_true.mp hs s h
  simp only [Sample.mapsSorted, Bool.and_eq_true] at hss
  exact ⟨nodup_keys_of_pairwise (pairwise_of_keysSorted _ hss.1.1),
    nodup_keys_of_pairwise (pairwise_of_keysSorted _ hss.1.2)⟩

/-- what the round trip does to a profile (`normalize`) is invisible in the C07 view, for every tag
function that does not tell the profile's samples from their normal forms -/
theorem ofProfile_normalize_of_mem (tag : PV.Sample → Nat) (p : Profile)
    (htag : ∀ s ∈ p.samples, tag (Sample.normalize s) = tag s) (hs : p.mapsSorted = true) :
    ofProfile tag (Profile.normalize p) = ofProfile tag p := by
  unfold ofProfile Profile.normalize
  rw [List.map_map]
  exact List.map_congr_left fun s hs' => by
    simp only [Function.comp, htag s hs', isBase_normalize s (nodup_keys_of_mapsSorted hs hs').1]
    rfl

theorem ofProfile_normalize (tag : PV.Sample → Nat) (htag : ∀ s, tag (Sample.normalize s) = tag s)
    (p : Profile) (hs : p.mapsSorted = true) :
    ofProfile tag (Profile.normalize p) = ofProfile tag p :=
  ofProfile_normalize_of_mem tag p (fun s _ => htag s) hs

theorem tag_normalize_invariant (tag : PV.Sample → Nat) (s : PV.Sample) (hnd : (Codec.keys s.numLabel).Nodup) :
    (tag ∘ Sample.normalize) (Sample.normalize s) = (tag ∘ Sample.normalize) s := by
  simp only [Function.comp, Sample.normalize_idem s hnd]

theorem ofProfile_normalize_normalTag (tag : PV.Sample → Nat) (p : Profile) (hs : p.mapsSorted = true) :
    ofProfile (tag ∘ Sample.normalize) (Profile.normalize p) = ofProfile (tag ∘ Sample.normalize) p :=
  ofProfile_normalize_of_mem _ p
    (fun s h => tag_normalize_invariant tag s (nodup_keys_of_mapsSorted hs h).2) hs

theorem lookup_setSorted {β} (k : Str) (v : β) : ∀ (l : List (Str × β)), (setSorted k v l).lookup k = some v
  | [] => List.lookup_cons_self
  | (k0, v0) :: r => by
    unfold setSorted
    split
    · exact List.lookup_cons_self
    · rename_i h1
      split
      · exact List.lookup_cons_self
      · have hne : (k == k0) = false := beq_eq_false_iff_ne.mpr fun h => h1 (h ▸ beq_self_eq_true k)
        rw [List.lookup_cons, hne]
        exact lookup_setSorted k v r

theorem isBase_setBaseLabel (s : PV.Sample) : Graph.isBase (setBaseLabel s) = true := by
  unfold Graph.isBase setBaseLabel
  have h : (setSorted baseKey [trueStr] s.label).lookup (Str.ofString "pprof::base") = some [trueStr] :=
    lookup_setSorted baseKey [trueStr] s.label
  simp only [h]
  simp [trueStr]

/-- labelling a base profile is `setBase` in the C07 view, for tags that ignore that label -/
theorem ofProfile_setBaseP (tag : PV.Sample → Nat) (htag : ∀ s, tag (setBaseLabel s) = tag s) (p : Profile) :
    ofProfile tag (setBaseP p) = setBase (ofProfile tag p) := by
  unfold ofProfile setBaseP setBase
  simp only [List.map_map]
  apply List.map_congr_left
  intro s _
  simp only [Function.comp, htag, isBase_setBaseLabel]
  rfl

end Combine
end PV
