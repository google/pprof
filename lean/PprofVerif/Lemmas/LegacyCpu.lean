import PprofVerif.Lemmas.LegacyMapSection
import PprofVerif.Model.LegacyCpu
import PprofVerif.Lemmas.ListFacts
/-!
Helper lemmas for C14: binary CPU profiles — the word layouts, the sample loop on printed records,
`parseCPUWith` on a printed header; the signal-handler frame rule (`stripSignalFrame`).
-/
namespace PV.Legacy
open PV

theorem leBytes_length (k n : Nat) : (leBytes k n).length = k := by
  induction k generalizing n with
  | zero => rfl
  | succ k ih => simp [leBytes, ih]

theorem leValue_leBytes (k n : Nat) : leValue (leBytes k n) = n % 256 ^ k := by
  induction k generalizing n with
  | zero => simp [leBytes, leValue, Nat.mod_one]
  | succ k ih =>
    simp only [leBytes, leValue, ih, UInt8.toNat_ofNat']
    have h1 : n % 256 % 2 ^ 8 = n % 256 := by omega
    rw [h1, Nat.pow_succ, Nat.mul_comm (256 ^ k) 256, Nat.mod_mul]

def wordLen (w64 : Bool) : Nat := if w64 then 8 else 4
def wordBound (w64 : Bool) : Nat := if w64 then two64 else two32

theorem word_length (big w64 : Bool) (n : Nat) : (word big w64 n).length = wordLen w64 := by
  unfold word wordLen
  cases big <;> simp [leBytes_length]

theorem getWord_chunk (big w64 : Bool) (p T : Str) (hp : p.length = wordLen w64) :
    getWord big w64 (p ++ T) = some (leValue (if big then p.reverse else p), T) := by
  unfold getWord
  have hk : (if w64 = true then 8 else 4) = wordLen w64 := rfl
  rw [hk]
  have hlen : ¬ (p ++ T).length < wordLen w64 := by simp [hp]
  simp only [hlen, if_false, List.take_left' hp, List.drop_left' hp]

theorem getWord_eq_some {big w64 : Bool} {b : Str} {n : Nat} {r : Str} (h : getWord big w64 b = some (n, r)) :
    ∃ p, p.length = wordLen w64 ∧ b = p ++ r ∧ n = leValue (if big then p.reverse else p) := by
  unfold getWord at h
  have hk : (if w64 = true then 8 else 4) = wordLen w64 := rfl
  rw [hk] at h
  by_cases hlen : b.length < wordLen w64
  · simp [hlen] at h
  · simp only [hlen, if_false, Option.some.injEq, Prod.mk.injEq] at h
    exact ⟨b.take (wordLen w64), List.length_take_of_le (by omega), by rw [← h.2, List.take_append_drop], h.1.symm⟩

theorem getWord_length {big w64 : Bool} {b : Str} {n : Nat} {r : Str} (h : getWord big w64 b = some (n, r)) :
    b.length = wordLen w64 + r.length := by
  obtain ⟨p, hp, rfl, _⟩ := getWord_eq_some h
  rw [List.length_append, hp]

theorem getWord_word (big w64 : Bool) (n : Nat) (rest : Str) (h : n < wordBound w64) :
    getWord big w64 (word big w64 n ++ rest) = some (n, rest) := by
  have hb : n % 256 ^ (if w64 = true then 8 else 4) = n := by
    apply Nat.mod_eq_of_lt
    unfold wordBound at h
    cases w64 <;> simpa using h
  rw [getWord_chunk big w64 _ rest (word_length big w64 n)]
  cases big <;> simp [word, leValue_leBytes, hb]

theorem words_cons (big w64 : Bool) (n : Nat) (ns : List Nat) :
    words big w64 (n :: ns) = word big w64 n ++ words big w64 ns := by simp [words]
theorem words_nil (big w64 : Bool) : words big w64 [] = [] := rfl
theorem words_append (big w64 : Bool) (a b : List Nat) :
    words big w64 (a ++ b) = words big w64 a ++ words big w64 b := by simp [words]

theorem words_length (big w64 : Bool) (ns : List Nat) : (words big w64 ns).length = wordLen w64 * ns.length := by
  induction ns with
  | nil => simp [words]
  | cons n ns ih => rw [words_cons, List.length_append, word_length, ih, List.length_cons, Nat.mul_succ, Nat.add_comm]

theorem three_lt_wordBound (w64 : Bool) : 3 < wordBound w64 := by cases w64 <;> decide

theorem cpuHeaderWords_print (big w64 : Bool) (n3 period : Nat) (R : Str) (hn3 : n3 ≤ 1) (hp : 0 < period)
    (hpb : period < wordBound w64) :
    cpuHeaderWords big w64 (words big w64 [0, 3, n3, period, 0] ++ R) = some (n3 == 1, period, R) := by
  have h3 : 3 < wordBound w64 := three_lt_wordBound w64
  have h0 : 0 < wordBound w64 := by omega
  unfold cpuHeaderWords
  simp only [words_cons, words_nil, List.append_nil, List.append_assoc, Option.bind_eq_bind]
  rw [getWord_word big w64 0 _ h0, Option.bind_some, getWord_word big w64 3 _ h3, Option.bind_some,
    getWord_word big w64 n3 _ (by omega), Option.bind_some, getWord_word big w64 period _ hpb, Option.bind_some,
    getWord_word big w64 0 _ h0, Option.bind_some]
  rcases Nat.le_one_iff_eq_zero_or_eq_one.1 hn3 with rfl | rfl <;> simp [hp]

theorem readAddrs_words (big w64 : Bool) (as : List Nat) (R : Str) (h : ∀ a ∈ as, a < wordBound w64) :
    readAddrs big w64 as.length (words big w64 as ++ R) = (as, R) := by
  induction as with
  | nil => rfl
  | cons a as ih =>
    simp only [List.length_cons, readAddrs, words_cons, List.append_assoc]
    rw [getWord_word big w64 a _ (h a (by simp))]
    simp only [ih (fun x hx => h x (by simp [hx]))]

theorem word_ne_nil (big w64 : Bool) (n : Nat) : word big w64 n ≠ [] := by
  intro e
  have := word_length big w64 n
  rw [e] at this
  unfold wordLen at this
  cases w64 <;> simp at this

theorem two32_le_wordBound (w64 : Bool) : two32 ≤ wordBound w64 := by cases w64 <;> decide

/-- a record the loop reads back: numbers that fit the word size, and not the end marker -/
def CpuRec.ok (w64 : Bool) (r : CpuRec) : Prop :=
  r.count < wordBound w64 ∧ r.addrs.length < two32 ∧ (∀ a ∈ r.addrs, a < wordBound w64) ∧ ¬ (r.count = 0 ∧ r.addrs = [0])

/-- the clause on records shared by `CpuDoc.wf` and `JavaCpuDoc.wf` -/
theorem CpuRec.ok_of_all {w64 : Bool} {recs : List CpuRec}
    (h : recs.all (fun r => r.count < wordBound w64 && r.addrs.length < two32 && r.addrs.all (· < wordBound w64) &&
                            !(r.count == 0 && r.addrs == [0])) = true) : ∀ r ∈ recs, r.ok w64 := by
  intro r hr
  have := List.all_eq_true.1 h r hr
  simp only [Bool.and_eq_true, decide_eq_true_eq, List.all_eq_true, Bool.not_eq_true', Bool.and_eq_false_iff,
    beq_eq_false_iff_ne, ne_eq] at this
  exact ⟨this.1.1.1, this.1.1.2, this.1.2, fun hc => this.2.elim (· hc.1) (· hc.2)⟩

theorem four_le_wordLen (w64 : Bool) : 4 ≤ wordLen w64 := by cases w64 <;> decide

/-- one step of the loop on the words of a record: the end marker `0 1 0` stops it -/
theorem cpuSamplesLoop_words (big w64 : Bool) (mk : Nat → List Nat → RawSample) (f : Nat) (r : CpuRec)
    (hc : r.count < wordBound w64) (hl : r.addrs.length < two32) (ha : ∀ a ∈ r.addrs, a < wordBound w64)
    (R : Str) (acc : List RawSample) :
    cpuSamplesLoop big w64 mk (f+1) (words big w64 r.words ++ R) acc
      = if r.count == 0 && r.addrs.length == 1 && r.addrs == [0] then .ok (acc.reverse, R)
        else cpuSamplesLoop big w64 mk f R (mk r.count r.addrs :: acc) := by
  have hnonempty : (words big w64 r.words ++ R).isEmpty = false := by
    simp only [CpuRec.words, words_cons, List.append_assoc]
    cases hq : word big w64 r.count with
    | nil => exact absurd hq (word_ne_nil _ _ _)
    | cons _ _ => rfl
  rw [cpuSamplesLoop]
  simp only [hnonempty, Bool.false_eq_true, if_false]
  simp only [CpuRec.words, words_cons, List.append_assoc]
  rw [getWord_word big w64 r.count _ hc]
  simp only []
  rw [getWord_word big w64 r.addrs.length _ (Nat.lt_of_lt_of_le hl (two32_le_wordBound w64))]
  simp only []
  have hlen : ¬ (r.addrs.length > (words big w64 r.addrs ++ R).length / 4) := by
    rw [List.length_append, words_length]
    have h1 : 4 * r.addrs.length ≤ wordLen w64 * r.addrs.length := Nat.mul_le_mul_right _ (four_le_wordLen w64)
    omega
  simp only [hlen, if_false, readAddrs_words big w64 r.addrs R ha]

theorem cpuSamplesLoop_rec (big w64 : Bool) (mk : Nat → List Nat → RawSample) (f : Nat) (r : CpuRec) (h : r.ok w64)
    (R : Str) (acc : List RawSample) :
    cpuSamplesLoop big w64 mk (f+1) (words big w64 r.words ++ R) acc
      = cpuSamplesLoop big w64 mk f R (mk r.count r.addrs :: acc) := by
  obtain ⟨hc, hl, ha, hne⟩ := h
  rw [cpuSamplesLoop_words big w64 mk f r hc hl ha, if_neg]
  simp only [Bool.and_eq_true, beq_iff_eq]
  exact fun h => hne ⟨h.1.1, h.2⟩

theorem cpuSamplesLoop_recs (big w64 : Bool) (mk : Nat → List Nat → RawSample) (rs : List CpuRec) (h : ∀ r ∈ rs, r.ok w64)
    (f : Nat) (T : Str) (acc : List RawSample) :
    cpuSamplesLoop big w64 mk (f + rs.length) (words big w64 (rs.flatMap CpuRec.words) ++ T) acc
      = cpuSamplesLoop big w64 mk f T ((rs.map (fun r => mk r.count r.addrs)).reverse ++ acc) := by
  induction rs generalizing acc with
  | nil => simp [words]
  | cons r rs ih =>
    have hlen : f + (r :: rs).length = (f + rs.length) + 1 := by simp; omega
    rw [hlen, List.flatMap_cons, words_append, List.append_assoc,
      cpuSamplesLoop_rec big w64 mk _ r (h r (by simp)), ih (fun x hx => h x (by simp [hx]))]
    simp

theorem cpuSamplesLoop_eod (big w64 : Bool) (mk : Nat → List Nat → RawSample) (f : Nat) (text : Str) (acc : List RawSample) :
    cpuSamplesLoop big w64 mk (f+1) (words big w64 [0, 1, 0] ++ text) acc = .ok (acc.reverse, text) := by
  have h0 : 0 < wordBound w64 := by have := three_lt_wordBound w64; omega
  exact cpuSamplesLoop_words big w64 mk f ⟨0, [0]⟩ h0 (by decide) (fun a ha => by rw [List.mem_singleton.1 ha]; exact h0) text acc

theorem cpuSamplesLoop_end (big w64 : Bool) (mk : Nat → List Nat → RawSample) (f : Nat) (acc : List RawSample) :
    cpuSamplesLoop big w64 mk (f+1) [] acc = .ok (acc.reverse, []) := by
  simp [cpuSamplesLoop]

theorem words_recs_length (big w64 : Bool) (rs : List CpuRec) :
    rs.length ≤ (words big w64 (rs.flatMap CpuRec.words)).length := by
  rw [words_length]
  have h4 : 1 ≤ wordLen w64 := Nat.le_trans (by decide) (four_le_wordLen w64)
  have : rs.length ≤ (rs.flatMap CpuRec.words).length := by
    induction rs with
    | nil => simp
    | cons r rs ih =>
      simp only [List.flatMap_cons, List.length_append, CpuRec.words, List.length_cons]
      omega
  calc rs.length ≤ (rs.flatMap CpuRec.words).length := this
    _ = 1 * (rs.flatMap CpuRec.words).length := by omega
    _ ≤ wordLen w64 * (rs.flatMap CpuRec.words).length := Nat.mul_le_mul_right _ h4


/-- what follows the five header words: the records, the end marker if there is one, the text `T` -/
def cpuBody (big w64 : Bool) (recs : List CpuRec) (eod : Bool) (T : Str) : Str :=
  words big w64 (recs.flatMap CpuRec.words) ++ (words big w64 (if eod then [0, 1, 0] else []) ++ T)

/-- the sample loop reads the records back and hands on the text after the end marker; the fuel
is one unit per record and one for the end -/
theorem cpuSamplesLoop_body {big w64 : Bool} {mk : Nat → List Nat → RawSample} {recs : List CpuRec}
    (h : ∀ r ∈ recs, r.ok w64) {eod : Bool} {T : Str} (hE : eod = false → T = []) :
    cpuSamplesLoop big w64 mk ((cpuBody big w64 recs eod T).length + 1) (cpuBody big w64 recs eod T) []
      = .ok (recs.map (fun r => mk r.count r.addrs), T) := by
  obtain ⟨f, hf⟩ : ∃ f, (cpuBody big w64 recs eod T).length + 1 = (f + 1) + recs.length := by
    have := words_recs_length big w64 recs
    refine ⟨(cpuBody big w64 recs eod T).length - recs.length, ?_⟩
    simp only [cpuBody, List.length_append]; omega
  rw [hf, cpuBody, cpuSamplesLoop_recs big w64 mk recs h]
  cases eod with
  | false => rw [hE rfl]; simp [words_nil, cpuSamplesLoop_end]
  | true => simp [cpuSamplesLoop_eod]

theorem cpuHeaderWords_none (big w64 : Bool) (p1 p2 T : Str) (h1 : p1.length = wordLen w64) (h2 : p2.length = wordLen w64)
    (hv : ¬ (leValue (if big then p1.reverse else p1) = 0 ∧ leValue (if big then p2.reverse else p2) = 3)) :
    cpuHeaderWords big w64 (p1 ++ (p2 ++ T)) = none := by
  unfold cpuHeaderWords
  rw [getWord_chunk big w64 p1 _ h1]
  simp only [Option.bind_eq_bind, Option.bind_some]
  rw [getWord_chunk big w64 p2 _ h2]
  simp only [Option.bind_some, Option.bind_eq_none_iff]
  intro x3 _ x4 _ x5 _
  have : ¬ ((leValue (if big then p1.reverse else p1) == 0 && leValue (if big then p2.reverse else p2) == 3 &&
      (x3.1 == 0 || x3.1 == 1) && decide (x4.1 > 0) && x5.1 == 0) = true) := by
    intro hc
    simp only [Bool.and_eq_true, beq_iff_eq] at hc
    exact hv ⟨hc.1.1.1.1, hc.1.1.1.2⟩
  simp [this]

/-- a 32-bit decoder reads the 64-bit word `0` as the two words `0 0`, not `0 3` -/
theorem cpuHeaderWords_narrow (big' big : Bool) (R : Str) : cpuHeaderWords big' false (word big true 0 ++ R) = none := by
  rw [show word big true 0 = [0, 0, 0, 0] ++ [0, 0, 0, 0] by cases big <;> rfl, List.append_assoc]
  exact cpuHeaderWords_none big' false _ _ R rfl rfl (by cases big' <;> decide)

/-- the little-endian decoder reads the big-endian word `3` of its own size as `3·256ᵏ⁻¹` -/
theorem cpuHeaderWords_swapped (w64 : Bool) (T : Str) :
    cpuHeaderWords false w64 (word true w64 0 ++ (word true w64 3 ++ T)) = none := by
  cases w64
  · exact cpuHeaderWords_none false false [0, 0, 0, 0] [0, 0, 0, 3] T rfl rfl (by decide)
  · exact cpuHeaderWords_none false true [0, 0, 0, 0, 0, 0, 0, 0] [0, 0, 0, 0, 0, 0, 0, 3] T rfl rfl (by decide)

/-- the header `0 3 n₃ period 0` written in one word layout is rejected by the decoders tried
before that layout's own (order 32l, 32b, 64l, 64b), which then reads the flavour `n₃` and the period -/
theorem parseCPUWith_words (java : Bool → Bool → Nat → Str → Outcome Profile) (big w64 : Bool) (n3 period : Nat) (B : Str)
    (hn3 : n3 ≤ 1) (hp : 0 < period) (hpb : period < wordBound w64) :
    parseCPUWith java (words big w64 [0, 3, n3, period, 0] ++ B) =
      if n3 = 1 then java big w64 period B else cpuProfile big w64 period B := by
  have hright := cpuHeaderWords_print big w64 n3 period B hn3 hp hpb
  have e : words big w64 [0, 3, n3, period, 0] ++ B =
      word big w64 0 ++ (word big w64 3 ++ (words big w64 [n3, period, 0] ++ B)) := by
    simp only [words_cons, words_nil, List.append_nil, List.append_assoc]
  have hres : ∀ next, (match (some (n3 == 1, period, B) : Option (Bool × Nat × Str)) with
      | some (false, period, rest) => cpuProfile big w64 period rest
      | some (true, period, rest) => java big w64 period rest
      | none => next) = if n3 = 1 then java big w64 period B else cpuProfile big w64 period B := by
    intro next
    rcases Nat.le_one_iff_eq_zero_or_eq_one.1 hn3 with rfl | rfl <;> rfl
  unfold parseCPUWith
  rw [e] at hright ⊢
  cases big <;> cases w64
  · simp only [hright]; exact hres _
  · simp only [cpuHeaderWords_narrow, hright]; exact hres _
  · simp only [cpuHeaderWords_swapped, hright]; exact hres _
  · simp only [cpuHeaderWords_narrow, cpuHeaderWords_swapped, hright]; exact hres _

theorem printCpu_first_words (d : CpuDoc) : ∃ R, printCpu d = word d.big d.w64 0 ++ (word d.big d.w64 3 ++ R) :=
  ⟨_, by rw [printCpu, words_append, words_append, words_cons, words_cons]; simp only [List.append_assoc]; rfl⟩

theorem CpuDoc.wf_parts (d : CpuDoc) (h : d.wf = true) :
    0 < d.period ∧ d.period < Legacy.wordBound d.w64 ∧ (∀ r ∈ d.recs, r.ok d.w64) ∧
      ∀ m, d.map = some m → d.eod = true ∧ m.wf = true := by
  simp only [CpuDoc.wf, Bool.and_eq_true, decide_eq_true_eq] at h
  refine ⟨h.1.1.1, h.1.1.2, CpuRec.ok_of_all h.1.2, fun m hm => ?_⟩
  have := h.2; rw [hm] at this; simpa using this

theorem parseCPUWith_cpuBody (java : Bool → Bool → Nat → Str → Outcome Profile) (d : CpuDoc) (h : d.wf = true) (T : Str)
    (hE : d.eod = false → T = []) (hT : parseProcMaps (splitLines T) = (if d.eod then tailMappings d.map else [])) :
    parseCPUWith java (words d.big d.w64 [0, 3, 0, d.period, 0] ++ cpuBody d.big d.w64 d.recs d.eod T) = .ok (expectedCpu d) := by
  obtain ⟨hp, hpb, hrecs, _⟩ := d.wf_parts h
  rw [parseCPUWith_words java d.big d.w64 0 d.period _ (by decide) hp hpb, if_neg (by decide), cpuProfile,
    cpuSamplesLoop_body hrecs hE]
  simp only [hT, expectedCpu]

theorem find?_unique {p : Nat → Bool} {l : List Nat} {a : Nat} (ha : a ∈ l) (hp : p a = true)
    (hu : ∀ b ∈ l, p b = true → b = a) : l.find? p = some a := by
  induction l with
  | nil => cases ha
  | cons c l ih =>
    simp only [List.find?_cons]
    cases hc : p c with
    | true => rw [hu c (by simp) hc]
    | false =>
      rcases List.mem_cons.1 ha with h | h
      · subst h; rw [hp] at hc; cases hc
      · exact ih h (fun b hb => hu b (by simp [hb]))

/-- how often `a` is the second frame -/
def secondCount (ss : List RawSample) (a : Nat) : Nat := (ss.filterMap secondAddr).count a

theorem secondCount_le (ss : List RawSample) {a b : Nat} (h : a ≠ b) : secondCount ss a + secondCount ss b ≤ ss.length := by
  have h1 := ListFacts.count_add_count_le h (ss.filterMap secondAddr)
  have h2 : (ss.filterMap secondAddr).length ≤ ss.length := List.length_filterMap_le _ _
  unfold secondCount; omega

theorem signal_frame_unique (ss : List RawSample) (hn : ss ≠ []) {a b : Nat}
    (ha : secondCount ss a ≥ ss.length - ss.length / 32) (hb : secondCount ss b ≥ ss.length - ss.length / 32) : a = b := by
  apply Decidable.byContradiction
  intro hab
  have := secondCount_le ss hab
  have hpos : 0 < ss.length := List.length_pos_iff.2 hn
  omega

theorem stripSignalFrame_of_shared (ss : List RawSample) (hn : ss ≠ []) (a : Nat)
    (ha : secondCount ss a ≥ ss.length - ss.length / 32) : stripSignalFrame ss = ss.map (dropSecondIf a) := by
  have hpos : 0 < ss.length := List.length_pos_iff.2 hn
  have hmem : a ∈ ss.filterMap secondAddr := by
    have : 0 < (ss.filterMap secondAddr).count a := by unfold secondCount at ha; omega
    exact List.count_pos_iff.1 this
  have hf : signalFrame ss = some a := by
    unfold signalFrame
    apply find?_unique ((mem_dedup _ _).2 hmem)
    · simpa [secondCount] using ha
    · intro b _ hb
      exact signal_frame_unique ss hn (by simpa [secondCount] using hb) ha
  simp [stripSignalFrame, hf]

theorem stripSignalFrame_of_none (ss : List RawSample)
    (h : ∀ a, secondCount ss a < ss.length - ss.length / 32) : stripSignalFrame ss = ss := by
  have hf : signalFrame ss = none := by
    unfold signalFrame
    rw [List.find?_eq_none]
    intro b _
    have := h b
    simp only [secondCount] at this
    simp; omega
  simp [stripSignalFrame, hf]

end PV.Legacy
