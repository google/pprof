import PprofVerif.Model.IdTables
/-!
Helpers for property C02: the dense/sparse id tables of `postDecode` never index out of range
and resolve a reference iff its id occurs in the table (what `Model/Codec.lean` writes as
`List.contains`), to an entity carrying the id.  A lookup in the tables `buildGo` returns is the
scan `specGo` for the last occurrence of the id.
-/
namespace PV
namespace IdTables

/-- what a lookup returns, without the checked access -/
def lookupPure (t : Tables) (id : Nat) : Option Nat :=
  if id < t.dense.length then (t.dense[id]?).getD none else t.sparse.lookup id

theorem lookup_eq (t : Tables) (id : Nat) : lookup t id = .ok (lookupPure t id) := by
  unfold lookup lookupPure getAt
  split
  · rename_i h
    rw [List.getElem?_eq_getElem h]
    simp
  · rfl

theorem insert_ok (t : Tables) (id idx : Nat) :
    ∃ t', insert t id idx = .ok t' ∧
      ∀ id', lookupPure t' id' = if id' = id then some idx else lookupPure t id' := by
  unfold insert
  split
  · rename_i h
    refine ⟨{ t with dense := t.dense.set id (some idx) }, by simp [setAt, h, pure], ?_⟩
    intro id'
    simp only [lookupPure, List.length_set]
    by_cases hid : id' = id
    · subst hid
      simp [h]
    · simp only [hid, if_false]
      split
      · rw [List.getElem?_set_ne (fun hc => hid hc.symm)]
      · rfl
  · rename_i h
    refine ⟨{ t with sparse := (id, idx) :: t.sparse }, by simp [pure], ?_⟩
    intro id'
    simp only [lookupPure]
    by_cases hid : id' = id
    · subst hid
      simp [h]
    · simp only [hid, if_false]
      split
      · rfl
      · have : (id' == id) = false := by simpa using hid
        simp [List.lookup_cons, this]

/-- index of the last occurrence of `id`, scanning with running index `i` -/
def specGo (acc : Option Nat) (id : Nat) : Nat → List Nat → Option Nat
  | _, [] => acc
  | i, x :: rest => specGo (if x = id then some i else acc) id (i + 1) rest

theorem buildGo_ok : ∀ (l : List Nat) (t : Tables) (i : Nat),
    ∃ t', buildGo t i l = .ok t' ∧ ∀ id, lookupPure t' id = specGo (lookupPure t id) id i l
  | [], t, i => ⟨t, rfl, fun _ => rfl⟩
  | x :: rest, t, i => by
    obtain ⟨t1, h1, hl1⟩ := insert_ok t x i
    obtain ⟨t2, h2, hl2⟩ := buildGo_ok rest t1 (i + 1)
    refine ⟨t2, by rw [buildGo, h1]; simpa using h2, ?_⟩
    intro id
    rw [hl2 id, hl1 id, specGo]
    by_cases h : x = id
    · subst h; simp
    · have : ¬ id = x := fun hc => h hc.symm
      simp [h, this]

theorem specGo_isSome (id : Nat) : ∀ (l : List Nat) (acc : Option Nat) (i : Nat),
    (specGo acc id i l).isSome = true ↔ (acc.isSome = true ∨ id ∈ l)
  | [], acc, i => by simp [specGo]
  | x :: rest, acc, i => by
    rw [specGo, specGo_isSome id rest]
    by_cases h : x = id
    · subst h; simp
    · have : ¬ id = x := fun hc => h hc.symm
      simp [h, this]

theorem specGo_get (id : Nat) : ∀ (l : List Nat) (acc : Option Nat) (i j : Nat),
    specGo acc id i l = some j → acc = some j ∨ (i ≤ j ∧ l[j - i]? = some id)
  | [], acc, i, j, h => by simp [specGo] at h; exact Or.inl h
  | x :: rest, acc, i, j, h => by
    rw [specGo] at h
    rcases specGo_get id rest _ (i + 1) j h with h1 | ⟨h1, h2⟩
    · by_cases hx : x = id
      · simp [hx] at h1; subst h1; right; simp [hx]
      · simp [hx] at h1; exact Or.inl h1
    · right
      refine ⟨by omega, ?_⟩
      have : j - i = (j - (i + 1)) + 1 := by omega
      rw [this, List.getElem?_cons_succ]; exact h2

theorem lookupPure_init (n id : Nat) : lookupPure { dense := List.replicate n none, sparse := [] } id = none := by
  unfold lookupPure
  split
  · rename_i h
    simp at h
    simp [h]
  · rfl

theorem build_lookup (ids : List Nat) :
    ∃ t, build ids = .ok t ∧ ∀ id, ∃ r, lookup t id = .ok r ∧
      (r.isSome = true ↔ id ∈ ids) ∧ (∀ j, r = some j → ids[j]? = some id) := by
  unfold build
  obtain ⟨t, ht, hl⟩ := buildGo_ok ids { dense := List.replicate (ids.length + 1) none, sparse := [] } 0
  refine ⟨t, ht, fun id => ⟨lookupPure t id, lookup_eq t id, ?_, ?_⟩⟩
  · rw [hl id, lookupPure_init, specGo_isSome]; simp
  · intro j hj
    rw [hl id, lookupPure_init] at hj
    rcases specGo_get id ids none 0 j hj with h | ⟨_, h⟩
    · simp at h
    · simpa using h

end IdTables
end PV
