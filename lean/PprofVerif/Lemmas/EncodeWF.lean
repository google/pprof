import PprofVerif.Lemmas.ComposeMsgRange
import PprofVerif.Lemmas.MessagesNested
import PprofVerif.Lemmas.PostPre
/-!
From an encoding to the wire and back (property C01).  The output of `preEncode` on a profile whose
integers fit their Go types (`InRange`) satisfies the hypotheses of the wire round trip `unmarshal_encode`
(`WF_of_EncRel`, `Sized_of_EncRel`) given the residual size conditions `EncSizes`, which follow from plain
element counts below 2^56 (`EncSizes_of_counts`: a varint of a uint64 has at most 10 bytes, so the
fixed-shape bodies are bounded by constants).  `parseUncompressed_encode`: parsing the bytes of a
well-formed wire message is `postDecode` of it.
-/
namespace PV
namespace Codec
open Wire

theorem length_append_le {α} {a b : List α} {m n : Nat} (ha : a.length ≤ m) (hb : b.length ≤ n) :
    (a ++ b).length ≤ m + n := by
  rw [List.length_append]; exact Nat.add_le_add ha hb

theorem encodeVarint_length_le_pow (n x : Nat) (h : x < 128 ^ (n + 1)) : (encodeVarint x).length ≤ n + 1 := by
  induction n generalizing x with
  | zero => rw [encodeVarint, dif_neg (Nat.not_le.mpr (show x < 128 from h))]; exact Nat.le_refl 1
  | succ n ih =>
    rw [encodeVarint]
    split
    · exact Nat.succ_le_succ (ih (x / 128) ((Nat.div_lt_iff_lt_mul (by decide)).mpr (Nat.pow_succ .. ▸ h)))
    · exact Nat.le_add_left 1 _

theorem encodeVarint_length_le (x : Nat) (h : x < two64) : (encodeVarint x).length ≤ 10 :=
  encodeVarint_length_le_pow 9 x (Nat.lt_of_lt_of_le h (by decide))

theorem encodeVarint_key_length {tag k : Nat} (ht : tag < 16) (hk : k < 8) : (encodeVarint (tag * 8 + k)).length ≤ 1 :=
  encodeVarint_length_le_pow 0 _ (by omega)

theorem encodeUint64_length_le (tag x : Nat) (ht : tag < 16) (hx : x < two64) : (encodeUint64 tag x).length ≤ 11 :=
  length_append_le (encodeVarint_key_length (k := 0) ht (by decide)) (encodeVarint_length_le x hx)

theorem encodeUint64Opt_length_le (tag x : Nat) (ht : tag < 16) (hx : x < two64) : (encodeUint64Opt tag x).length ≤ 11 := by
  unfold encodeUint64Opt
  split
  · exact Nat.zero_le _
  · exact encodeUint64_length_le tag x ht hx

theorem encodeInt64Opt_length_le (tag : Nat) (i : Int) (ht : tag < 16) : (encodeInt64Opt tag i).length ≤ 11 := by
  unfold encodeInt64Opt
  split
  · exact Nat.zero_le _
  · exact encodeUint64_length_le tag _ ht (toU64_lt i)

theorem encodeBoolOpt_length_le (tag : Nat) (b : Bool) (ht : tag < 16) : (encodeBoolOpt tag b).length ≤ 11 := by
  cases b
  · exact Nat.zero_le _
  · exact encodeUint64_length_le tag 1 ht (by decide)

theorem lt_two64_of_le {n c : Nat} (h : n ≤ c) (hc : c < two64 := by decide) : n < two64 := Nat.lt_of_le_of_lt h hc

theorem LabelX.encode_length_le (l : LabelX) : l.encode.length ≤ 44 :=
  length_append_le (length_append_le (length_append_le (encodeInt64Opt_length_le 1 _ (by decide))
    (encodeInt64Opt_length_le 2 _ (by decide))) (encodeInt64Opt_length_le 3 _ (by decide)))
    (encodeInt64Opt_length_le 4 _ (by decide))

theorem LabelX.encode_length_lt (l : LabelX) : l.encode.length < two64 :=
  lt_two64_of_le l.encode_length_le

theorem LineX.encode_length_le (l : LineX) (h : l.functionIDX < two64) : l.encode.length ≤ 33 :=
  length_append_le (length_append_le (encodeUint64Opt_length_le 1 _ (by decide) h)
    (encodeInt64Opt_length_le 2 _ (by decide))) (encodeInt64Opt_length_le 3 _ (by decide))

theorem LineX.encode_length_lt (l : LineX) (h : l.functionIDX < two64) : l.encode.length < two64 :=
  lt_two64_of_le (l.encode_length_le h)

theorem ValueTypeX.encode_length_lt (v : ValueTypeX) : v.encode.length < two64 :=
  lt_two64_of_le (length_append_le (encodeInt64Opt_length_le 1 _ (by decide))
    (encodeInt64Opt_length_le 2 _ (by decide)))

theorem FunctionX.encode_length_lt (f : FunctionX) (h : f.id < two64) : f.encode.length < two64 :=
  lt_two64_of_le (length_append_le (length_append_le (length_append_le (length_append_le
    (encodeUint64Opt_length_le 1 _ (by decide) h) (encodeInt64Opt_length_le 2 _ (by decide)))
    (encodeInt64Opt_length_le 3 _ (by decide))) (encodeInt64Opt_length_le 4 _ (by decide)))
    (encodeInt64Opt_length_le 5 _ (by decide)))

theorem MappingX.encode_length_lt (m : MappingX) (h1 : m.id < two64) (h2 : m.start < two64)
    (h3 : m.limit < two64) (h4 : m.offset < two64) : m.encode.length < two64 :=
  lt_two64_of_le (length_append_le (length_append_le (length_append_le (length_append_le (length_append_le
    (length_append_le (length_append_le (length_append_le (length_append_le
    (encodeUint64Opt_length_le 1 _ (by decide) h1) (encodeUint64Opt_length_le 2 _ (by decide) h2))
    (encodeUint64Opt_length_le 3 _ (by decide) h3)) (encodeUint64Opt_length_le 4 _ (by decide) h4))
    (encodeInt64Opt_length_le 5 _ (by decide))) (encodeInt64Opt_length_le 6 _ (by decide)))
    (encodeBoolOpt_length_le 7 _ (by decide))) (encodeBoolOpt_length_le 8 _ (by decide)))
    (encodeBoolOpt_length_le 9 _ (by decide))) (encodeBoolOpt_length_le 10 _ (by decide)))

/-- every integer of the profile fits its Go type (`uint64` ids/addresses, `int64` values) -/
structure InRange (p : Profile) : Prop where
  timeNanos : InI64 p.timeNanos
  durationNanos : InI64 p.durationNanos
  period : InI64 p.period
  samples : ∀ s ∈ p.samples, (∀ id ∈ s.locationIDs, id < two64) ∧ (∀ v ∈ s.values, InI64 v) ∧
    (∀ e ∈ s.numLabel, ∀ v ∈ e.2, InI64 v)
  mappings : ∀ m ∈ p.mappings, m.id < two64 ∧ m.start < two64 ∧ m.limit < two64 ∧ m.offset < two64
  locations : ∀ l ∈ p.locations, l.id < two64 ∧ l.mappingID < two64 ∧ l.address < two64 ∧
    ∀ ln ∈ l.lines, ln.functionID < two64 ∧ InI64 ln.line ∧ InI64 ln.column
  functions : ∀ f ∈ p.functions, f.id < two64 ∧ InI64 f.startLine

/-- the size side conditions that are not implied by the shape of the message: the string
table has fewer than 2^63 entries (indices are `int64`), and every variable-length body is
shorter than 2^64 bytes. -/
structure EncSizes (x : ProfileX) : Prop where
  tab : x.stringTable.length < two63
  strs : ∀ s ∈ x.stringTable, s.length < two64
  samples : ∀ s ∈ x.sample, s.encode.length < two64 ∧ (s.locationIDX.flatMap encodeVarint).length < two64 ∧
    ((s.value.map toU64).flatMap encodeVarint).length < two64
  locations : ∀ l ∈ x.location, l.encode.length < two64
  comments : ((x.commentX.map toU64).flatMap encodeVarint).length < two64

theorem InI64_of_Res {t : StrTab} {i : Int} {s : Str} (h : Res t i s) (ht : t.length < two63) : InI64 i := by
  have h1 := h.1
  have h2 := h.lt_length
  unfold InI64
  unfold two63 at ht ⊢
  omega

theorem LabelX.WF_of_Denotes {t : StrTab} (ht : t.length < two63) {l : LabelX} {sl : SemLabel}
    (h : Denotes t l sl) (hv : ∀ k v u, sl = SemLabel.num k v u → InI64 v) : l.WF := by
  cases sl with
  | str k v =>
    obtain ⟨a, b, c, d⟩ := h
    exact ⟨InI64_of_Res a ht, InI64_of_Res b ht, c ▸ InI64_0, d ▸ InI64_0⟩
  | num k v u =>
    obtain ⟨a, b, c, d⟩ := h
    exact ⟨InI64_of_Res a ht, b ▸ InI64_0, c ▸ hv k v u rfl, InI64_of_Res d ht⟩

theorem semLabels_num_mem {s : Sample} {k : Str} {v : Int} {u : Str} (h : SemLabel.num k v u ∈ semLabels s) :
    ∃ e ∈ s.numLabel, v ∈ e.2 := by
  rw [semLabels_eq, List.mem_append] at h
  rcases h with h | h
  · obtain ⟨e, _, he⟩ := List.mem_flatMap.mp h
    obtain ⟨_, _, hh⟩ := List.mem_map.mp he
    cases hh
  · obtain ⟨e, hin, he⟩ := List.mem_flatMap.mp h
    obtain ⟨pr, hpr, hh⟩ := List.mem_map.mp he
    cases hh
    exact ⟨e, hin, (List.of_mem_zip hpr).1⟩

theorem SampleX.WF_of_SampRel {t : StrTab} (ht : t.length < two63) {s : Sample} {x : SampleX}
    (h : SampRel t s x)
    (hr : (∀ id ∈ s.locationIDs, id < two64) ∧ (∀ v ∈ s.values, InI64 v) ∧ (∀ e ∈ s.numLabel, ∀ v ∈ e.2, InI64 v))
    (h1 : (x.locationIDX.flatMap encodeVarint).length < two64)
    (h2 : ((x.value.map toU64).flatMap encodeVarint).length < two64) : x.WF := by
  obtain ⟨e1, e2, hd⟩ := h
  refine ⟨e1 ▸ hr.1, e2 ▸ hr.2.1, ?_, h1, h2, fun l _ => l.encode_length_lt⟩
  intro l hl
  obtain ⟨sl, hsl, hden⟩ := All2.forall_right hd l hl
  apply LabelX.WF_of_Denotes ht hden
  intro k v u hk
  subst hk
  obtain ⟨e, he, hv⟩ := semLabels_num_mem hsl
  exact hr.2.2 e he v hv

theorem WF_of_EncRel {p : Profile} {x : ProfileX} (h : EncRel p x) (hr : InRange p) (hz : EncSizes x) : x.WF := by
  have ht := hz.tab
  refine ⟨?_, ?_, ?_, ?_, ?_, ?_, InI64_of_Res h.dropFrames ht, InI64_of_Res h.keepFrames ht,
    h.timeNanos ▸ hr.timeNanos, h.durationNanos ▸ hr.durationNanos, ?_, h.period ▸ hr.period, ?_,
    InI64_of_Res h.defaultSampleType ht, InI64_of_Res h.docURL ht⟩
  · intro vx hvx
    obtain ⟨v, _, hv⟩ := All2.forall_right h.sampleType vx hvx
    exact ⟨InI64_of_Res hv.1 ht, InI64_of_Res hv.2 ht⟩
  · intro sx hsx
    obtain ⟨s, hs, hrel⟩ := All2.forall_right h.sample sx hsx
    exact SampleX.WF_of_SampRel ht hrel (hr.samples s hs) (hz.samples sx hsx).2.1 (hz.samples sx hsx).2.2
  · intro mx hmx
    obtain ⟨m, hm, a, b, c, d, _, _, _, _, r1, r2⟩ := All2.forall_right h.mapping mx hmx
    obtain ⟨q1, q2, q3, q4⟩ := hr.mappings m hm
    exact ⟨a ▸ q1, b ▸ q2, c ▸ q3, d ▸ q4, InI64_of_Res r1 ht, InI64_of_Res r2 ht⟩
  · intro lx hlx
    rw [h.location] at hlx
    obtain ⟨l, hl, rfl⟩ := List.mem_map.mp hlx
    obtain ⟨q1, q2, q3, q4⟩ := hr.locations l hl
    refine ⟨q1, q2, q3, ?_, ?_⟩
    · intro lnx hlnx
      obtain ⟨ln, hln, rfl⟩ := List.mem_map.mp hlnx
      exact q4 ln hln
    · intro lnx hlnx
      obtain ⟨ln, hln, rfl⟩ := List.mem_map.mp hlnx
      exact LineX.encode_length_lt _ (q4 ln hln).1
  · intro fx hfx
    obtain ⟨f, hf, a, b, r1, r2, r3⟩ := All2.forall_right h.function fx hfx
    obtain ⟨q1, q2⟩ := hr.functions f hf
    exact ⟨a ▸ q1, InI64_of_Res r1 ht, InI64_of_Res r2 ht, InI64_of_Res r3 ht, b ▸ q2⟩
  · right
    rw [List.head?_eq_getElem?]
    exact h.inv.head
  · intro pt hpt
    have := h.periodType
    rw [hpt] at this
    cases hp : p.periodType with
    | none => rw [hp] at this; exact this.elim
    | some v => rw [hp] at this; exact ⟨InI64_of_Res this.1 ht, InI64_of_Res this.2 ht⟩
  · intro c hc
    obtain ⟨s, _, hres⟩ := All2.forall_right h.comments c hc
    exact InI64_of_Res hres ht

theorem Sized_of_EncRel {p : Profile} {x : ProfileX} (h : EncRel p x) (hr : InRange p) (hz : EncSizes x) : x.Sized := by
  refine ⟨fun v _ => v.encode_length_lt, fun s hs => (hz.samples s hs).1, ?_, hz.locations, ?_, hz.strs,
    fun pt _ => pt.encode_length_lt, hz.comments⟩
  · intro mx hmx
    obtain ⟨m, hm, a, b, c, d, _⟩ := All2.forall_right h.mapping mx hmx
    obtain ⟨q1, q2, q3, q4⟩ := hr.mappings m hm
    exact mx.encode_length_lt (a ▸ q1) (b ▸ q2) (c ▸ q3) (d ▸ q4)
  · intro fx hfx
    obtain ⟨f, hf, a, _⟩ := All2.forall_right h.function fx hfx
    exact fx.encode_length_lt (a ▸ (hr.functions f hf).1)

theorem getD_normPT (o : Option ValueTypeX) : (normPT o).getD {} = o.getD {} := by
  cases o with
  | none => rfl
  | some pt =>
    simp only [normPT]
    split
    · rfl
    · rename_i hn
      obtain ⟨a, b⟩ := pt
      simp only [ne_eq, not_or, Decidable.not_not] at hn
      obtain ⟨rfl, rfl⟩ := hn
      rfl

/-- the only thing the wire changes (an all-zero `PeriodType` is elided) is invisible to `postDecode` -/
theorem postDecode_normPT (x : ProfileX) :
    postDecode { x with periodType := normPT x.periodType } = postDecode x := by
  unfold postDecode
  simp only [getD_normPT]

/-- field 14 (`default_sample_type`) is written unconditionally -/
theorem ProfileX.encode_ne_nil (x : ProfileX) : x.encode ≠ [] := by
  intro h
  unfold ProfileX.encode at h
  simp only [List.append_eq_nil_iff] at h
  exact encodeUint64_ne_nil _ _ h.1.2

theorem parseUncompressed_encode (x : ProfileX) (hwf : x.WF) (hsz : x.Sized) :
    parseUncompressed x.encode = postDecode x := by
  rw [parseUncompressed, if_neg (mt List.eq_nil_of_length_eq_zero x.encode_ne_nil), unmarshal_encode x hwf hsz,
    Outcome.bind_ok, postDecode_normPT]

theorem length_flatMap_le {α β} (f : α → List β) (c : Nat) (xs : List α) (h : ∀ x ∈ xs, (f x).length ≤ c) :
    (xs.flatMap f).length ≤ c * xs.length := by
  induction xs with
  | nil => exact Nat.zero_le _
  | cons x xs ih =>
    rw [List.flatMap_cons, List.length_cons, Nat.mul_succ, Nat.add_comm]
    exact length_append_le (h x List.mem_cons_self) (ih fun y hy => h y (List.mem_cons_of_mem x hy))

theorem encodeMessage_length_le (tag : Nat) (body : Bytes) (ht : tag < 16) (hl : body.length < two64) :
    (encodeMessage tag body).length ≤ 11 + body.length :=
  length_append_le (length_append_le (encodeVarint_key_length (k := 2) ht (by decide))
    (encodeVarint_length_le _ hl)) (Nat.le_refl _)

theorem packed_length_le (xs : List Nat) (h : ∀ x ∈ xs, x < two64) : (xs.flatMap encodeVarint).length ≤ 10 * xs.length :=
  length_flatMap_le _ 10 xs (fun x hx => encodeVarint_length_le x (h x hx))

theorem encodeUint64s_length_le (tag : Nat) (xs : List Nat) (ht : tag < 16) (h : ∀ x ∈ xs, x < two64)
    (hn : 10 * xs.length < two64) : (encodeUint64s tag xs).length ≤ 11 + 11 * xs.length := by
  unfold encodeUint64s
  have hp := packed_length_le xs h
  split
  · exact Nat.le_trans (encodeMessage_length_le tag _ ht (Nat.lt_of_le_of_lt hp hn))
      (Nat.add_le_add_left (Nat.le_trans hp (Nat.mul_le_mul_right _ (by decide))) 11)
  · exact Nat.le_trans (length_flatMap_le (encodeUint64 tag) 11 xs fun x hx => encodeUint64_length_le tag x ht (h x hx))
      (Nat.le_add_left _ _)

theorem SampleX.encode_length_le (s : SampleX) (h1 : ∀ x ∈ s.locationIDX, x < two64)
    (hn1 : 10 * s.locationIDX.length < two64) (hn2 : 10 * s.value.length < two64) :
    s.encode.length ≤ 55 + 55 * (s.locationIDX.length + s.value.length + s.labelX.length) :=
  Nat.le_trans
    (length_append_le (length_append_le (encodeUint64s_length_le 1 _ (by decide) h1 hn1)
      (List.length_map (as := s.value) toU64 ▸
        encodeUint64s_length_le 2 _ (by decide) toU64_lt_of_mem (by rwa [List.length_map])))
      (length_flatMap_le _ 55 _ fun l _ => Nat.le_trans
        (encodeMessage_length_le 3 _ (by decide) l.encode_length_lt) (Nat.add_le_add_left l.encode_length_le 11)))
    (by omega)

theorem LocationX.encode_length_le (l : LocationX) (h1 : l.id < two64) (h2 : l.mappingIDX < two64)
    (h3 : l.address < two64) (h4 : ∀ ln ∈ l.line, ln.functionIDX < two64) :
    l.encode.length ≤ 55 + 55 * l.line.length :=
  Nat.le_trans
    (length_append_le (length_append_le (length_append_le (length_append_le
      (encodeUint64Opt_length_le 1 _ (by decide) h1) (encodeUint64Opt_length_le 2 _ (by decide) h2))
      (encodeUint64Opt_length_le 3 _ (by decide) h3))
      (length_flatMap_le _ 44 _ fun ln hln => Nat.le_trans
        (encodeMessage_length_le 4 _ (by decide) (ln.encode_length_lt (h4 ln hln)))
        (Nat.add_le_add_left (ln.encode_length_le (h4 ln hln)) 11)))
      (encodeBoolOpt_length_le 5 _ (by decide)))
    (by omega)

/-- a byte count that is linear in an element count below 2^56 fits 64 bits -/
theorem lt_two64_of_count {len n : Nat} (hn : n < 2 ^ 56) (h : len ≤ 55 + 55 * n) : len < two64 := by
  unfold two64; omega

theorem lt_two64_of_packed {len m n : Nat} (hn : n < 2 ^ 56) (hm : m ≤ n) (h : len ≤ 10 * m) : len < two64 :=
  lt_two64_of_count hn (Nat.le_trans h (by omega))

theorem EncSizes_of_counts {x : ProfileX} (htab : x.stringTable.length < two63)
    (hstr : ∀ s ∈ x.stringTable, s.length < two64)
    (hs : ∀ s ∈ x.sample, (∀ i ∈ s.locationIDX, i < two64) ∧
      s.locationIDX.length + s.value.length + s.labelX.length < 2 ^ 56)
    (hl : ∀ l ∈ x.location, l.id < two64 ∧ l.mappingIDX < two64 ∧ l.address < two64 ∧
      (∀ ln ∈ l.line, ln.functionIDX < two64) ∧ l.line.length < 2 ^ 56)
    (hc : x.commentX.length < 2 ^ 56) : EncSizes x := by
  have packed : ∀ (vs : List Int) {n}, n < 2 ^ 56 → vs.length ≤ n → ((vs.map toU64).flatMap encodeVarint).length < two64 :=
    fun vs n hn hv => lt_two64_of_packed hn hv
      (List.length_map (as := vs) toU64 ▸ packed_length_le (vs.map toU64) toU64_lt_of_mem)
  refine ⟨htab, hstr, ?_, ?_, packed _ hc (Nat.le_refl _)⟩
  · intro s hs'
    obtain ⟨h1, hn⟩ := hs s hs'
    have ha : s.locationIDX.length ≤ _ := Nat.le_trans (Nat.le_add_right _ s.value.length) (Nat.le_add_right _ s.labelX.length)
    have hb : s.value.length ≤ _ := Nat.le_trans (Nat.le_add_left _ s.locationIDX.length) (Nat.le_add_right _ s.labelX.length)
    have p1 := packed_length_le s.locationIDX h1
    exact ⟨lt_two64_of_count hn (SampleX.encode_length_le s h1 (lt_two64_of_packed hn ha (Nat.le_refl _))
        (lt_two64_of_packed hn hb (Nat.le_refl _))),
      lt_two64_of_packed hn ha p1, packed _ hn hb⟩
  · intro l hl'
    obtain ⟨h1, h2, h3, h4, hn⟩ := hl l hl'
    exact lt_two64_of_count hn (LocationX.encode_length_le l h1 h2 h3 h4)

end Codec
end PV
