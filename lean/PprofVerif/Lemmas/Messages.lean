import PprofVerif.Lemmas.FieldLists
import PprofVerif.Model.Codec
/-!
Wire round trips of the flat messages (`decodeAll X.apply {} (X.encode x) = ok x`): the encoder
output decodes to the field list `X.fields` (`X.decodes`), and running that list through the
decoder table rebuilds the record slot by slot (`X.applyAll_fields`).
-/
namespace PV.Codec
open PV.Wire

theorem smallTag (n : Nat) (h : n < 1000 := by decide) : SmallTag n := h

def ValueTypeX.WF (p : ValueTypeX) : Prop := InI64 p.typeX ∧ InI64 p.unitX

def ValueTypeX.fields (p : ValueTypeX) : List Field :=
  fInt64Opt 1 p.typeX ++ fInt64Opt 2 p.unitX

theorem ValueTypeX.decodes (p : ValueTypeX) (h : p.WF) : Decodes p.encode (ValueTypeX.fields p) :=
  Decodes.append (Decodes.int64Opt (smallTag 1)) (Decodes.int64Opt (smallTag 2))

theorem ValueTypeX.applyAll_fields (p : ValueTypeX) (h : p.WF) : applyAll ValueTypeX.apply {} (ValueTypeX.fields p) = .ok p :=
  applyAll_append_ok _
    (applyAll_int64Opt ValueTypeX.apply (fun m x => { m with typeX := x }) (fun _ => rfl) h.1 rfl)
    (applyAll_int64Opt ValueTypeX.apply (fun m x => { m with unitX := x }) (fun _ => rfl) h.2 rfl)

theorem ValueTypeX.roundtrip (p : ValueTypeX) (h : p.WF) : decodeAll ValueTypeX.apply {} p.encode = .ok p :=
  ((ValueTypeX.decodes p h).decodeAll_eq _ _).trans (ValueTypeX.applyAll_fields p h)

def LabelX.WF (p : LabelX) : Prop := InI64 p.keyX ∧ InI64 p.strX ∧ InI64 p.numX ∧ InI64 p.unitX

def LabelX.fields (p : LabelX) : List Field :=
  fInt64Opt 1 p.keyX ++ fInt64Opt 2 p.strX ++ fInt64Opt 3 p.numX ++ fInt64Opt 4 p.unitX

theorem LabelX.decodes (p : LabelX) (h : p.WF) : Decodes p.encode (LabelX.fields p) :=
  Decodes.append (Decodes.append (Decodes.append (Decodes.int64Opt (smallTag 1)) (Decodes.int64Opt (smallTag 2)))
    (Decodes.int64Opt (smallTag 3))) (Decodes.int64Opt (smallTag 4))

theorem LabelX.applyAll_fields (p : LabelX) (h : p.WF) : applyAll LabelX.apply {} (LabelX.fields p) = .ok p :=
  applyAll_append_ok _ (applyAll_append_ok _ (applyAll_append_ok _
    (applyAll_int64Opt LabelX.apply (fun m x => { m with keyX := x }) (fun _ => rfl) h.1 rfl)
    (applyAll_int64Opt LabelX.apply (fun m x => { m with strX := x }) (fun _ => rfl) h.2.1 rfl))
    (applyAll_int64Opt LabelX.apply (fun m x => { m with numX := x }) (fun _ => rfl) h.2.2.1 rfl))
    (applyAll_int64Opt LabelX.apply (fun m x => { m with unitX := x }) (fun _ => rfl) h.2.2.2 rfl)

theorem LabelX.roundtrip (p : LabelX) (h : p.WF) : decodeAll LabelX.apply {} p.encode = .ok p :=
  ((LabelX.decodes p h).decodeAll_eq _ _).trans (LabelX.applyAll_fields p h)

def LineX.WF (p : LineX) : Prop := p.functionIDX < two64 ∧ InI64 p.line ∧ InI64 p.column

def LineX.fields (p : LineX) : List Field :=
  fUint64Opt 1 p.functionIDX ++ fInt64Opt 2 p.line ++ fInt64Opt 3 p.column

theorem LineX.decodes (p : LineX) (h : p.WF) : Decodes p.encode (LineX.fields p) :=
  Decodes.append (Decodes.append (Decodes.uint64Opt (smallTag 1) h.1) (Decodes.int64Opt (smallTag 2)))
    (Decodes.int64Opt (smallTag 3))

theorem LineX.applyAll_fields (p : LineX) (h : p.WF) : applyAll LineX.apply {} (LineX.fields p) = .ok p :=
  applyAll_append_ok _ (applyAll_append_ok _
    (applyAll_uint64Opt LineX.apply (fun m x => { m with functionIDX := x }) (fun _ => rfl) rfl)
    (applyAll_int64Opt LineX.apply (fun m x => { m with line := x }) (fun _ => rfl) h.2.1 rfl))
    (applyAll_int64Opt LineX.apply (fun m x => { m with column := x }) (fun _ => rfl) h.2.2 rfl)

theorem LineX.roundtrip (p : LineX) (h : p.WF) : decodeAll LineX.apply {} p.encode = .ok p :=
  ((LineX.decodes p h).decodeAll_eq _ _).trans (LineX.applyAll_fields p h)

def FunctionX.WF (p : FunctionX) : Prop := p.id < two64 ∧ InI64 p.nameX ∧ InI64 p.systemNameX ∧ InI64 p.filenameX ∧ InI64 p.startLine

def FunctionX.fields (p : FunctionX) : List Field :=
  fUint64Opt 1 p.id ++ fInt64Opt 2 p.nameX ++ fInt64Opt 3 p.systemNameX ++ fInt64Opt 4 p.filenameX ++ fInt64Opt 5 p.startLine

theorem FunctionX.decodes (p : FunctionX) (h : p.WF) : Decodes p.encode (FunctionX.fields p) :=
  Decodes.append (Decodes.append (Decodes.append (Decodes.append (Decodes.uint64Opt (smallTag 1) h.1)
    (Decodes.int64Opt (smallTag 2))) (Decodes.int64Opt (smallTag 3))) (Decodes.int64Opt (smallTag 4)))
    (Decodes.int64Opt (smallTag 5))

theorem FunctionX.applyAll_fields (p : FunctionX) (h : p.WF) : applyAll FunctionX.apply {} (FunctionX.fields p) = .ok p :=
  applyAll_append_ok _ (applyAll_append_ok _ (applyAll_append_ok _ (applyAll_append_ok _
    (applyAll_uint64Opt FunctionX.apply (fun m x => { m with id := x }) (fun _ => rfl) rfl)
    (applyAll_int64Opt FunctionX.apply (fun m x => { m with nameX := x }) (fun _ => rfl) h.2.1 rfl))
    (applyAll_int64Opt FunctionX.apply (fun m x => { m with systemNameX := x }) (fun _ => rfl) h.2.2.1 rfl))
    (applyAll_int64Opt FunctionX.apply (fun m x => { m with filenameX := x }) (fun _ => rfl) h.2.2.2.1 rfl))
    (applyAll_int64Opt FunctionX.apply (fun m x => { m with startLine := x }) (fun _ => rfl) h.2.2.2.2 rfl)

theorem FunctionX.roundtrip (p : FunctionX) (h : p.WF) : decodeAll FunctionX.apply {} p.encode = .ok p :=
  ((FunctionX.decodes p h).decodeAll_eq _ _).trans (FunctionX.applyAll_fields p h)

def MappingX.WF (p : MappingX) : Prop := p.id < two64 ∧ p.start < two64 ∧ p.limit < two64 ∧ p.offset < two64 ∧ InI64 p.fileX ∧ InI64 p.buildIDX

def MappingX.fields (p : MappingX) : List Field :=
  fUint64Opt 1 p.id ++ fUint64Opt 2 p.start ++ fUint64Opt 3 p.limit ++ fUint64Opt 4 p.offset ++ fInt64Opt 5 p.fileX ++ fInt64Opt 6 p.buildIDX ++ fBoolOpt 7 p.hasFunctions ++ fBoolOpt 8 p.hasFilenames ++ fBoolOpt 9 p.hasLineNumbers ++ fBoolOpt 10 p.hasInlineFrames

theorem MappingX.decodes (p : MappingX) (h : p.WF) : Decodes p.encode (MappingX.fields p) :=
  Decodes.append (Decodes.append (Decodes.append (Decodes.append (Decodes.append (Decodes.append (Decodes.append
    (Decodes.append (Decodes.append (Decodes.uint64Opt (smallTag 1) h.1) (Decodes.uint64Opt (smallTag 2) h.2.1))
    (Decodes.uint64Opt (smallTag 3) h.2.2.1)) (Decodes.uint64Opt (smallTag 4) h.2.2.2.1))
    (Decodes.int64Opt (smallTag 5))) (Decodes.int64Opt (smallTag 6))) (Decodes.boolOpt (smallTag 7)))
    (Decodes.boolOpt (smallTag 8))) (Decodes.boolOpt (smallTag 9))) (Decodes.boolOpt (smallTag 10))

theorem MappingX.applyAll_fields (p : MappingX) (h : p.WF) : applyAll MappingX.apply {} (MappingX.fields p) = .ok p :=
  applyAll_append_ok _ (applyAll_append_ok _ (applyAll_append_ok _ (applyAll_append_ok _ (applyAll_append_ok _
  (applyAll_append_ok _ (applyAll_append_ok _ (applyAll_append_ok _ (applyAll_append_ok _
    (applyAll_uint64Opt MappingX.apply (fun m x => { m with id := x }) (fun _ => rfl) rfl)
    (applyAll_uint64Opt MappingX.apply (fun m x => { m with start := x }) (fun _ => rfl) rfl))
    (applyAll_uint64Opt MappingX.apply (fun m x => { m with limit := x }) (fun _ => rfl) rfl))
    (applyAll_uint64Opt MappingX.apply (fun m x => { m with offset := x }) (fun _ => rfl) rfl))
    (applyAll_int64Opt MappingX.apply (fun m x => { m with fileX := x }) (fun _ => rfl) h.2.2.2.2.1 rfl))
    (applyAll_int64Opt MappingX.apply (fun m x => { m with buildIDX := x }) (fun _ => rfl) h.2.2.2.2.2 rfl))
    (applyAll_boolOpt MappingX.apply (fun m x => { m with hasFunctions := x }) (fun _ => rfl) rfl))
    (applyAll_boolOpt MappingX.apply (fun m x => { m with hasFilenames := x }) (fun _ => rfl) rfl))
    (applyAll_boolOpt MappingX.apply (fun m x => { m with hasLineNumbers := x }) (fun _ => rfl) rfl))
    (applyAll_boolOpt MappingX.apply (fun m x => { m with hasInlineFrames := x }) (fun _ => rfl) rfl)

theorem MappingX.roundtrip (p : MappingX) (h : p.WF) : decodeAll MappingX.apply {} p.encode = .ok p :=
  ((MappingX.decodes p h).decodeAll_eq _ _).trans (MappingX.applyAll_fields p h)

end PV.Codec
