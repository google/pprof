import PprofVerif.Lemmas.MergeMain
/-!
`merge` (one pass + the re-merge that removes zero samples): conservation, validity, each stack
once, no all-zero sample, termination of the recursion, header.
-/
namespace PV.Merge
open PV.Spec
open PV.Wire (InI64 two63)

/-- hypotheses of C03 on the inputs: valid, values are int64, compatible with the first. -/
structure Inputs (first : Profile) (rest : List Profile) : Prop where
  valid : ∀ p ∈ first :: rest, p.Valid
  typed : ∀ p ∈ first :: rest, Typed p
  compat : ∀ p ∈ rest, compatibleB first p = true

/-- a single valid, well-typed profile is an admissible input of `Merge` (which is what `Compact` calls). -/
theorem inputs_single {p : Profile} (hv : p.Valid) (ht : Typed p) : Inputs p [] :=
  ⟨List.forall_mem_singleton.mpr hv, List.forall_mem_singleton.mpr ht, fun _ h => nomatch h⟩

theorem sampleType_length_of_compatibleB {a b : Profile} (h : compatibleB a b = true) :
    b.sampleType.length = a.sampleType.length := by
  unfold compatibleB at h
  simp only [Bool.and_eq_true, beq_iff_eq] at h
  exact h.1.2.symm

theorem Inputs.lengths {first : Profile} {rest : List Profile} (h : Inputs first rest) :
    ∀ p ∈ first :: rest, p.sampleType.length = first.sampleType.length := by
  intro p hp
  rcases List.mem_cons.mp hp with rfl | hp
  · rfl
  · exact sampleType_length_of_compatibleB (h.compat p hp)

theorem weight_eq_weightR {r : Profile} {rr : List RSample} {n : Nat} (hres : resolve r = some rr)
    (hn : r.sampleType.length = n) (k : StackKey) : weight r k = weightR n rr k := by
  simp only [weight, hres, hn]

theorem weight_allSamples {n : Nat} {ps : List Profile} {srcs : List Src} (hfa : List.Forall₂ (SrcOK n) ps srcs)
    (k : StackKey) : weightR n (allSamples srcs) k = sumV n (ps.map (weight · k)) := by
  have hsrc : ∀ src ∈ srcs, SamplesOK n (processed src) := fun src hsrc => by
    obtain ⟨p, _, hp⟩ := forall₂_mem_right hfa hsrc
    exact fun s hs => hp.ok s (List.mem_of_mem_filter hs)
  have h1 : allSamples srcs = (srcs.map processed).flatten := by
    simp [allSamples, List.flatMap_def]
  rw [h1, weightR_flatten _ (List.forall_mem_map.mpr hsrc), List.map_map]
  -- source by source: the weight of a profile is that of its resolved samples, zero ones or not
  refine congrArg (sumV n) (forall₂_map_eq hfa fun p src hr => ?_).symm
  rw [weight_eq_weightR hr.res hr.width k, ← weightR_filter_nonzero hr.ok k]; rfl

theorem headerOf_sampleType {a b : Profile} (h : headerOf a = headerOf b) : a.sampleType = b.sampleType :=
  congrArg Header.sampleType h

/-- what one pass guarantees, stated on the profiles. -/
structure PassSpec (n : Nat) (ps : List Profile) (hdr r : Profile) : Prop where
  hdr : headerOf r = headerOf hdr
  valid : r.Valid
  typed : Typed r
  weight : ∀ k, weight r k = sumV n (ps.map (Spec.weight · k))
  rr : ∃ rr, resolve r = some rr ∧ SamplesOK n rr ∧ (rr.map stackKey).Nodup ∧
        List.Forall₂ (fun (e : Sample) rs => rs.values = e.values) r.samples rr ∧
        ∀ rs ∈ rr, ∃ p ∈ ps, ∃ rsp, resolve p = some rsp ∧ ∃ s ∈ rsp, isZeroSample s.values = false ∧
          stackKey s = stackKey rs

theorem mergeOnce_pass (first : Profile) (rest : List Profile) (h : Inputs first rest) :
    ∃ hdr r, combineHeaders first rest = .ok hdr ∧ hdr.sampleType = first.sampleType ∧
      hdr.periodType = first.periodType ∧
      mergeOnce (first :: rest) = .ok r ∧ PassSpec first.sampleType.length (first :: rest) hdr r := by
  obtain ⟨hdr, hh, hst, hpt, _⟩ := combineHeaders_ok_fields first rest h.compat
  obtain ⟨srcs, hsrcs, hfa⟩ := srcs_of_valid first.sampleType.length (first :: rest) h.valid h.typed h.lengths
  obtain ⟨r, hr, hspec⟩ := mergeOnce_spec first.sampleType.length first rest hdr srcs hh (by rw [hst]) hsrcs hfa
  obtain ⟨rr, hres, hok, hnd, hvals, hfrom, hw⟩ := hspec.rr
  refine ⟨hdr, r, hh, hst, hpt, hr, hspec.hdr, hspec.valid, hspec.typed, ?_, rr, hres, hok, hnd, hvals, ?_⟩
  · intro k
    rw [weight_eq_weightR hres (by rw [headerOf_sampleType hspec.hdr, hst]) k, hw k]
    exact weight_allSamples hfa k
  · intro rs hrs
    obtain ⟨s, hs, hk⟩ := hfrom rs hrs
    obtain ⟨src, hsrc, hmem, hz⟩ := mem_allSamples.mp hs
    obtain ⟨p, hp, hpok⟩ := forall₂_mem_right hfa hsrc
    exact ⟨p, hp, src.samples, hpok.res, s, hmem, hz, hk⟩

theorem nodup_map_filter {α κ : Type} (f : α → κ) (q : α → Bool) (l : List α) (h : (l.map f).Nodup) :
    ((l.filter q).map f).Nodup :=
  List.Nodup.sublist (List.Sublist.map f List.filter_sublist) h

theorem mem_le_sum : ∀ (l : List Nat) (x : Nat), x ∈ l → x ≤ l.sum
  | a :: l, x, h => by
    rw [List.sum_cons]
    rcases List.mem_cons.mp h with rfl | h
    · exact Nat.le_add_right _ _
    · exact Nat.le_trans (mem_le_sum l x h) (Nat.le_add_left _ _)

theorem totalSamples_pos_of_mem {ps : List Profile} {p : Profile} (hp : p ∈ ps) (hne : p.samples ≠ []) :
    1 ≤ totalSamples ps :=
  Nat.le_trans (List.length_pos_iff.mpr hne)
    (mem_le_sum _ _ (List.mem_map_of_mem (f := fun p : Profile => p.samples.length) hp))

theorem mergeFuel_ok {fuel : Nat} {ps : List Profile} {r : Profile} (h : mergeOnce ps = .ok r) :
    mergeFuel (fuel + 1) ps =
      if r.samples.any (fun s => isZeroSample s.values) then mergeFuel fuel [r] else .ok r := by
  rw [mergeFuel, h]

/-- **`merge` on valid compatible inputs**: returns a valid profile that conserves every
stack's weight, carries each stack once and no all-zero sample; the recursion never runs out
of fuel. -/
theorem merge_spec (first : Profile) (rest : List Profile) (h : Inputs first rest) :
    ∃ r, merge (first :: rest) = .ok r ∧ r.Valid ∧ Typed r ∧
      r.sampleType = first.sampleType ∧ r.periodType = first.periodType ∧
      (∀ k, weight r k = mergedWeight (first :: rest) k) ∧
      (∃ rr, resolve r = some rr ∧ (rr.map stackKey).Nodup) ∧
      (∀ s ∈ r.samples, isZeroSample s.values = false) ∧
      ∃ hdr r1, combineHeaders first rest = .ok hdr ∧ headerOf r1 = headerOf hdr ∧
        (r = r1 ∨ ∃ hdr2, combineHeaders r1 [] = .ok hdr2 ∧ headerOf r = headerOf hdr2) := by
  obtain ⟨hdr, r1, hh, hst, hpt, hr1, hp1⟩ := mergeOnce_pass first rest h
  have hst1 : r1.sampleType = first.sampleType := by rw [headerOf_sampleType hp1.hdr, hst]
  have hpt1 : r1.periodType = first.periodType := (congrArg Header.periodType hp1.hdr).trans hpt
  have hmw : ∀ k, mergedWeight (first :: rest) k =
      sumV first.sampleType.length ((first :: rest).map (weight · k)) := fun k => rfl
  by_cases hz : r1.samples.any (fun s => isZeroSample s.values) = true
  · -- re-merge [r1]
    obtain ⟨hdr2, r2, hh2, hst2, hpt2, hr2, hp2⟩ := mergeOnce_pass r1 [] (inputs_single hp1.valid hp1.typed)
    rw [hst1] at hp2
    obtain ⟨rr1, hres1, hok1, hnd1, hvals1, hfrom1⟩ := hp1.rr
    obtain ⟨rr2, hres2, hok2, hnd2, hvals2, hfrom2⟩ := hp2.rr
    have hn1 : r1.sampleType.length = first.sampleType.length := by rw [hst1]
    have hn2 : r2.sampleType.length = first.sampleType.length := by
      rw [headerOf_sampleType hp2.hdr, hst2, hst1]
    -- r2 has no zero sample
    have hnz : ∀ s ∈ r2.samples, isZeroSample s.values = false := by
      intro e he
      obtain ⟨rs, hrs, hv⟩ := forall₂_mem_left hvals2 he
      obtain ⟨p, hp, rsp, hrsp, s, hs, hsz, hsk⟩ := hfrom2 rs hrs
      obtain rfl := List.mem_singleton.mp hp
      obtain rfl := Option.some.inj (hres1.symm.trans hrsp)
      -- rs.values = weight r2 (stackKey rs) = weight r1 (stackKey rs) = s.values
      have hw2 := hp2.weight (stackKey rs)
      rw [List.map_singleton, weight_eq_weightR hres2 hn2, weight_eq_weightR hres1 hn1,
        weightR_of_nodup hok2 hnd2 hrs, sumV_singleton (weightR_VecOK hok1 _), ← hsk,
        weightR_of_nodup hok1 hnd1 hs] at hw2
      rw [← hv, hw2]; exact hsz
    have hz2 : r2.samples.any (fun s => isZeroSample s.values) = false :=
      List.any_eq_false.mpr fun s hs => by simp [hnz s hs]
    -- fuel
    have hfuel : 1 ≤ totalSamples (first :: rest) := by
      obtain ⟨s0, hs0, _⟩ := List.any_eq_true.mp hz
      obtain ⟨rs, hrs, _⟩ := forall₂_mem_left hvals1 hs0
      obtain ⟨p, hp, rsp, hrsp, s, hs, _, _⟩ := hfrom1 rs hrs
      apply totalSamples_pos_of_mem hp
      intro hnil
      rw [resolve, hnil] at hrsp
      cases hrsp; cases hs
    refine ⟨r2, ?_, hp2.valid, hp2.typed, ?_, ?_, ?_, ⟨rr2, hres2, hnd2⟩, hnz, hdr, r1, hh, hp1.hdr,
      Or.inr ⟨hdr2, hh2, hp2.hdr⟩⟩
    · unfold merge
      obtain ⟨m, hm⟩ : ∃ m, totalSamples (first :: rest) = m + 1 := ⟨totalSamples (first :: rest) - 1, by omega⟩
      rw [hm, mergeFuel_ok hr1, if_pos hz, mergeFuel_ok hr2, if_neg (hz2 ▸ Bool.false_ne_true)]
    · rw [headerOf_sampleType hp2.hdr, hst2, hst1]
    · exact (congrArg Header.periodType hp2.hdr).trans (hpt2.trans hpt1)
    · intro k
      rw [hmw k, hp2.weight k, ← hp1.weight k, List.map_singleton]
      exact sumV_singleton (weight_eq_weightR hres1 hn1 k ▸ weightR_VecOK hok1 k)
  · -- no zero sample: done after one pass
    have hz' : r1.samples.any (fun s => isZeroSample s.values) = false := by simpa using hz
    obtain ⟨rr1, hres1, _, hnd1, _, _⟩ := hp1.rr
    refine ⟨r1, ?_, hp1.valid, hp1.typed, hst1, hpt1, ?_, ⟨rr1, hres1, hnd1⟩, ?_, hdr, r1, hh, hp1.hdr, Or.inl rfl⟩
    · rw [merge, mergeFuel_ok hr1, if_neg (hz' ▸ Bool.false_ne_true)]
    · intro k; rw [hmw k]; exact hp1.weight k
    · intro s hs
      rw [List.any_eq_false] at hz'
      simpa using hz' s hs

theorem headerOf_period {a b : Profile} (h : headerOf a = headerOf b) : a.period = b.period :=
  congrArg Header.period h

theorem merge_header (first : Profile) (rest : List Profile) (h : Inputs first rest)
    (hper : ∀ p ∈ first :: rest, 0 ≤ p.period) (r : Profile) (hr : merge (first :: rest) = .ok r) :
    headerOf r = combineHeadersSpec first rest := by
  obtain ⟨r', hr', _, _, _, _, _, _, _, hdr, r1, hh, hh1, hcase⟩ := merge_spec first rest h
  obtain rfl := Outcome.ok.inj (hr.symm.trans hr')
  obtain ⟨hdr', hh', hspec, _⟩ := combineHeaders_spec first rest h.compat hper
  obtain rfl := Outcome.ok.inj (hh.symm.trans hh')
  have h1 : headerOf r1 = combineHeadersSpec first rest := hh1.trans hspec
  rcases hcase with rfl | ⟨hdr2, hh2, hr2⟩
  · exact h1
  · have hp1 : 0 ≤ r1.period := by
      show 0 ≤ (headerOf r1).period
      rw [h1]; exact maxPeriod_nonneg _
    obtain ⟨hdr2', hh2', hspec2, _⟩ := combineHeaders_spec r1 [] (fun _ h => nomatch h)
      fun p hp => List.mem_singleton.mp hp ▸ hp1
    obtain rfl := Outcome.ok.inj (hh2.symm.trans hh2')
    rw [hr2, hspec2, combineHeadersSpec_single r1 first rest h1, h1]

end PV.Merge
