import PprofVerif.Lemmas.LegacyMapSection
import PprofVerif.Model.LegacyJava
/-!
Helper lemmas for C14: Java heapz / contentionz profiles —
`parseJavaProfile (printJava d) = ok (expectedJava d)`.
-/
namespace PV.Legacy
open PV

theorem splitNLAux_line (l rest acc : Str) (h : ∀ b ∈ l, b.toNat ≠ 10) :
    splitNLAux (l ++ 10 :: rest) acc = ((acc.reverse ++ l) :: (splitNLAux rest []).1, (splitNLAux rest []).2) := by
  induction l generalizing acc with
  | nil => simp [splitNLAux]
  | cons b l ih =>
    have hb : b.toNat ≠ 10 := h b (by simp)
    simp only [List.cons_append, splitNLAux, beq_iff_eq, hb, if_false]
    rw [ih (b :: acc) (fun x hx => h x (by simp [hx]))]
    simp

theorem splitNL_unlines (ls : List Str) (h : ∀ l ∈ ls, LineOK l) : splitNL (unlines ls) = (ls, []) := by
  unfold splitNL
  induction ls with
  | nil => simp [unlines, splitNLAux]
  | cons l ls ih =>
    have hl : LineOK l := h l (by simp)
    simp only [unlines, List.flatMap_cons, List.append_assoc, List.singleton_append]
    rw [splitNLAux_line l _ [] (fun b hb => (hl b hb).1)]
    have := ih (fun l' hl' => h l' (by simp [hl']))
    simp only [unlines] at this
    simp [this]

/-- a line that all three loops skip -/
def isBlankLine (l : Str) : Bool := (trimSpace l).isEmpty

theorem skip_blanks {β} (F : List Str → β) (hF : ∀ l r, isBlankLine l = true → F (l :: r) = F r) :
    (∀ Ls, F (Ls.dropWhile isBlankLine) = F Ls) ∧ (∀ n R, F (List.replicate n [] ++ R) = F R) := by
  constructor
  · intro Ls
    induction Ls with
    | nil => rfl
    | cons l Ls ih =>
      by_cases hb : isBlankLine l = true
      · rw [List.dropWhile_cons, if_pos hb, ih, hF l Ls hb]
      · rw [List.dropWhile_cons, if_neg hb]
  · intro n R
    induction n with
    | zero => rfl
    | succ n ih => rw [List.replicate_succ, List.cons_append, hF _ _ (by decide), ih]

theorem matchAttrAt_attr (K V : Str) (hK : ∀ b ∈ K, isWordOrSp b = true) (hKne : K ≠ [])
    (hV : ∀ b ∈ V, isWordOrSp b = true) (hVne : V ≠ []) : matchAttrAt (K ++ 61 :: V) = some (K, V) := by
  unfold matchAttrAt
  have hS : Stops isWordOrSp (61 :: V) := by simp [show isWordOrSp 61 = false by decide]
  rw [takeWhile_append_stops hK hS, dropWhile_append_stops hK hS]
  simp only [isEmpty_false_of_ne_nil hKne, Bool.false_eq_true, if_false]
  rw [show (61 :: V) = [61] ++ V from rfl, stripPrefix_append]
  simp [takeWhile_of_all hV, isEmpty_false_of_ne_nil hVne]

theorem javaAttr_eq (spaced : Bool) (k v : Str) :
    javaAttr spaced k v = (k ++ sp (if spaced then 1 else 0)) ++ 61 :: (sp (if spaced then 1 else 0) ++ v) := by
  rw [javaAttr, assignSep_eq]; simp only [List.append_assoc, List.cons_append]

/-- facts about a key or value text: non-empty word text that trimming leaves alone -/
structure WordText (s : Str) : Prop where
  ne : s ≠ []
  word : ∀ b ∈ s, isWordOrSp b = true
  front : Stops isSpace s
  back : Stops isSpace s.reverse

theorem WordText.trim_pre {s : Str} (h : WordText s) (n : Nat) : trimSpace (s ++ sp n) = s := by
  simpa [sp] using trimSpace_pad 0 n s h.ne h.front h.back

theorem WordText.trim_post {s : Str} (h : WordText s) (n : Nat) : trimSpace (sp n ++ s) = s :=
  trimSpace_replicate n s h.front h.back

theorem sp_word (n : Nat) : ∀ b ∈ sp n, isWordOrSp b = true := fun b hb => by
  rw [List.eq_of_mem_replicate hb]; decide

theorem attr_search (spaced : Bool) (k v : Str) (hk : WordText k) (hv : WordText v) :
    ∃ k' v', searchRe matchAttrAt (javaAttr spaced k v) = some (k', v') ∧ trimSpace k' = k ∧ trimSpace v' = v := by
  rw [javaAttr_eq]
  generalize (if spaced then 1 else 0) = n
  refine ⟨k ++ sp n, sp n ++ v, ?_, hk.trim_pre n, hv.trim_post n⟩
  refine searchRe_of_some (matchAttrAt_attr _ _ ?_ (by simp [hk.ne]) ?_ (by simp [hv.ne]))
  · exact List.forall_mem_append.2 ⟨hk.word, sp_word n⟩
  · exact List.forall_mem_append.2 ⟨sp_word n, hv.word⟩

theorem attr_trim (spaced : Bool) (k v : Str) (hk : WordText k) (hv : WordText v) :
    trimSpace (javaAttr spaced k v) = javaAttr spaced k v := by
  rw [javaAttr_eq]
  generalize (if spaced then 1 else 0) = n
  apply trimSpace_of_stops
  · rw [List.append_assoc]; exact Stops_append_of_ne_nil hk.ne hk.front
  · rw [show (k ++ sp n) ++ 61 :: (sp n ++ v) = ((k ++ sp n) ++ 61 :: sp n) ++ v by simp]
    exact Stops_reverse_append hv.ne hv.back

theorem javaAttr_nonempty (spaced : Bool) (k v : Str) (hk : WordText k) : (javaAttr spaced k v).isEmpty = false := by
  rw [javaAttr_eq]
  cases hq : k with
  | nil => exact absurd hq hk.ne
  | cons _ _ => rfl

theorem attr_nonblank (spaced : Bool) (k v : Str) (hk : WordText k) (hv : WordText v) :
    (trimSpace (javaAttr spaced k v)).isEmpty = false := by
  rw [attr_trim spaced k v hk hv, javaAttr_nonempty spaced k v hk]

/-- for literals: the four conditions as one Boolean, evaluated once -/
theorem wordText_lit (s : Str)
    (h : (s != [] && s.all isWordOrSp && stopsB isSpace s && stopsB isSpace s.reverse) = true) : WordText s := by
  simp only [Bool.and_eq_true, bne_iff_ne, ne_eq, List.all_eq_true] at h
  exact ⟨h.1.1.1, h.1.1.2, Stops_of_stopsB h.1.2, Stops_of_stopsB h.2⟩

theorem wordText_dec (n : Nat) : WordText (dec n) :=
  ⟨dec_ne_nil n, fun b hb => by simp [isWordOrSp, isWord, dec_isDigit n b hb],
    (Stops_of_all fun b hb => isSpace_false_of_isDigit (dec_isDigit n b hb)).1, dec_reverse_stops n⟩

theorem wordText_resolution {s : Str} (hne : s ≠ []) (hw : s.all isWord = true) : WordText s := by
  have hw' : ∀ b ∈ s, isWord b = true := by simpa [List.all_eq_true] using hw
  have hS := Stops_of_all (p := isSpace) fun b hb => isSpace_eq_false_of_isWord (hw' b hb)
  exact ⟨hne, fun b hb => by simp [isWordOrSp, hw' b hb], hS.1, hS.2⟩

theorem WordText.lineOK {s : Str} (h : WordText s) : LineOK s :=
  LineOK_of_isPrint fun b hb => by
    have := h.word b hb
    simp only [isWordOrSp, isWord, isDigit, Bool.or_eq_true, decide_eq_true_eq, beq_iff_eq] at this
    simp only [isPrint, decide_eq_true_eq]; omega


theorem wordText_key_format : WordText (asc "format") := wordText_lit _ (by decide +kernel)
theorem wordText_val_java : WordText (asc "java") := wordText_lit _ (by decide +kernel)
theorem wordText_key_resolution : WordText (asc "resolution") := wordText_lit _ (by decide +kernel)
theorem wordText_key_sampling : WordText (asc "sampling period") := wordText_lit _ (by decide +kernel)
theorem wordText_key_ms : WordText (asc "ms since reset") := wordText_lit _ (by decide +kernel)

/-- a printed attribute line `k = v`: the loop's table of keys, on `k` and `v` themselves -/
theorem javaHeaderLoop_javaAttr (heap spaced : Bool) (k v : Str) (hk : WordText k) (hv : WordText v) (R : List Str)
    (st : JavaHdrState) :
    javaHeaderLoop heap (javaAttr spaced k v :: R) st =
      if k == asc "format" then (if v == asc "java" then javaHeaderLoop heap R st else .err "unrecognized")
      else if k == asc "resolution" then
        javaHeaderLoop heap R { st with sampleType :=
          if heap then [vt "inuse_objects" "count", { typ := asc "inuse_space", unit := v }]
          else [vt "contentions" "count", { typ := asc "delay", unit := v }] }
      else if !heap && k == asc "sampling period" then
        match parseI64Base0 v with
        | some p => javaHeaderLoop heap R { st with periodType := vt "contentions" "count", period := (p : Int) }
        | none => .err "failed to parse attribute"
      else if !heap && k == asc "ms since reset" then
        match parseI64Base0 v with
        | some ms => javaHeaderLoop heap R { st with durationNanos := wrapI64 ((ms : Int) * 1000 * 1000) }
        | none => .err "failed to parse attribute"
      else .err "unrecognized" := by
  obtain ⟨k', v', hs, hk', hv'⟩ := attr_search spaced k v hk hv
  rw [javaHeaderLoop]
  simp only [attr_trim spaced k v hk hv, javaAttr_nonempty spaced k v hk, hs, hk', hv', Bool.false_eq_true, if_false]
  rfl

/-- the four keys are different texts (the literals are evaluated once, here) -/
theorem javaKeys_ne : asc "resolution" ≠ asc "format" ∧ asc "sampling period" ≠ asc "format" ∧
    asc "sampling period" ≠ asc "resolution" ∧ asc "ms since reset" ≠ asc "format" ∧
    asc "ms since reset" ≠ asc "resolution" ∧ asc "ms since reset" ≠ asc "sampling period" := by decide +kernel

theorem javaHeaderLoop_format (heap spaced : Bool) (R : List Str) (st : JavaHdrState) :
    javaHeaderLoop heap (javaAttr spaced (asc "format") (asc "java") :: R) st = javaHeaderLoop heap R st := by
  rw [javaHeaderLoop_javaAttr heap spaced _ _ wordText_key_format wordText_val_java, if_pos (beq_self_eq_true _), if_pos (beq_self_eq_true _)]

theorem javaHeaderLoop_resolution (heap spaced : Bool) (res : Str) (hr : WordText res) (R : List Str) (st : JavaHdrState) :
    javaHeaderLoop heap (javaAttr spaced (asc "resolution") res :: R) st =
      javaHeaderLoop heap R { st with sampleType :=
        if heap then [vt "inuse_objects" "count", { typ := asc "inuse_space", unit := res }]
        else [vt "contentions" "count", { typ := asc "delay", unit := res }] } := by
  simp [javaHeaderLoop_javaAttr heap spaced _ _ wordText_key_resolution hr, javaKeys_ne.1]

theorem javaHeaderLoop_sampling (spaced : Bool) (p : Nat) (hp : p < two63) (R : List Str) (st : JavaHdrState) :
    javaHeaderLoop false (javaAttr spaced (asc "sampling period") (dec p) :: R) st =
      javaHeaderLoop false R { st with periodType := vt "contentions" "count", period := (p : Int) } := by
  obtain ⟨_, h1, h2, _⟩ := javaKeys_ne
  simp [javaHeaderLoop_javaAttr false spaced _ _ wordText_key_sampling (wordText_dec p), h1, h2, parseI64Base0_dec hp]

theorem javaHeaderLoop_ms (spaced : Bool) (p : Nat) (hp : p < two63) (R : List Str) (st : JavaHdrState) :
    javaHeaderLoop false (javaAttr spaced (asc "ms since reset") (dec p) :: R) st =
      javaHeaderLoop false R { st with durationNanos := wrapI64 ((p : Int) * 1000 * 1000) } := by
  obtain ⟨_, _, _, h1, h2, h3⟩ := javaKeys_ne
  simp [javaHeaderLoop_javaAttr false spaced _ _ wordText_key_ms (wordText_dec p), h1, h2, h3, parseI64Base0_dec hp]

def hdrState0 : JavaHdrState := { sampleType := [], periodType := { typ := [], unit := [] }, period := 0, durationNanos := 0 }

/-- the header state after all attribute lines = the documented header -/
def JavaDoc.hdrState (d : JavaDoc) : JavaHdrState :=
  { sampleType := d.header.sampleType, periodType := d.header.periodType, period := d.header.period,
    durationNanos := d.header.durationNanos }

theorem javaHeaderLoop_attrs (d : JavaDoc) (hres : WordText d.resolution) (hsp : d.samplingPeriod.all (· < two63) = true)
    (hms : d.msSinceReset.all (· < two63) = true) (R : List Str) :
    javaHeaderLoop d.heap (d.attrLines ++ R) hdrState0 = javaHeaderLoop d.heap R d.hdrState := by
  unfold JavaDoc.attrLines JavaDoc.hdrState JavaDoc.header hdrState0
  cases hh : d.heap with
  | true =>
    cases d.format <;>
      simp [javaHeaderLoop_format, javaHeaderLoop_resolution _ _ _ hres]
  | false =>
    cases hsp' : d.samplingPeriod with
    | none =>
      cases hms' : d.msSinceReset with
      | none => cases d.format <;> simp [javaHeaderLoop_format, javaHeaderLoop_resolution _ _ _ hres]
      | some ms =>
        have hms2 : ms < two63 := by simpa [hms'] using hms
        cases d.format <;> simp [javaHeaderLoop_format, javaHeaderLoop_resolution _ _ _ hres, javaHeaderLoop_ms _ _ hms2]
    | some p =>
      have hp2 : p < two63 := by simpa [hsp'] using hsp
      cases hms' : d.msSinceReset with
      | none =>
        cases d.format <;> simp [javaHeaderLoop_format, javaHeaderLoop_resolution _ _ _ hres, javaHeaderLoop_sampling _ _ hp2]
      | some ms =>
        have hms2 : ms < two63 := by simpa [hms'] using hms
        cases d.format <;> simp [javaHeaderLoop_format, javaHeaderLoop_resolution _ _ _ hres,
          javaHeaderLoop_sampling _ _ hp2, javaHeaderLoop_ms _ _ hms2]

/-! a line without `=` ends the header loop, a line without `@` the sample loop -/
theorem matchAttrAt_none (t : Str) (h : (61 : UInt8) ∉ t) : matchAttrAt t = none := by
  have hsp : stripPrefix [61] (t.dropWhile isWordOrSp) = none :=
    stripPrefix_none_of_not_mem (List.mem_singleton_self _) (fun hm => h (mem_of_mem_dropWhile hm))
  unfold matchAttrAt
  simp only [hsp]
  split <;> rfl

theorem javaHeaderLoop_stop (heap : Bool) (Ls : List Str) (h : ∀ l ∈ Ls, (61 : UInt8) ∉ l) (st : JavaHdrState) :
    javaHeaderLoop heap Ls st = .ok (st, Ls.dropWhile isBlankLine) := by
  induction Ls with
  | nil => rfl
  | cons l Ls ih =>
    rw [javaHeaderLoop]
    by_cases hb : (trimSpace l).isEmpty = true
    · simp only [hb, if_true, List.dropWhile_cons, isBlankLine]
      exact ih (fun l' hl' => h l' (by simp [hl']))
    · have : searchRe matchAttrAt (trimSpace l) = none :=
        searchRe_none_of_not_mem _ 61 matchAttrAt_none _ (fun hm => h l (by simp) (trimSpace_mem hm))
      simp [hb, this, isBlankLine]


def JavaRec.core (w : Nat) (r : JavaRec) : Str :=
  dec r.first ++ (sp (r.gap + 1) ++ (dec r.second ++ (sp (r.gap + 1) ++ (64 :: printAddrs w r.addrs))))

theorem JavaRec.print_eq (w : Nat) (r : JavaRec) : r.print w = sp r.indent ++ r.core w := by
  simp [JavaRec.print, JavaRec.core, List.append_assoc]

theorem JavaRec.core_cons (w : Nat) (r : JavaRec) : ∃ c t, r.core w = c :: t ∧ isDigit c = true := by
  obtain ⟨c, t, hd, hc⟩ := dec_cons r.first
  unfold JavaRec.core; rw [hd]; exact ⟨c, _, rfl, hc⟩

theorem JavaRec.core_reverse_stops (w : Nat) (r : JavaRec) : Stops isSpace (r.core w).reverse := by
  unfold JavaRec.core
  simp only [← List.append_assoc]
  exact at_printAddrs_reverse_stops _ _ _

theorem JavaRec.trim (w : Nat) (r : JavaRec) : trimSpace (r.print w) = r.core w := by
  rw [JavaRec.print_eq]
  obtain ⟨c, t, hd, hc⟩ := r.core_cons w
  exact trimSpace_replicate _ _ (by rw [hd]; simpa using isSpace_false_of_isDigit hc) (r.core_reverse_stops w)

theorem skipSp_len (g : Nat) (r : Str) (h : Stops (fun b => b.toNat == 32) r) :
    ((skipSp (sp (g+1) ++ r)).length == (sp (g+1) ++ r).length) = false := by
  rw [skipSp_sp _ _ h]; simp [sp]

/-- the address text of a printed record, without its leading blank -/
def addrTail (w a : Nat) (as : List Nat) : Str := 48 :: 120 :: (hexPad w a ++ printAddrs w as)

theorem addrTail_all (w a : Nat) (as : List Nat) :
    ∀ b ∈ addrTail w a as, (b.toNat == 32 || b.toNat == 120 || isHexLower b) = true := by
  intro b hb
  have : b ∈ printAddrs w (a :: as) := by rw [printAddrs_cons]; exact List.mem_cons_of_mem _ hb
  exact printAddrs_isAddrText w (a :: as) b this

theorem parseHexAddresses_addrTail (w a : Nat) (as : List Nat) (h : ∀ x ∈ a :: as, x < two64) :
    parseHexAddresses (addrTail w a as) = some (a :: as) := by
  have : findHex (addrTail w a as) = findHex (printAddrs w (a :: as)) := by
    rw [printAddrs_cons]; simp [findHex, findHexGo, hexRestart, addrTail]
  unfold parseHexAddresses
  rw [this, findHex_printAddrs]
  exact parseHexList_map w (a :: as) h

theorem matchJavaSampleAt_core (w : Nat) (r : JavaRec) (a : Nat) (as : List Nat) (ha : r.addrs = a :: as) :
    matchJavaSampleAt (r.core w) = some (dec r.first, dec r.second, addrTail w a as) := by
  unfold matchJavaSampleAt JavaRec.core
  rw [skipSp_stops (Stops_sp32_dec _ _), reDigits_dec (by simp [sp_succ, isDigit_32])]
  simp only [Option.bind_eq_bind, Option.bind_some]
  rw [skipSp_len _ _ (Stops_sp32_dec _ _), skipSp_sp _ _ (Stops_sp32_dec _ _)]
  simp only [Bool.false_eq_true, if_false]
  rw [reDigits_dec (by simp [sp_succ, isDigit_32])]
  simp only [Option.bind_some]
  rw [skipSp_len _ _ (Stops_sp32_cons _ (by decide)), skipSp_sp _ _ (Stops_sp32_cons _ (by decide))]
  simp only [Bool.false_eq_true, if_false]
  rw [show (64 :: printAddrs w r.addrs) = [64] ++ printAddrs w r.addrs from rfl, stripPrefix_append]
  simp only [Option.bind_some]
  rw [ha, printAddrs_cons]
  have e : (32 :: 48 :: 120 :: (hexPad w a ++ printAddrs w as)) = sp 1 ++ addrTail w a as := rfl
  rw [e, skipSp_len 0 _ (by simp [addrTail]), skipSp_sp _ _ (by simp [addrTail])]
  simp only [Bool.false_eq_true, if_false]
  rw [takeWhile_of_all (addrTail_all w a as)]; rfl

/-- a record the sample loop reads back: numbers in range, a stack, and in a heapz profile a non-zero second number -/
def JavaRec.ok (heap : Bool) (r : JavaRec) : Prop :=
  r.first < two63 ∧ r.second < two63 ∧ r.addrs ≠ [] ∧ (∀ x ∈ r.addrs, x < two64) ∧ (heap = true → r.second ≠ 0)

theorem javaSampleLoop_rec (scale : ScaleFn) (heap : Bool) (period : Int) (w : Nat) (r : JavaRec) (h : r.ok heap)
    (R : List Str) (acc : List RawSample) :
    javaSampleLoop scale heap period (r.print w :: R) acc
      = javaSampleLoop scale heap period R (javaSample scale heap period r.first r.second r.addrs :: acc) := by
  obtain ⟨h1, h2, hne, ha, hz⟩ := h
  obtain ⟨c, t, hd, hc⟩ := r.core_cons w
  have hne' : (r.core w).isEmpty = false := by rw [hd]; rfl
  cases haddrs : r.addrs with
  | nil => exact absurd haddrs hne
  | cons a as =>
    rw [javaSampleLoop]
    simp only [JavaRec.trim, hne', Bool.false_eq_true, if_false,
      searchRe_of_some (matchJavaSampleAt_core w r a as haddrs),
      parseHexAddresses_addrTail w a as (by rw [← haddrs]; exact ha), parseI64Base0_dec h1, parseI64Base0_dec h2]
    have hzz : (heap && r.second == 0) = false := by
      cases heap with
      | false => rfl
      | true => simp [hz rfl]
    simp only [hzz, Bool.false_eq_true, if_false]

theorem javaSampleLoop_blank (scale : ScaleFn) (heap : Bool) (period : Int) (acc : List RawSample) (l : Str) (r : List Str)
    (h : isBlankLine l = true) : javaSampleLoop scale heap period (l :: r) acc = javaSampleLoop scale heap period r acc := by
  rw [javaSampleLoop, show (trimSpace l).isEmpty = true from h, if_pos rfl]

theorem javaSampleLoop_skip (scale : ScaleFn) (heap : Bool) (period : Int) (Ls : List Str) (acc : List RawSample) :
    javaSampleLoop scale heap period (Ls.dropWhile isBlankLine) acc = javaSampleLoop scale heap period Ls acc :=
  (skip_blanks (javaSampleLoop scale heap period · acc) (javaSampleLoop_blank scale heap period acc)).1 Ls

theorem javaSampleLoop_blanks (scale : ScaleFn) (heap : Bool) (period : Int) (n : Nat) (R : List Str) (acc : List RawSample) :
    javaSampleLoop scale heap period (List.replicate n [] ++ R) acc = javaSampleLoop scale heap period R acc :=
  (skip_blanks (javaSampleLoop scale heap period · acc) (javaSampleLoop_blank scale heap period acc)).2 n R

theorem javaSampleLoop_recs (scale : ScaleFn) (heap : Bool) (period : Int) (w : Nat) (rs : List JavaRec)
    (h : ∀ r ∈ rs, r.ok heap)
    (R : List Str) (acc : List RawSample) :
    javaSampleLoop scale heap period (rs.flatMap (fun r => List.replicate r.blanks [] ++ [r.print w]) ++ R) acc
      = javaSampleLoop scale heap period R
          ((rs.map (fun r => javaSample scale heap period r.first r.second r.addrs)).reverse ++ acc) := by
  induction rs generalizing acc with
  | nil => rfl
  | cons r rs ih =>
    simp only [List.flatMap_cons, List.append_assoc, javaSampleLoop_blanks, List.cons_append,
      List.nil_append]
    rw [javaSampleLoop_rec scale heap period w r (h r (by simp)), ih (fun x hx => h x (by simp [hx]))]
    simp

theorem mem_of_reDigits {s a r : Str} (h : reDigits s = some (a, r)) {b : UInt8} (hb : b ∈ r) : b ∈ s := by
  simp only [reDigits] at h
  split at h
  · cases h
  · cases h; exact mem_of_mem_dropWhile hb

/-- every scanner in front of the `@` hands on a part of its input -/
theorem matchJavaSampleAt_none (t : Str) (h : (64 : UInt8) ∉ t) : matchJavaSampleAt t = none := by
  unfold matchJavaSampleAt
  simp only [Option.bind_eq_bind]
  cases h1 : reDigits (skipSp t) with
  | none => rfl
  | some p1 =>
    rw [Option.bind_some]
    split
    · rfl
    · cases h2 : reDigits (skipSp p1.2) with
      | none => rfl
      | some p2 =>
        rw [Option.bind_some]
        split
        · rfl
        · have hm : (64 : UInt8) ∉ skipSp p2.2 := fun hm => h (mem_of_mem_dropWhile (mem_of_reDigits h1
            (mem_of_mem_dropWhile (mem_of_reDigits h2 (mem_of_mem_dropWhile hm)))))
          rw [stripPrefix_none_of_not_mem (List.mem_singleton_self _) hm]
          rfl

theorem javaSampleLoop_stop (scale : ScaleFn) (heap : Bool) (period : Int) (Ls : List Str)
    (h : ∀ l ∈ Ls, (64 : UInt8) ∉ l) (acc : List RawSample) :
    javaSampleLoop scale heap period Ls acc = .ok (acc.reverse, Ls.dropWhile isBlankLine) := by
  induction Ls with
  | nil => rfl
  | cons l Ls ih =>
    rw [javaSampleLoop]
    by_cases hb : (trimSpace l).isEmpty = true
    · simp only [hb, if_true, List.dropWhile_cons, isBlankLine]
      exact ih (fun l' hl' => h l' (by simp [hl']))
    · have : searchRe matchJavaSampleAt (trimSpace l) = none :=
        searchRe_none_of_not_mem _ 64 matchJavaSampleAt_none _ (fun hm => h l (by simp) (trimSpace_mem hm))
      simp [hb, this, isBlankLine]


theorem noSpaceOK_bytes {s : Str} (h : noSpaceOK s = true) :
    s ≠ [] ∧ ∀ b ∈ s, isPrint b = true ∧ b.toNat ≠ 64 ∧ b.toNat ≠ 61 ∧ b.toNat ≠ 32 := by
  simp only [noSpaceOK, javaByteOK, Bool.and_eq_true, bne_iff_ne, ne_eq, List.all_eq_true] at h
  exact ⟨h.1, fun b hb => ⟨(h.2 b hb).1.1.1, (h.2 b hb).1.1.2, (h.2 b hb).1.2, (h.2 b hb).2⟩⟩

/-- the printed form `func (inner)` of the two parenthesised kinds -/
def parenText (f inner : Str) : Str := f ++ (asc " (" ++ (inner ++ asc ")"))

theorem print_fileLine (f file : Str) (line : Int) :
    (JavaLocKind.fileLine f file line).print = parenText f (file ++ 58 :: intStr line) := by
  simp [JavaLocKind.print, parenText, List.append_assoc]

theorem print_path (f p : Str) : (JavaLocKind.path f p).print = parenText f p := by
  simp [JavaLocKind.print, parenText, List.append_assoc]

/-- `func (inner)` is split into the function part and the parenthesised part, and that is read
as `file:line` or else as a path -/
theorem javaClassify_paren (addr : Nat) (f inner : Str) (hf : noSpaceOK f = true) :
    javaClassify addr (parenText f inner) =
      match (match splitLastColon inner with
             | some (file, num) => if file.isEmpty then none else (parseSignedDec num).map (fun n => (file, n))
             | none => none) with
      | some (file, n) => { addr := addr, func := f, file := file, line := if n > 0 ∧ n < (two63 : Int) then n else 0 }
      | none => { addr := addr, func := f, file := pathBase inner, line := 0 } := by
  obtain ⟨hne, hb⟩ := noSpaceOK_bytes hf
  have hall : ∀ b ∈ f, (!isReSpace b) = true := fun b hb' => by
    simp [isReSpace_false_of_isSpace (isSpace_false_of_isPrint (hb b hb').1 (hb b hb').2.2.2)]
  have hS : Stops (fun b => !isReSpace b) (sp 1 ++ (40 :: (inner ++ [41]))) := by simp [Stops, sp]; decide
  have e : parenText f inner = f ++ (sp 1 ++ (40 :: (inner ++ [41]))) := rfl
  have h4 : (parenText f inner).getLast? = some 41 := by
    rw [e, show f ++ (sp 1 ++ (40 :: (inner ++ [41]))) = (f ++ (sp 1 ++ (40 :: inner))) ++ [41] by simp]
    exact List.getLast?_concat
  unfold javaClassify
  rw [h4, e, takeWhile_append_stops hall hS, dropWhile_append_stops hall hS, skipReSpace_sp 1 _ (by simp; decide)]
  simp [sp]
  rfl

theorem splitLastColon_file (file num : Str) (hn : ∀ b ∈ num, b.toNat ≠ 58) :
    splitLastColon (file ++ 58 :: num) = some (file, num) := by
  unfold splitLastColon
  have hr : (file ++ 58 :: num).reverse = num.reverse ++ 58 :: file.reverse := by simp
  rw [hr]
  have hall : ∀ b ∈ num.reverse, (b.toNat != 58) = true := by
    intro b hb; simp [hn b (by simpa using hb)]
  have hS : Stops (fun b => b.toNat != 58) (58 :: file.reverse) := by simp
  rw [takeWhile_append_stops hall hS, dropWhile_append_stops hall hS]
  simp

theorem splitLastColon_none (p : Str) (hp : ∀ b ∈ p, b.toNat ≠ 58) : splitLastColon p = none := by
  unfold splitLastColon
  have hall : ∀ b ∈ p.reverse, (b.toNat != 58) = true := by
    intro b hb; simp [hp b (by simpa using hb)]
  rw [dropWhile_of_all hall]

theorem parseSignedDec_intStr (i : Int) : parseSignedDec (intStr i) = some i := by
  unfold intStr
  split
  · rename_i hneg
    simp [parseSignedDec, parseNat_dec]
    omega
  · rename_i hpos
    obtain ⟨c, t, hd, hc⟩ := dec_cons i.natAbs
    have hc45 : (c.toNat == 45) = false := by
      simp only [isDigit, decide_eq_true_eq] at hc
      simp only [beq_eq_false_iff_ne]; omega
    rw [hd]
    simp only [parseSignedDec, hc45, Bool.false_eq_true, if_false]
    rw [← hd, parseNat_dec]
    simp
    omega

theorem getLast?_ne_of_not_mem {t : Str} {c : UInt8} (h : c ∉ t) : (t.getLast? == some c) = false := by
  cases hq : t.getLast? with
  | none => rfl
  | some x =>
    have hx : x ∈ t := List.mem_of_getLast? hq
    have : x ≠ c := fun e => h (e ▸ hx)
    simp [this]

theorem classify_no_paren (addr : Nat) (t : Str) (h : (41 : UInt8) ∉ t) :
    javaClassify addr t =
      (if containsSub stubMarker t then { addr := addr, func := asc "STUB", file := [], line := 0 }
       else { addr := addr, func := t, file := [], line := 0 }) := by
  unfold javaClassify
  simp only [getLast?_ne_of_not_mem h, Bool.and_false, Bool.false_eq_true, if_false]

theorem JavaLoc.classify (l : JavaLoc) (h : l.kind.wf = true) : javaClassify l.addr l.kind.print = l.info := by
  obtain ⟨_, _, _, addr, _, kind⟩ := l
  cases kind with
  | fileLine f file line =>
    simp only [JavaLocKind.wf, Bool.and_eq_true, decide_eq_true_eq, List.all_eq_true, bne_iff_ne, ne_eq] at h
    obtain ⟨⟨⟨hf, hfile⟩, hcolon⟩, hline⟩ := h
    have hfne : file.isEmpty = false := isEmpty_false_of_ne_nil (noSpaceOK_bytes hfile).1
    rw [print_fileLine, javaClassify_paren _ _ _ hf,
      splitLastColon_file file _ (ne_of_not_mem (not_mem_intStr (c := 58) (by decide) (by decide) line))]
    simp only [hfne, Bool.false_eq_true, if_false, parseSignedDec_intStr, Option.map_some, JavaLoc.info]
    have : (line > 0 ∧ line < (two63 : Int)) ↔ line > 0 :=
      ⟨And.left, fun hp => ⟨hp, by have : line.natAbs < 9223372036854775808 := hline; omega⟩⟩
    simp only [this]
  | path f p =>
    simp only [JavaLocKind.wf, Bool.and_eq_true, List.all_eq_true, bne_iff_ne, ne_eq] at h
    rw [print_path, javaClassify_paren _ _ _ h.1.1, splitLastColon_none p h.2]
    rfl
  | stub pre post =>
    simp only [JavaLocKind.wf, Bool.and_eq_true, List.all_eq_true, bne_iff_ne, ne_eq] at h
    have hno : (41 : UInt8) ∉ (JavaLocKind.stub pre post).print := by
      simp only [JavaLocKind.print, List.mem_append]
      rintro ((hm | hm) | hm)
      · exact (h.1.1 41 (by simp [hm])).2 rfl
      · revert hm; decide
      · exact (h.1.1 41 (by simp [hm])).2 rfl
    have : containsSub stubMarker (JavaLocKind.stub pre post).print = true := by
      simp only [JavaLocKind.print, List.append_assoc]
      exact containsSub_middle _ _ _
    rw [classify_no_paren _ _ hno, this]
    rfl
  | plain t =>
    simp only [JavaLocKind.wf, Bool.and_eq_true, List.all_eq_true, bne_iff_ne, ne_eq] at h
    have hno : (41 : UInt8) ∉ (JavaLocKind.plain t).print := fun hm => (h.1.1.2 41 hm).1.2 rfl
    have : containsSub stubMarker t = false :=
      Bool.eq_false_iff.2 fun hq => (h.1.1.2 47 (mem_of_containsSub hq 47 (by decide))).2 rfl
    rw [classify_no_paren _ _ hno]
    simp [JavaLocKind.print, this, JavaLoc.info]


/-- facts about the text after the address of a trailer line -/
structure KindShape (t : Str) : Prop where
  head : ∃ c r, t = c :: r ∧ isPrint c = true ∧ c.toNat ≠ 32
  back : Stops isSpace t.reverse
  bytes : ∀ b ∈ t, javaByteOK b = true

theorem javaByteOK_bytes {b : UInt8} (h : javaByteOK b = true) : isPrint b = true ∧ b.toNat ≠ 64 ∧ b.toNat ≠ 61 := by
  simp only [javaByteOK, Bool.and_eq_true, bne_iff_ne, ne_eq] at h
  exact ⟨h.1.1, h.1.2, h.2⟩

theorem javaByteOK_of_isHexLower {b : UInt8} (h : isHexLower b = true) : javaByteOK b = true := by
  simp only [isHexLower, isDigit, Bool.or_eq_true, decide_eq_true_eq] at h
  simp only [javaByteOK, isPrint, Bool.and_eq_true, decide_eq_true_eq, bne_iff_ne, ne_eq]; omega

theorem javaByteOK_of_isDigit {b : UInt8} (h : isDigit b = true) : javaByteOK b = true :=
  javaByteOK_of_isHexLower (isHexLower_of_isDigit h)

theorem intStr_bytes (i : Int) : ∀ b ∈ intStr i, javaByteOK b = true := fun b hb => by
  rcases mem_intStr hb with rfl | h
  · decide
  · exact javaByteOK_of_isDigit h

theorem noSpaceOK_javaByteOK {s : Str} (h : noSpaceOK s = true) : ∀ b ∈ s, javaByteOK b = true := by
  simp only [noSpaceOK, Bool.and_eq_true, List.all_eq_true] at h
  exact fun b hb => (h.2 b hb).1

theorem shape_paren (f inner : Str) (hf : noSpaceOK f = true) (hi : ∀ b ∈ inner, javaByteOK b = true) :
    KindShape (parenText f inner) := by
  obtain ⟨hne, hb⟩ := noSpaceOK_bytes hf
  refine ⟨?_, ?_, ?_⟩
  · cases f with
    | nil => exact absurd rfl hne
    | cons c r => exact ⟨c, _, rfl, (hb c (by simp)).1, (hb c (by simp)).2.2.2⟩
  · rw [parenText, show f ++ (asc " (" ++ (inner ++ asc ")")) = (f ++ (asc " (" ++ inner)) ++ asc ")" by simp]
    exact Stops_reverse_append (by decide) (Stops_of_stopsB (by decide))
  · simp only [parenText, List.forall_mem_append]
    exact ⟨noSpaceOK_javaByteOK hf, by decide, hi, by decide⟩

theorem Stops_isSpace_of_match {t : Str} (h : (match t with | b :: _ => b.toNat != 32 | [] => true) = true)
    (hp : ∀ b ∈ t, isPrint b = true) : Stops isSpace t := by
  cases t with
  | nil => simp
  | cons c r => simpa using isSpace_false_of_isPrint (hp c (by simp)) (by simpa using h)

theorem JavaLocKind.shape (k : JavaLocKind) (h : k.wf = true) : KindShape k.print := by
  cases k with
  | fileLine f file line =>
    simp only [JavaLocKind.wf, Bool.and_eq_true, List.all_eq_true] at h
    rw [print_fileLine]
    apply shape_paren f _ h.1.1.1
    simp only [List.forall_mem_append, List.forall_mem_cons]
    exact ⟨noSpaceOK_javaByteOK h.1.1.2, by decide, intStr_bytes line⟩
  | path f p =>
    simp only [JavaLocKind.wf, Bool.and_eq_true, List.all_eq_true] at h
    rw [print_path]
    exact shape_paren f _ h.1.1 (noSpaceOK_javaByteOK h.1.2)
  | stub pre post =>
    simp only [JavaLocKind.wf, Bool.and_eq_true, List.all_eq_true, bne_iff_ne, ne_eq] at h
    obtain ⟨⟨hall, hpre⟩, hpost⟩ := h
    have hb : ∀ b ∈ pre ++ post, javaByteOK b = true := fun b hb => (hall b hb).1
    have hprint : ∀ b ∈ pre ++ post, isPrint b = true := fun b hb' => (javaByteOK_bytes (hb b hb')).1
    simp only [JavaLocKind.print]
    refine ⟨?_, ?_, ?_⟩
    · cases pre with
      | nil => exact ⟨103, _, rfl, by decide, by decide⟩
      | cons c r => exact ⟨c, _, rfl, hprint c (by simp), by simpa using hpre⟩
    · cases hq : post with
      | nil =>
        simp only [List.append_nil]
        exact Stops_reverse_append (by decide) (Stops_of_stopsB (by decide))
      | cons c r =>
        rw [← hq]
        exact Stops_reverse_append (by rw [hq]; simp)
          (Stops_isSpace_of_match hpost (fun b hb' => hprint b (by simp at hb'; simp [hb'])))
    · simp only [List.forall_mem_append] at hb ⊢
      exact ⟨⟨hb.1, by decide⟩, hb.2⟩
  | plain t =>
    simp only [JavaLocKind.wf, Bool.and_eq_true, List.all_eq_true, bne_iff_ne, ne_eq] at h
    obtain ⟨⟨⟨hne, hall⟩, hfront⟩, hback⟩ := h
    have hb : ∀ b ∈ t, javaByteOK b = true := fun b hb => (hall b hb).1.1
    have hprint : ∀ b ∈ t, isPrint b = true := fun b hb' => (javaByteOK_bytes (hb b hb')).1
    simp only [JavaLocKind.print]
    refine ⟨?_, Stops_isSpace_of_match hback (fun b hb' => hprint b (by simpa using hb')), hb⟩
    cases t with
    | nil => simp at hne
    | cons c r => exact ⟨c, r, rfl, hprint c (by simp), by simpa using hfront⟩


def JavaLoc.core (l : JavaLoc) : Str := hex0x l.width l.addr ++ (sp (l.gap + 1) ++ l.kind.print)

theorem JavaLoc.print_eq (l : JavaLoc) : l.print = sp l.indent ++ l.core := by
  simp [JavaLoc.print, JavaLoc.core, List.append_assoc]

theorem JavaLoc.trim (l : JavaLoc) (hs : KindShape l.kind.print) : trimSpace l.print = l.core := by
  rw [l.print_eq]
  apply trimSpace_replicate
  · simp [JavaLoc.core, hex0x]; decide
  · unfold JavaLoc.core
    rw [← List.append_assoc]
    obtain ⟨c, r, hcr, _, _⟩ := hs.head
    exact Stops_reverse_append (by rw [hcr]; simp) hs.back

theorem matchJavaLoc_core (l : JavaLoc) (hs : KindShape l.kind.print) :
    matchJavaLoc l.core = some (hexPad l.width l.addr, l.kind.print) := by
  obtain ⟨c, r, hcr, hcp, hc32⟩ := hs.head
  have hcS : Stops isReSpace l.kind.print := by rw [hcr]; simpa using isReSpace_false_of_isSpace (isSpace_false_of_isPrint hcp hc32)
  have e : l.core = asc "0x" ++ (hexPad l.width l.addr ++ (sp (l.gap + 1) ++ l.kind.print)) := by
    simp [JavaLoc.core, hex0x, asc]
  unfold matchJavaLoc
  rw [e, show skipReSpace (asc "0x" ++ _) = _ from dropWhile_stops (by simp [asc]; decide), stripPrefix_append]
  simp only [Option.bind_eq_bind, Option.bind_some]
  have hS : Stops isXDigit (sp (l.gap + 1) ++ l.kind.print) := by simp [sp_succ, isXDigit_32]
  rw [takeWhile_append_stops (hexPad_isXDigit _ _) hS, dropWhile_append_stops (hexPad_isXDigit _ _) hS]
  simp only [isEmpty_false_of_ne_nil (hexPad_ne_nil _ _), Bool.false_eq_true, if_false]
  rw [skipReSpace_sp _ _ hcS]
  have hsp : sp (l.gap + 1) ≠ [] := by simp [sp]
  simp [hsp]

theorem javaLocLoop_loc (l : JavaLoc) (hk : l.kind.wf = true) (ha : l.addr < two64) (R : List Str) (is : List JavaInfo)
    (hR : javaLocLoop R = .ok is) : javaLocLoop (l.print :: R) = .ok (l.info :: is) := by
  have hs := l.kind.shape hk
  have hne : l.core.isEmpty = false := by simp [JavaLoc.core, hex0x]
  rw [javaLocLoop]
  simp only [l.trim hs, hne, Bool.false_eq_true, if_false, matchJavaLoc_core l hs, parseU64Hex_hexPad ha, hR,
    l.classify hk]

theorem javaLocLoop_filler (f : Filler) (R : List Str) : javaLocLoop (f.print :: R) = javaLocLoop R := by
  rw [javaLocLoop]
  rcases f.trim with h | ⟨t', h⟩
  · simp [h]
  · have : matchJavaLoc (35 :: t') = none := by
      unfold matchJavaLoc
      have : skipReSpace (35 :: t') = 35 :: t' := dropWhile_stops (by simp; decide)
      rw [this]; simp [stripPrefix, asc]
    simp [h, this]

theorem javaLocLoop_blank (l : Str) (r : List Str) (h : isBlankLine l = true) : javaLocLoop (l :: r) = javaLocLoop r := by
  rw [javaLocLoop, show (trimSpace l).isEmpty = true from h, if_pos rfl]

theorem javaLocLoop_blanks (n : Nat) (R : List Str) : javaLocLoop (List.replicate n [] ++ R) = javaLocLoop R :=
  (skip_blanks javaLocLoop javaLocLoop_blank).2 n R

theorem javaLocLoop_skip (Ls : List Str) : javaLocLoop (Ls.dropWhile isBlankLine) = javaLocLoop Ls :=
  (skip_blanks javaLocLoop javaLocLoop_blank).1 Ls

theorem javaLocLoop_locs (ls : List JavaLoc) (h : ∀ l ∈ ls, l.kind.wf = true ∧ l.addr < two64) :
    javaLocLoop (ls.flatMap (fun l => printFillers l.fill ++ [l.print])) = .ok (ls.map JavaLoc.info) := by
  induction ls with
  | nil => rfl
  | cons l ls ih =>
    have hfill (fs : List Filler) (R : List Str) : javaLocLoop (printFillers fs ++ R) = javaLocLoop R :=
      loop_fillers (fun L (_ : Unit) => javaLocLoop L) (fun f R _ => javaLocLoop_filler f R) fs R ()
    simp only [List.flatMap_cons, List.append_assoc, hfill, List.singleton_append, List.map_cons]
    exact javaLocLoop_loc l (h l (by simp)).1 (h l (by simp)).2 _ _ (ih (fun x hx => h x (by simp [hx])))


def JavaDoc.recLines (d : JavaDoc) : List Str := d.recs.flatMap (fun r => List.replicate r.blanks [] ++ [r.print d.width])
def JavaDoc.locLines (d : JavaDoc) : List Str := d.locs.flatMap (fun l => printFillers l.fill ++ [l.print])

theorem JavaDoc.lines_eq (d : JavaDoc) :
    d.lines = d.headLine :: (d.attrLines ++ (d.recLines ++ (List.replicate d.blanksAfter [] ++ d.locLines))) := by
  simp [JavaDoc.lines, JavaDoc.recLines, JavaDoc.locLines, List.append_assoc]

theorem JavaDoc.wf_parts (d : JavaDoc) (h : d.wf = true) :
    WordText d.resolution ∧ d.samplingPeriod.all (· < two63) = true ∧ d.msSinceReset.all (· < two63) = true ∧
    (∀ r ∈ d.recs, r.ok d.heap) ∧
    (∀ l ∈ d.locs, (∀ f ∈ l.fill, f.wf = true ∧ f.comment.all (fun t => t.all (fun b => b.toNat != 64)) = true) ∧
      l.kind.wf = true ∧ l.addr < two64) := by
  simp only [JavaDoc.wf, Bool.and_eq_true, List.all_eq_true, decide_eq_true_eq, bne_iff_ne, ne_eq, Bool.or_eq_true,
    Bool.not_eq_true'] at h
  obtain ⟨⟨⟨⟨⟨hresne, hresw⟩, hsp⟩, hms⟩, hrecs⟩, hlocs⟩ := h
  refine ⟨wordText_resolution hresne (List.all_eq_true.2 hresw), hsp, hms, fun r hr => ?_, fun l hl => ?_⟩
  · obtain ⟨⟨⟨⟨h1, h2⟩, h3⟩, h4⟩, h5⟩ := hrecs r hr
    exact ⟨h1, h2, h3, h4, fun hh => h5.resolve_left (by simp [hh])⟩
  · exact ⟨fun f hf => by simpa [List.all_eq_true] using (hlocs l hl).1.1 f hf, (hlocs l hl).2, (hlocs l hl).1.2⟩

theorem LineOK_javaAttr (spaced : Bool) (k v : Str) (hk : LineOK k) (hv : LineOK v) : LineOK (javaAttr spaced k v) := by
  unfold javaAttr
  exact LineOK_append (LineOK_append hk (LineOK_assignSep spaced)) hv

theorem LineOK_attrLines (d : JavaDoc) (hr : LineOK d.resolution) : ∀ l ∈ d.attrLines, LineOK l := by
  intro l hl
  simp only [JavaDoc.attrLines, List.mem_append, List.mem_singleton] at hl
  rcases hl with (hl | rfl) | hl
  · split at hl
    · rw [List.mem_singleton.1 hl]; exact LineOK_javaAttr _ _ _ wordText_key_format.lineOK wordText_val_java.lineOK
    · cases hl
  · exact LineOK_javaAttr _ _ _ wordText_key_resolution.lineOK hr
  · split at hl
    · cases hl
    · rcases List.mem_append.1 hl with hl | hl <;> split at hl
      · cases hl
      · rw [List.mem_singleton.1 hl]; exact LineOK_javaAttr _ _ _ wordText_key_sampling.lineOK (LineOK_dec _)
      · cases hl
      · rw [List.mem_singleton.1 hl]; exact LineOK_javaAttr _ _ _ wordText_key_ms.lineOK (LineOK_dec _)

theorem JavaDoc.forall_recLines {P : Str → Prop} (d : JavaDoc) (h0 : P []) (hr : ∀ r ∈ d.recs, P (r.print d.width)) :
    ∀ l ∈ d.recLines, P l := by
  intro l hl
  simp only [JavaDoc.recLines, List.mem_flatMap, List.mem_append, List.mem_replicate, List.mem_singleton] at hl
  obtain ⟨r, hr', hl | rfl⟩ := hl
  · rw [hl.2]; exact h0
  · exact hr r hr'

theorem forall_locLines {P : Str → Prop} (locs : List JavaLoc) (hf : ∀ l ∈ locs, ∀ f ∈ l.fill, P f.print)
    (hl : ∀ l ∈ locs, P l.print) : ∀ x ∈ locs.flatMap (fun l => printFillers l.fill ++ [l.print]), P x := by
  intro x hx
  simp only [List.mem_flatMap, List.mem_append, List.mem_singleton, printFillers, List.mem_map] at hx
  obtain ⟨l, hl', ⟨f, hf', rfl⟩ | rfl⟩ := hx
  · exact hf l hl' f hf'
  · exact hl l hl'

theorem JavaRec.not_mem_print {c : UInt8} (hd : isDigit c = false) (ha : isAddrText c = false) (h64 : c ≠ 64) (w : Nat)
    (r : JavaRec) : c ∉ r.print w := by
  have h32 : c ≠ 32 := fun e => by rw [e] at ha; cases ha
  simp only [JavaRec.print, List.mem_append, List.mem_singleton, not_or]
  exact ⟨⟨⟨⟨⟨⟨not_mem_sp h32 _, not_mem_dec hd _⟩, not_mem_sp h32 _⟩, not_mem_dec hd _⟩, not_mem_sp h32 _⟩, h64⟩,
    not_mem_printAddrs ha w _⟩

theorem sp_javaByteOK (n : Nat) : ∀ b ∈ sp n, javaByteOK b = true := by
  intro b hb; rw [(List.mem_replicate.1 hb).2]; decide

theorem JavaLoc.print_bytes (l : JavaLoc) (hk : l.kind.wf = true) : ∀ b ∈ l.print, javaByteOK b = true := by
  simp only [JavaLoc.print, hex0x, List.forall_mem_append, List.forall_mem_cons]
  exact ⟨⟨⟨sp_javaByteOK _, by decide, by decide, fun b hb => javaByteOK_of_isHexLower (hexPad_isHexLower _ _ b hb)⟩,
    sp_javaByteOK _⟩, (l.kind.shape hk).bytes⟩

theorem filler_bytes {f : Filler} (h : f.wf = true) (hat : f.comment.all (fun t => t.all (fun b => b.toNat != 64)) = true) :
    ∀ b ∈ f.print, javaByteOK b = true := by
  simp only [Filler.print, List.forall_mem_append]
  refine ⟨sp_javaByteOK _, ?_⟩
  cases hc : f.comment with
  | none => simp
  | some t =>
    simp only [Filler.wf, hc, commentOK, List.all_eq_true, Bool.and_eq_true, bne_iff_ne, ne_eq, Option.all_some] at h hat
    simp only [List.forall_mem_cons, javaByteOK, Bool.and_eq_true, bne_iff_ne, ne_eq]
    exact ⟨by decide, fun b hb => ⟨⟨(h b hb).1.1.1, hat b hb⟩, (h b hb).1.2⟩⟩

theorem LineOK_of_javaByteOK {l : Str} (h : ∀ b ∈ l, javaByteOK b = true) : LineOK l :=
  LineOK_of_isPrint (fun b hb => (javaByteOK_bytes (h b hb)).1)

/-- the trailer lines carry neither `=` (they end the header loop) nor `@` (they end the sample loop) -/
theorem JavaDoc.locLines_bytes (d : JavaDoc) (h : d.wf = true) : ∀ l ∈ d.locLines, ∀ b ∈ l, javaByteOK b = true := by
  obtain ⟨_, _, _, _, hlocs⟩ := d.wf_parts h
  exact forall_locLines d.locs (fun l hl f hf => filler_bytes ((hlocs l hl).1 f hf).1 ((hlocs l hl).1 f hf).2)
    (fun l hl => l.print_bytes (hlocs l hl).2.1)

theorem JavaDoc.recLines_not_mem (d : JavaDoc) {c : UInt8} (hd : isDigit c = false) (ha : isAddrText c = false) (h64 : c ≠ 64) :
    ∀ l ∈ d.recLines, c ∉ l :=
  d.forall_recLines List.not_mem_nil fun r _ => r.not_mem_print hd ha h64 d.width

/-- the head line holds no line terminator and is recognised as the one of its flavour (by evaluation, both at once) -/
theorem JavaDoc.headLine_spec (d : JavaDoc) : LineOK d.headLine ∧
    (if trimSpace d.headLine == asc "--- heapz 1 ---" then some true
      else if trimSpace d.headLine == asc "--- contentionz 1 ---" then some false else none) = some d.heap := by
  unfold JavaDoc.headLine; cases d.heap <;> decide +kernel

theorem JavaDoc.lines_ok (d : JavaDoc) (h : d.wf = true) : ∀ l ∈ d.lines, LineOK l := by
  intro l hl
  rw [d.lines_eq] at hl
  simp only [List.mem_cons, List.mem_append, List.mem_replicate] at hl
  rcases hl with rfl | hl | hl | hl | hl
  · exact d.headLine_spec.1
  · exact LineOK_attrLines d (d.wf_parts h).1.lineOK l hl
  · exact LineOK_of_not_mem (d.recLines_not_mem (by decide) (by decide) (by decide) l hl)
      (d.recLines_not_mem (by decide) (by decide) (by decide) l hl)
  · rw [hl.2]; exact fun _ hb => nomatch hb
  · exact LineOK_of_javaByteOK (d.locLines_bytes h l hl)

/-- the documented profile passes the part of `CheckValid` modelled here: two sample types, two values per sample -/
theorem checkSampleTypes_expectedJava (scale : ScaleFn) (d : JavaDoc) : checkSampleTypes (expectedJava scale d) = true := by
  have hst : d.header.sampleType.length = 2 := by unfold JavaDoc.header; cases d.heap <;> rfl
  simp only [expectedJava, checkSampleTypes, javaAssemble, hst, List.all_map, Bool.and_eq_true, List.all_eq_true]
  refine ⟨by simp, ?_⟩
  intro r _
  unfold javaSample
  cases d.heap <;> simp
  split <;> simp

theorem not_mem_blanks {n : Nat} {l : Str} (hl : l ∈ List.replicate n ([] : Str)) (c : UInt8) : c ∉ l := by
  rw [(List.mem_replicate.1 hl).2]; exact List.not_mem_nil

/-- the three loops on a printed document: each consumes its own lines and stops in front of the next part -/
theorem JavaDoc.headerLoop (d : JavaDoc) (h : d.wf = true) :
    javaHeaderLoop d.heap (d.attrLines ++ (d.recLines ++ (List.replicate d.blanksAfter [] ++ d.locLines))) hdrState0
      = .ok (d.hdrState, (d.recLines ++ (List.replicate d.blanksAfter [] ++ d.locLines)).dropWhile isBlankLine) := by
  obtain ⟨hres, hsp, hms, _, _⟩ := d.wf_parts h
  rw [javaHeaderLoop_attrs d hres hsp hms, javaHeaderLoop_stop]
  intro l hl hm
  simp only [List.mem_append] at hl
  rcases hl with hl | hl | hl
  · exact d.recLines_not_mem (c := 61) (by decide) (by decide) (by decide) l hl hm
  · exact not_mem_blanks hl 61 hm
  · exact (javaByteOK_bytes (d.locLines_bytes h l hl 61 hm)).2.2 rfl

theorem JavaDoc.sampleLoop (scale : ScaleFn) (d : JavaDoc) (h : d.wf = true) (period : Int) :
    javaSampleLoop scale d.heap period ((d.recLines ++ (List.replicate d.blanksAfter [] ++ d.locLines)).dropWhile isBlankLine) []
      = .ok (d.recs.map (fun r => javaSample scale d.heap period r.first r.second r.addrs),
          (List.replicate d.blanksAfter [] ++ d.locLines).dropWhile isBlankLine) := by
  obtain ⟨_, _, _, hrecs, _⟩ := d.wf_parts h
  rw [javaSampleLoop_skip, JavaDoc.recLines, javaSampleLoop_recs scale d.heap _ d.width d.recs hrecs, javaSampleLoop_stop,
    List.append_nil, List.reverse_reverse]
  intro l hl hm
  rcases List.mem_append.1 hl with hl | hl
  · exact not_mem_blanks hl 64 hm
  · exact (javaByteOK_bytes (d.locLines_bytes h l hl 64 hm)).2.1 rfl

theorem JavaDoc.locLoop (d : JavaDoc) (h : d.wf = true) :
    javaLocLoop ((List.replicate d.blanksAfter [] ++ d.locLines).dropWhile isBlankLine) = .ok (d.locs.map JavaLoc.info) := by
  obtain ⟨_, _, _, _, hlocs⟩ := d.wf_parts h
  rw [javaLocLoop_skip, javaLocLoop_blanks, JavaDoc.locLines, javaLocLoop_locs d.locs (fun l hl => (hlocs l hl).2)]

theorem parseJava_printJava (scale : ScaleFn) (d : JavaDoc) (h : d.wf = true) :
    parseJavaProfile scale (printJava d) = .ok (expectedJava scale d) := by
  have hhead := d.headLine_spec.2
  have hH := d.headerLoop h
  unfold hdrState0 at hH
  have hhdr : (⟨d.header.sampleType, d.header.periodType, d.header.period, d.header.durationNanos, d.heap⟩ : JavaHeader)
      = d.header := by
    unfold JavaDoc.header; cases d.heap <;> rfl
  have hchk := checkSampleTypes_expectedJava scale d
  simp only [expectedJava] at hchk
  unfold parseJavaProfile
  rw [printJava, splitNL_unlines _ (d.lines_ok h), d.lines_eq]
  simp only [hhead, hH, d.sampleLoop scale h, List.isEmpty_nil, if_true, List.append_nil, d.locLoop h,
    expectedJava, JavaDoc.hdrState, hhdr, hchk]

end PV.Legacy
