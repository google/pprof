import PprofVerif.Lemmas.LegacyBase
/-!
Helper lemmas for C14 on printed numbers: digit strings in bases 10 and 16 and their readers (unsigned,
base 0, signed 64-bit), zero-padded hex, address lists ` 0x… 0x…` and the scanners that find them, and how
such texts begin and end (for `TrimSpace` and the span scanners).
-/
namespace PV.Legacy
open PV

theorem digitChar_spec : ∀ d < 16, digitVal (digitChar d) = d ∧ isHexLower (digitChar d) = true ∧
    (d < 10 → isDigit (digitChar d) = true) ∧ (0 < d → (digitChar d).toNat ≠ 48) := by decide

theorem digitsRev_ne_nil (base f n : Nat) : digitsRev base (f+1) n ≠ [] := by
  simp only [digitsRev]; split <;> simp

theorem digitsRev_all {base : Nat} (hb2 : 2 ≤ base) :
    ∀ f n, ∀ b ∈ digitsRev base f n, ∃ d, d < base ∧ b = digitChar d := by
  intro f
  induction f with
  | zero => intro n b hb'; simp [digitsRev] at hb'
  | succ f ih =>
    intro n b hb'
    simp only [digitsRev] at hb'
    split at hb'
    · simp at hb'; exact ⟨n, by assumption, hb'⟩
    · simp at hb'
      rcases hb' with h | h
      · exact ⟨n % base, Nat.mod_lt _ (by omega), h⟩
      · exact ih _ _ h

theorem valueOf_snoc (base : Nat) (a : Str) (b : UInt8) :
    valueOf base (a ++ [b]) = valueOf base a * base + digitVal b := by simp [valueOf]

theorem valueOf_digitsRev {base : Nat} (hb : base ≤ 16) (hb2 : 2 ≤ base) :
    ∀ f n, n < f → valueOf base (digitsRev base f n).reverse = n := by
  intro f
  induction f with
  | zero => intro n h; omega
  | succ f ih =>
    intro n h
    rw [digitsRev]
    split
    · next hn =>
      show 0 * base + digitVal (digitChar n) = n
      rw [(digitChar_spec n (Nat.lt_of_lt_of_le hn hb)).1, Nat.zero_mul, Nat.zero_add]
    · have hlt : n / base < f := Nat.lt_of_lt_of_le (Nat.div_lt_self (by omega) hb2) (Nat.le_of_lt_succ h)
      rw [List.reverse_cons, valueOf_snoc, ih _ hlt,
        (digitChar_spec (n % base) (Nat.lt_of_lt_of_le (Nat.mod_lt _ (by omega)) hb)).1]
      exact Nat.div_add_mod' n base

theorem render_ne_nil (base n : Nat) : render base n ≠ [] := by
  simp [render, digitsRev_ne_nil]

theorem render_all {base : Nat} (hb2 : 2 ≤ base) (n : Nat) :
    ∀ b ∈ render base n, ∃ d, d < base ∧ b = digitChar d := by
  intro b h
  simp only [render, List.mem_reverse] at h
  exact digitsRev_all hb2 _ _ b h

theorem parseNat_of_digits {base : Nat} (hb : base ≤ 16) {s : Str} (hne : s ≠ [])
    (h : ∀ b ∈ s, ∃ d, d < base ∧ b = digitChar d) : parseNat base s = some (valueOf base s) := by
  have : s.all (fun b => decide (digitVal b < base)) = true := by
    simp only [List.all_eq_true, decide_eq_true_eq]
    intro b hb'
    obtain ⟨d, hd, rfl⟩ := h b hb'
    rw [(digitChar_spec d (by omega)).1]; exact hd
  simp [parseNat, hne, this]

theorem parseNat_render {base : Nat} (hb : base ≤ 16) (hb2 : 2 ≤ base) (n : Nat) :
    parseNat base (render base n) = some n := by
  rw [parseNat_of_digits hb (render_ne_nil base n) (render_all hb2 n), render,
    valueOf_digitsRev hb hb2 (n+1) n (by omega)]

theorem dec_ne_nil (n : Nat) : dec n ≠ [] := render_ne_nil 10 n
theorem hex_ne_nil (n : Nat) : hex n ≠ [] := render_ne_nil 16 n

theorem dec_isDigit (n : Nat) : ∀ b ∈ dec n, isDigit b = true := by
  intro b h
  obtain ⟨d, hd, rfl⟩ := render_all (by decide) n b h
  exact (digitChar_spec d (by omega)).2.2.1 hd

theorem not_mem_dec {c : UInt8} (h : isDigit c = false) (n : Nat) : c ∉ dec n := fun hm => by
  rw [dec_isDigit n c hm] at h; cases h

theorem parseNat_dec (n : Nat) : parseNat 10 (dec n) = some n := parseNat_render (by decide) (by decide) n
theorem parseNat_hex (n : Nat) : parseNat 16 (hex n) = some n := parseNat_render (by decide) (by decide) n

theorem parseI64_dec {n : Nat} (h : n < two63) : parseI64 (dec n) = some n := by
  simp [parseI64, parseNat_dec, h]

theorem dec_bne (a b : Nat) : (dec a != dec b) = (a != b) := by
  rw [Bool.eq_iff_iff]
  simp only [bne_iff_ne, ne_eq]
  refine not_congr ⟨fun h => ?_, fun e => by rw [e]⟩
  have := parseNat_dec a
  rw [h, parseNat_dec] at this
  exact (Option.some.inj this).symm

theorem hexPad_ne_nil (w n : Nat) : hexPad w n ≠ [] := by simp [hexPad, hex_ne_nil]

theorem hexPad_digits (w n : Nat) : ∀ b ∈ hexPad w n, ∃ d, d < 16 ∧ b = digitChar d := by
  intro b h
  simp only [hexPad, List.mem_append, List.mem_replicate] at h
  rcases h with ⟨_, rfl⟩ | h
  · exact ⟨0, by decide, rfl⟩
  · exact render_all (by decide) n b h

theorem hexPad_isHexLower (w n : Nat) : ∀ b ∈ hexPad w n, isHexLower b = true := by
  intro b h
  obtain ⟨d, hd, rfl⟩ := hexPad_digits w n b h
  exact (digitChar_spec d hd).2.1

theorem hex_isHexLower (n : Nat) : ∀ b ∈ hex n, isHexLower b = true := by
  simpa [hexPad] using hexPad_isHexLower 0 n

theorem valueOf_zeros (base k : Nat) (s : Str) : valueOf base (List.replicate k 48 ++ s) = valueOf base s := by
  induction k with
  | zero => rfl
  | succ k ih => simpa [List.replicate_succ, valueOf, show digitVal 48 = 0 by decide] using ih

theorem parseNat_hexPad (w n : Nat) : parseNat 16 (hexPad w n) = some n := by
  have hv : valueOf 16 (hex n) = n := valueOf_digitsRev (by decide) (by decide) (n+1) n (by omega)
  rw [parseNat_of_digits (by decide) (hexPad_ne_nil w n) (hexPad_digits w n), hexPad, valueOf_zeros, hv]

theorem parseU64Hex_hexPad {w n : Nat} (h : n < two64) : parseU64Hex (hexPad w n) = some n := by
  simp [parseU64Hex, parseNat_hexPad, h]

theorem hexPad_isXDigit (w n : Nat) : ∀ b ∈ hexPad w n, isXDigit b = true :=
  fun b hb => isXDigit_of_isHexLower (hexPad_isHexLower w n b hb)

theorem hex_isXDigit (n : Nat) : ∀ b ∈ hex n, isXDigit b = true :=
  fun b hb => isXDigit_of_isHexLower (hex_isHexLower n b hb)

theorem hexPad_zero (n : Nat) : hexPad 0 n = hex n := by simp [hexPad]

theorem parseU64Hex_hex {n : Nat} (h : n < two64) : parseU64Hex (hex n) = some n := by
  rw [← hexPad_zero]; exact parseU64Hex_hexPad h

theorem parseU64Base0_hex0x {w n : Nat} (h : n < two64) : parseU64Base0 (hex0x w n) = some n := by
  simp only [parseU64Base0, hex0x, stripPrefix_cons_self, stripPrefix_nil]
  exact parseU64Hex_hexPad h

theorem digitsRev_getLast {base : Nat} (hb2 : 2 ≤ base) :
    ∀ f n, n < f → 0 < n → ∃ d, 0 < d ∧ d < base ∧ (digitsRev base f n).getLast? = some (digitChar d) := by
  intro f
  induction f with
  | zero => intro n h; omega
  | succ f ih =>
    intro n h hn
    rw [digitsRev]
    split
    · next hnb => exact ⟨n, hn, hnb, rfl⟩
    · next hnb =>
      have hlt : n / base < f := Nat.lt_of_lt_of_le (Nat.div_lt_self hn hb2) (Nat.le_of_lt_succ h)
      obtain ⟨d, hd0, hdb, hl⟩ := ih (n / base) hlt (Nat.div_pos (Nat.le_of_not_lt hnb) (by omega))
      refine ⟨d, hd0, hdb, ?_⟩
      cases hq : digitsRev base f (n / base) with
      | nil => rw [hq] at hl; cases hl
      | cons x xs => rw [List.getLast?_cons_cons, ← hq]; exact hl

theorem dec_head {n : Nat} (hn : 0 < n) : ∃ c r, dec n = c :: r ∧ c.toNat ≠ 48 := by
  obtain ⟨d, hd0, hdb, hl⟩ := digitsRev_getLast (base := 10) (by decide) (n+1) n (by omega) hn
  have hh : (dec n).head? = some (digitChar d) := by
    simp only [dec, render, List.head?_reverse]; exact hl
  cases hq : dec n with
  | nil => rw [hq] at hh; simp at hh
  | cons c r =>
    rw [hq] at hh
    simp at hh
    exact ⟨c, r, rfl, hh ▸ (digitChar_spec d (by omega)).2.2.2 hd0⟩

theorem parseNatBase0_dec (n : Nat) : parseNatBase0 (dec n) = some n := by
  rw [← parseNat_dec n]
  by_cases hn : n = 0
  · subst hn; decide
  · obtain ⟨c, r, hq, hc⟩ := dec_head (Nat.pos_of_ne_zero hn)
    rw [hq]
    cases r with
    | nil => rfl
    | cons c2 r2 => simp [parseNatBase0, hc]

theorem parseI64Base0_eq_filter (s : Str) : parseI64Base0 s = (parseNatBase0 s).filter (· < two63) := by
  unfold parseI64Base0 parseNatBase0 parseI64
  split
  · split
    · split <;> rfl
    · rfl
  · rfl

theorem parseI64Base0_dec {n : Nat} (h : n < two63) : parseI64Base0 (dec n) = some n := by
  rw [parseI64Base0_eq_filter, parseNatBase0_dec]; simp [h]

theorem dec_cons (n : Nat) : ∃ c t, dec n = c :: t ∧ isDigit c = true := by
  cases hq : dec n with
  | nil => exact absurd hq (dec_ne_nil n)
  | cons c t => exact ⟨c, t, rfl, dec_isDigit n c (by simp [hq])⟩

theorem LineOK_dec (n : Nat) : LineOK (dec n) :=
  LineOK_of_isWord fun b hb => isWord_of_isXDigit (isXDigit_of_isDigit (dec_isDigit n b hb))

theorem LineOK_hexPad (w n : Nat) : LineOK (hexPad w n) :=
  LineOK_of_isWord fun b hb => isWord_of_isXDigit (hexPad_isXDigit w n b hb)

theorem LineOK_hex (n : Nat) : LineOK (hex n) := by rw [← hexPad_zero]; exact LineOK_hexPad 0 n


theorem printAddrs_nil (w : Nat) : printAddrs w [] = [] := rfl
theorem printAddrs_cons (w a : Nat) (as : List Nat) :
    printAddrs w (a :: as) = 32 :: 48 :: 120 :: (hexPad w a ++ printAddrs w as) := by
  simp [printAddrs, hex0x]

theorem Stops_isHexLower_printAddrs (w : Nat) (as : List Nat) : Stops isHexLower (printAddrs w as) := by
  cases as with
  | nil => simp [printAddrs]
  | cons a as => rw [printAddrs_cons]; simp; decide

theorem hexRestart_of_ne {b : UInt8} (h : b.toNat ≠ 48) : hexRestart b = .s0 := by simp [hexRestart, h]

theorem findHexGo_digits (ds R acc : Str) (hd : ∀ b ∈ ds, isHexLower b = true) (hR : Stops isHexLower R) :
    findHexGo (ds ++ R) (.s3 acc) = (ds.reverse ++ acc).reverse :: findHexGo R .s0 := by
  induction ds generalizing acc with
  | nil =>
    cases R with
    | nil => simp [findHexGo]
    | cons c t => simp [findHexGo, (Stops_cons _ c t).1 hR]
  | cons b ds ih =>
    obtain ⟨hb, hd⟩ := List.forall_mem_cons.1 hd
    simp only [List.cons_append, findHexGo, hb, if_true]
    rw [ih (b :: acc) hd]
    simp

theorem findHexGo_printAddrs (w : Nat) (as : List Nat) (C : Str) (hC : Stops isHexLower C) :
    findHexGo (printAddrs w as ++ C) .s0 = as.map (hexPad w) ++ findHexGo C .s0 := by
  induction as with
  | nil => simp [printAddrs]
  | cons a as ih =>
    have hS : Stops isHexLower (printAddrs w as ++ C) := by
      cases as with
      | nil => simpa [printAddrs] using hC
      | cons a' as' => exact Stops_append_of_ne_nil (by simp [printAddrs_cons]) (Stops_isHexLower_printAddrs w _)
    obtain ⟨d, ds, hq⟩ : ∃ d ds, hexPad w a = d :: ds := by
      cases hq : hexPad w a with
      | nil => exact absurd hq (hexPad_ne_nil w a)
      | cons d ds => exact ⟨d, ds, rfl⟩
    obtain ⟨hd, hds⟩ := List.forall_mem_cons.1 (hq ▸ hexPad_isHexLower w a)
    have e : findHexGo (printAddrs w (a :: as) ++ C) .s0 = findHexGo (ds ++ (printAddrs w as ++ C)) (.s3 [d]) := by
      simp [printAddrs_cons, hq, findHexGo, hexRestart, hd]
    rw [e, findHexGo_digits ds _ [d] hds hS, ih, List.map_cons, hq]
    simp

theorem findHexGo_skip (A S : Str) (hA : ∀ b ∈ A, b.toNat ≠ 48) : findHexGo (A ++ S) .s0 = findHexGo S .s0 := by
  induction A with
  | nil => rfl
  | cons b A ih =>
    obtain ⟨hb, hA⟩ := List.forall_mem_cons.1 hA
    simp only [List.cons_append, findHexGo, hexRestart_of_ne hb]
    exact ih hA

theorem findHexGo_none (A : Str) (hA : ∀ b ∈ A, b.toNat ≠ 48) : findHexGo A .s0 = [] := by
  simpa [findHexGo] using findHexGo_skip A [] hA

theorem findHex_printAddrs (w : Nat) (as : List Nat) : findHex (printAddrs w as) = as.map (hexPad w) := by
  simpa [findHex, findHexGo] using findHexGo_printAddrs w as [] (by simp)

theorem parseHexList_map (w : Nat) (as : List Nat) (h : ∀ a ∈ as, a < two64) :
    parseHexList (as.map (hexPad w)) = some as := by
  induction as with
  | nil => rfl
  | cons a as ih =>
    obtain ⟨ha, has⟩ := List.forall_mem_cons.1 h
    simp only [List.map_cons, parseHexList, parseU64Hex_hexPad ha, ih has]
    rfl

theorem parseHexAddresses_printAddrs (w : Nat) (as : List Nat) (h : ∀ a ∈ as, a < two64) :
    parseHexAddresses (printAddrs w as) = some as := by
  simp [parseHexAddresses, findHex_printAddrs, parseHexList_map w as h]

/-- the class `[ x0-9a-f]` -/
def isAddrText (x : UInt8) : Bool := x.toNat == 32 || x.toNat == 120 || isHexLower x

theorem printAddrs_isAddrText (w : Nat) (as : List Nat) : ∀ b ∈ printAddrs w as, isAddrText b = true := by
  induction as with
  | nil => intro b hb; simp [printAddrs] at hb
  | cons a as ih =>
    intro b hb
    rw [printAddrs_cons] at hb
    simp only [List.mem_cons, List.mem_append] at hb
    rcases hb with rfl | rfl | rfl | hb | hb
    · decide
    · decide
    · decide
    · simp [isAddrText, hexPad_isHexLower w a b hb]
    · exact ih b hb

theorem not_mem_printAddrs {c : UInt8} (h : isAddrText c = false) (w : Nat) (as : List Nat) : c ∉ printAddrs w as :=
  fun hm => by rw [printAddrs_isAddrText w as c hm] at h; cases h

theorem LineOK_printAddrs (w : Nat) (as : List Nat) : LineOK (printAddrs w as) :=
  LineOK_of_not_mem (not_mem_printAddrs (by decide) w as) (not_mem_printAddrs (by decide) w as)

theorem asc_at : asc " @" = [32, 64] := by decide +kernel

theorem takeWhile_addrText (w : Nat) (as : List Nat) :
    (printAddrs w as).takeWhile (fun x => x.toNat == 32 || x.toNat == 120 || isHexLower x) = printAddrs w as :=
  takeWhile_of_all (printAddrs_isAddrText w as)

theorem dec_reverse_stops (n : Nat) : Stops isSpace (dec n).reverse :=
  (Stops_of_all fun b hb => isSpace_false_of_isDigit (dec_isDigit n b hb)).2

theorem hexPad_reverse_stops (w n : Nat) : Stops isSpace (hexPad w n).reverse :=
  (Stops_of_all fun b hb => isSpace_false_of_isHexLower (hexPad_isHexLower w n b hb)).2

theorem printAddrs_reverse_stops (w : Nat) (as : List Nat) (h : as ≠ []) : Stops isSpace (printAddrs w as).reverse := by
  induction as with
  | nil => exact absurd rfl h
  | cons a as ih =>
    rw [printAddrs_cons]
    cases as with
    | nil =>
      rw [printAddrs_nil, List.append_nil]
      exact Stops_reverse_append (a := [32, 48, 120]) (hexPad_ne_nil w a) (hexPad_reverse_stops w a)
    | cons a' as' =>
      exact Stops_reverse_append (a := 32 :: 48 :: 120 :: hexPad w a) (by simp [printAddrs_cons]) (ih (by simp))

theorem at_printAddrs_reverse_stops (pre : Str) (w : Nat) (as : List Nat) : Stops isSpace (pre ++ 64 :: printAddrs w as).reverse := by
  cases as with
  | nil => simp [printAddrs_nil]; decide
  | cons a as =>
    rw [List.append_cons]
    exact Stops_reverse_append (by simp [printAddrs_cons]) (printAddrs_reverse_stops w _ (by simp))

theorem reDigits_dec {n : Nat} {r : Str} (h : Stops isDigit r) : reDigits (dec n ++ r) = some (dec n, r) := by
  unfold reDigits
  rw [takeWhile_append_stops (dec_isDigit n) h, dropWhile_append_stops (dec_isDigit n) h]
  simp [isEmpty_false_of_ne_nil (dec_ne_nil n)]

theorem intStr_nonneg {i : Int} (h : 0 ≤ i) : intStr i = dec i.natAbs := by
  unfold intStr; simp [Int.not_lt.2 h]

theorem intStr_neg {i : Int} (h : i < 0) : intStr i = 45 :: dec i.natAbs := by
  unfold intStr; simp [h]

theorem intStr_natCast (n : Nat) : intStr (n : Int) = dec n := by
  rw [intStr_nonneg (Int.natCast_nonneg n), Int.natAbs_natCast]

theorem mem_intStr {i : Int} {b : UInt8} (hb : b ∈ intStr i) : b = 45 ∨ isDigit b = true := by
  unfold intStr at hb
  split at hb
  · exact (List.mem_cons.1 hb).imp id (dec_isDigit _ b)
  · exact Or.inr (dec_isDigit _ b hb)

theorem not_mem_intStr {c : UInt8} (h : isDigit c = false) (h45 : c ≠ 45) (i : Int) : c ∉ intStr i :=
  fun hm => (mem_intStr hm).elim h45 (by simp [h])

theorem intStr_cons (i : Int) : ∃ c t, intStr i = c :: t ∧ (isDigit c = true ∨ c = 45) := by
  by_cases hn : i < 0
  · exact ⟨45, _, intStr_neg hn, Or.inr rfl⟩
  · obtain ⟨c, t, hd, hc⟩ := dec_cons i.natAbs
    exact ⟨c, t, by rw [intStr_nonneg (Int.not_lt.1 hn), hd], Or.inl hc⟩

theorem intStr_ne_nil (i : Int) : intStr i ≠ [] := by
  obtain ⟨c, t, h, _⟩ := intStr_cons i
  rw [h]; simp

theorem head_not_space {c : UInt8} (hc : isDigit c = true ∨ c = 45) : isSpace c = false ∧ c.toNat ≠ 35 := by
  rcases hc with hc | hc
  · exact ⟨isSpace_false_of_isDigit hc, ne35_of_isDigit hc⟩
  · subst hc; exact ⟨by decide, by decide⟩

theorem Stops_sp32_intStr (i : Int) (r : Str) : Stops (fun b => b.toNat == 32) (intStr i ++ r) := by
  obtain ⟨c, t, hd, hc⟩ := intStr_cons i
  rw [hd]
  exact Stops_sp32_cons _ (hc.elim (fun h => toNat_ne_of_class h (c := 32) (by decide)) (fun h => by rw [h]; decide))

theorem Stops_sp32_dec (n : Nat) (r : Str) : Stops (fun b => b.toNat == 32) (dec n ++ r) := by
  rw [← intStr_natCast]; exact Stops_sp32_intStr _ r

theorem intStr_reverse_stops (i : Int) : Stops isSpace (intStr i).reverse := by
  unfold intStr
  split
  · exact Stops_reverse_append (a := [45]) (dec_ne_nil _) (dec_reverse_stops _)
  · exact dec_reverse_stops _

theorem LineOK_intStr (i : Int) : LineOK (intStr i) :=
  LineOK_of_not_mem (not_mem_intStr (by decide) (by decide) i) (not_mem_intStr (by decide) (by decide) i)

theorem stripDash_dec (n : Nat) (r : Str) : stripPrefix [45] (dec n ++ r) = none := by
  obtain ⟨c, t, hd, hc⟩ := dec_cons n
  rw [hd]
  exact stripPrefix_cons_ne _ _ (Ne.symm (ne45_of_isDigit hc))

theorem reSDigits_intStr (i : Int) (r : Str) (h : Stops isDigit r) : reSDigits (intStr i ++ r) = some (intStr i, r) := by
  unfold reSDigits
  by_cases hn : i < 0
  · rw [intStr_neg hn, show (45 :: dec i.natAbs) ++ r = [45] ++ (dec i.natAbs ++ r) from rfl, stripPrefix_append]
    simp [reDigits_dec h]
  · rw [intStr_nonneg (Int.not_lt.1 hn), stripDash_dec, reDigits_dec h]

/-- magnitude and sign of a 64-bit value, as the two branches of the signed readers need them -/
theorem int64_cases {i : Int} (h1 : -(two63 : Int) ≤ i) (h2 : i < (two63 : Int)) :
    (i < 0 ∧ i.natAbs ≤ two63 ∧ -(i.natAbs : Int) = i) ∨ (0 ≤ i ∧ i.natAbs < two63 ∧ (i.natAbs : Int) = i) := by
  by_cases hn : i < 0
  · have hv : -(i.natAbs : Int) = i := by omega
    exact Or.inl ⟨hn, Int.ofNat_le.1 (by rw [← hv] at h1; exact Int.neg_le_neg_iff.1 h1), hv⟩
  · have hv : (i.natAbs : Int) = i := by omega
    exact Or.inr ⟨by omega, Int.ofNat_lt.1 (by rw [hv]; exact h2), hv⟩

/-- a reader of `-?<digits>` on a printed 64-bit value, given its readers for the magnitude after a `-`
(which may reach 2^63) and for an unsigned text -/
theorem signed_read (rdN rdI : Str → Option Nat) (hN : ∀ n, rdN (dec n) = some n) (hI : ∀ n, n < two63 → rdI (dec n) = some n)
    {i : Int} (h1 : -(two63 : Int) ≤ i) (h2 : i < (two63 : Int)) :
    (match stripPrefix [45] (intStr i) with
      | some r => ((rdN r).filter (· ≤ two63)).map (fun n => -(n : Int))
      | none => (rdI (intStr i)).map (fun n => (n : Int))) = some i := by
  rcases int64_cases h1 h2 with ⟨hn, hle, hv⟩ | ⟨h0, hlt, hv⟩
  · rw [intStr_neg hn, show (45 :: dec i.natAbs) = [45] ++ dec i.natAbs from rfl, stripPrefix_append]
    simp [hN, Option.filter, hle, hv]
  · rw [intStr_nonneg h0, ← List.append_nil (dec _), stripDash_dec, List.append_nil]
    simp [hI _ hlt, hv]

theorem parseI64Z_intStr {i : Int} (h1 : -(two63 : Int) ≤ i) (h2 : i < (two63 : Int)) : parseI64Z (intStr i) = some i :=
  signed_read _ _ parseNat_dec (fun _ => parseI64_dec) h1 h2

theorem parseI64Base0Z_intStr {i : Int} (h1 : -(two63 : Int) ≤ i) (h2 : i < (two63 : Int)) :
    parseI64Base0Z (intStr i) = some i :=
  signed_read _ _ parseNatBase0_dec (fun _ => parseI64Base0_dec) h1 h2

end PV.Legacy
