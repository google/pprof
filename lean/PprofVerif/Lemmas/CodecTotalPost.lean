import PprofVerif.Lemmas.ComposeMsgRange
import PprofVerif.Lemmas.CodecTotalAssoc
/-!
Helpers for property C02, second half: `postDecode` (profile/encode.go) never panics, and every
profile it returns has NumUnit aligned with NumLabel, strictly key-sorted label maps and a period
type.
-/
namespace PV
namespace Codec
open Wire
open Outcome (Safe mapM_safe foldlM_safe)

theorem getString_safe (tab : List Str) (i : Int) : (getString tab i).Safe fun _ => True := by
  unfold getString
  split
  · trivial
  · split <;> trivial

theorem postMapping_safe (tab : List Str) (m : MappingX) : (postMapping tab m).Safe fun r =>
    r.id = m.id ∧ r.start = m.start ∧ r.limit = m.limit ∧ r.offset = m.offset :=
  (getString_safe _ _).bind fun _ _ => (getString_safe _ _).bind fun _ _ => ⟨rfl, rfl, rfl, rfl⟩

theorem postFunction_safe (tab : List Str) (m : FunctionX) : (postFunction tab m).Safe fun r =>
    r.id = m.id ∧ r.startLine = m.startLine :=
  (getString_safe _ _).bind fun _ _ => (getString_safe _ _).bind fun _ _ =>
    (getString_safe _ _).bind fun _ _ => ⟨rfl, rfl⟩

theorem postValueType_safe (tab : List Str) (m : ValueTypeX) : (postValueType tab m).Safe fun _ => True :=
  (getString_safe _ _).bind fun _ _ => (getString_safe _ _).bind fun _ _ => trivial

/-- invariant of the label-regrouping loop of `postDecode` -/
structure AccInv (acc : LabelAcc) : Prop where
  nd1 : (keys acc.labels).Nodup
  nd2 : (keys acc.numLabels).Nodup
  nd3 : (keys acc.numUnits).Nodup
  le : ∀ k, ((acc.numUnits.lookup k).getD []).length ≤ ((acc.numLabels.lookup k).getD []).length

theorem AccInv.empty : AccInv {} := ⟨List.nodup_nil, List.nodup_nil, List.nodup_nil, fun _ => Nat.le_refl _⟩

def NumsInI64 (acc : LabelAcc) : Prop := ∀ e ∈ acc.numLabels, ∀ v ∈ e.2, InI64 v

theorem length_padStringArray (arr : List Str) (l : Nat) :
    (padStringArray arr l).length = max arr.length l := by
  unfold padStringArray
  split
  · rename_i h
    exact (Nat.max_eq_left h).symm
  · rename_i h
    have h := Nat.le_of_not_le h
    rw [List.length_append, List.length_replicate, Nat.add_sub_of_le h, Nat.max_eq_right h]

theorem postLabel_safe (tab : List Str) {acc : LabelAcc} (l : LabelX) (hi : AccInv acc) :
    (postLabel tab acc l).Safe fun acc' => AccInv acc' ∧ (l.Ranged → NumsInI64 acc → NumsInI64 acc') := by
  unfold postLabel
  refine (getString_safe _ _).bind fun key _ => ?_
  split
  · exact (getString_safe _ _).bind fun _ _ =>
      ⟨⟨keys_alSet_nodup hi.nd1, hi.nd2, hi.nd3, hi.le⟩, fun _ hn => hn⟩
  · split
    · have hle := hi.le key
      split
      · rw [bind_assoc]
        refine (getString_safe _ _).bind fun unit _ => ⟨⟨hi.nd1, keys_alSet_nodup hi.nd2,
          keys_alSet_nodup hi.nd3, fun k => ?_⟩, fun hl hn => forall_alSet_append hn hl⟩
        simp only [lookup_alSet]
        split
        · simp only [Option.getD_some, List.length_append, length_padStringArray, List.length_singleton]
          omega
        · exact hi.le k
      · refine ⟨⟨hi.nd1, keys_alSet_nodup hi.nd2, hi.nd3, fun k => ?_⟩,
          fun hl hn => forall_alSet_append hn hl⟩
        simp only [lookup_alSet]
        split
        · rename_i hk
          cases beq_iff_eq.mp hk
          simp only [Option.getD_some, List.length_append, List.length_singleton]
          omega
        · exact hi.le k
    · exact ⟨hi, fun _ hn => hn⟩

theorem postSample_safe (tab : List Str) (x : SampleX) : (postSample tab x).Safe fun r =>
    r.unitsAligned = true ∧ r.mapsSorted = true ∧ (x.Ranged →
      r.locationIDs = x.locationIDX ∧ (∀ v ∈ r.values, InI64 v) ∧ ∀ e ∈ r.numLabel, ∀ v ∈ e.2, InI64 v) := by
  unfold postSample
  refine Safe.bind (P := fun acc => AccInv acc ∧ (x.Ranged → NumsInI64 acc)) ?_ fun acc ⟨hi, hn⟩ => ⟨?_, ?_, ?_⟩
  · exact foldlM_safe _ (fun b a ha hb => (postLabel_safe tab a hb.1).mono fun b' hb' =>
      ⟨hb'.1, fun hx => hb'.2 (hx.2.2 a ha) (hb.2 hx)⟩) _ ⟨AccInv.empty, fun _ => List.forall_mem_nil _⟩
  · unfold Sample.unitsAligned
    simp only
    rw [List.all_eq_true]
    rintro ⟨k, vs⟩ hkv
    have hkv' : (k, vs) ∈ acc.numLabels := (mem_sortKeys _ _).mp hkv
    have hlk : acc.numLabels.lookup k = some vs := lookup_eq_some_of_mem hi.nd2 hkv'
    simp only
    split
    · rfl
    · rename_i us hus
      split at hus
      · have hmem := (mem_sortKeys _ _).mp (mem_of_lookup_eq_some hus)
        obtain ⟨⟨k0, us0⟩, hin, heq⟩ := List.mem_map.mp hmem
        have hle := hi.le k0
        rw [lookup_eq_some_of_mem hi.nd3 hin, Option.getD_some] at hle
        dsimp only at heq
        split at heq <;> cases heq
        · -- padded to the number of values, which the units do not exceed
          rw [hlk] at hle ⊢
          simp only [Option.getD_some, length_padStringArray, Bool.or_eq_true, beq_iff_eq] at hle ⊢
          right; omega
        · rw [List.eq_nil_of_length_eq_zero (l := us) (Nat.eq_zero_of_not_pos ‹_›)]
          rfl
      · simp at hus
  · unfold Sample.mapsSorted
    simp only [Bool.and_eq_true]
    refine ⟨⟨keysSorted_sortKeys hi.nd1, keysSorted_sortKeys hi.nd2⟩, ?_⟩
    split
    · apply keysSorted_sortKeys
      rw [keys_map]
      · exact hi.nd3
      · intro e _
        split <;> rfl
    · rfl
  · exact fun hx => ⟨rfl, hx.2.1, fun e he => hn hx e ((mem_sortKeys _ _).mp he)⟩

/-- `postDecode` never panics on any decoded message — every string index goes through the
range check of `getString`; the id lookups are `List.contains` in this model, the dense/sparse
tables behind them are `Lemmas/IdTables.lean`'s subject — and what it returns has aligned units,
key-sorted label maps and a period type. -/
theorem postDecode_safe (x : ProfileX) : (postDecode x).Safe fun p =>
    p.unitsAligned = true ∧ p.mapsSorted = true ∧ p.periodType.isSome = true := by
  unfold postDecode
  refine (mapM_safe _ fun m _ => (postMapping_safe _ m).mono fun _ _ => trivial).bind fun ms _ => ?_
  refine (mapM_safe _ fun m _ => (postFunction_safe _ m).mono fun _ _ => trivial).bind fun fs _ => ?_
  refine (mapM_safe _ fun m _ => postValueType_safe _ m).bind fun sts _ => ?_
  refine (mapM_safe _ fun m _ => (postSample_safe _ m).mono fun _ h => And.intro h.1 h.2.1).bind fun ss hss => ?_
  refine (getString_safe _ _).bind fun df _ => (getString_safe _ _).bind fun kf _ => ?_
  refine (postValueType_safe _ _).bind fun pt _ => ?_
  refine (mapM_safe _ fun m _ => getString_safe _ m).bind fun cs _ => ?_
  refine (getString_safe _ _).bind fun dst _ => (getString_safe _ _).bind fun doc _ => ⟨?_, ?_, rfl⟩
  · simp only [Profile.unitsAligned, List.all_map, List.all_eq_true]
    exact fun y hy => (hss y hy).1
  · simp only [Profile.mapsSorted, List.all_map, List.all_eq_true]
    exact fun y hy => (hss y hy).2

theorem postDecode_ok (x : ProfileX) (p : Profile) (h : postDecode x = .ok p) :
    p.unitsAligned = true ∧ p.mapsSorted = true :=
  have := (postDecode_safe x).of_ok h
  ⟨this.1, this.2.1⟩

theorem parseUncompressed_safe (b : Bytes) : (parseUncompressed b).Safe fun p =>
    p.unitsAligned = true ∧ p.mapsSorted = true ∧ p.periodType.isSome = true := by
  unfold parseUncompressed
  split
  · trivial
  · exact (unmarshal_safe b).bind fun x _ => postDecode_safe x

end Codec
end PV
