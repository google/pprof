import PprofVerif.Lemmas.DotDocParse
import PprofVerif.Lemmas.CallgrindNum
/-! C18: the identifier scheme of `ComposeDot` (`N%d`, `N%d_%d`, `N%s_%d`; `internal/graph/dotgraph.go`): the
identifiers are valid DOT identifiers and every edge endpoint is a declared node. -/
namespace PV.Dot
open PV.Callgrind (dec)

theorem dec_idb (n : Nat) : ∀ b ∈ dec n, isIdByte b = true ∧ isDigit b = true :=
  Callgrind.mem_dec (P := fun b => isIdByte b = true ∧ isDigit b = true) (by decide) n

theorem dec_exists (n : Nat) : ∃ b, b ∈ dec n := List.exists_mem_of_ne_nil _ (Callgrind.dec_ne_nil n)

/-- digits lie below the capital letters -/
theorem lower_digit {b : UInt8} (h : isDigit b = true) : lower b = b := by
  simp only [isDigit, Bool.and_eq_true, decide_eq_true_eq] at h
  have : ¬ (0x41 : UInt8) ≤ b := fun h' => absurd (UInt8.le_trans h' h.2) (by decide)
  simp only [lower, this, decide_false, Bool.false_and, Bool.false_eq_true, if_false]

theorem isKw_iff (w : Bytes) :
    isKw w = true ↔ w.map lower ∈ [kwDigraph, kwSubgraph, kwGraph, kwNode, kwEdge, kwStrict] := by
  simp only [isKw, Bool.or_eq_true, decide_eq_true_eq, List.mem_cons, List.not_mem_nil, or_false, or_assoc]

/-- keywords consist of letters -/
theorem isKw_false_of_digit (w : Bytes) (b : UInt8) (hb : b ∈ w) (hd : isDigit b = true) : isKw w = false := by
  have hk : ∀ kw ∈ [kwDigraph, kwSubgraph, kwGraph, kwNode, kwEdge, kwStrict], ∀ x ∈ kw, isDigit x = false := by decide
  refine Bool.eq_false_iff.mpr fun hkw => ?_
  have := hk _ ((isKw_iff w).mp hkw) b (List.mem_map.mpr ⟨b, hb, lower_digit hd⟩)
  rw [hd] at this; cases this

theorem idOK_N (t : Bytes) (ht : ∀ b ∈ t, isIdByte b = true) (b : UInt8) (hb : b ∈ t) (hd : isDigit b = true) :
    IdOK (0x4e :: t) ∧ isKw (0x4e :: t) = false :=
  ⟨⟨by simp, List.forall_mem_cons.mpr ⟨by decide, ht⟩, rfl⟩, isKw_false_of_digit _ b (List.mem_cons_of_mem _ hb) hd⟩

theorem nodeId_ok (i : Nat) : IdOK (nodeId i) ∧ isKw (nodeId i) = false := by
  obtain ⟨b, hb⟩ := dec_exists (i + 1)
  exact idOK_N _ (fun x hx => (dec_idb _ x hx).1) b hb (dec_idb _ b hb).2

theorem nodeId_tail_idb (i : Nat) : ∀ b ∈ nodeId i, isIdByte b = true := (nodeId_ok i).1.idb

theorem numId_ok (source : Bytes) (hs : ∀ b ∈ source, isIdByte b = true) (k : Nat) :
    IdOK (numId source k) ∧ isKw (numId source k) = false := by
  obtain ⟨b, hb⟩ := dec_exists k
  unfold numId
  exact idOK_N (source ++ 0x5f :: dec k)
    (List.forall_mem_append.mpr ⟨hs, List.forall_mem_cons.mpr ⟨by decide, fun x hx => (dec_idb _ x hx).1⟩⟩)
    b (by simp [hb]) (dec_idb _ b hb).2

/-- `N%d_%d` is `N%s_%d` for the source `%d` -/
theorem nodeletId_ok (i j : Nat) : IdOK (nodeletId i j) ∧ isKw (nodeletId i j) = false :=
  numId_ok (dec (i + 1)) (fun x hx => (dec_idb _ x hx).1) j

def GNum.OK (n : GNum) : Prop := (∀ a ∈ n.attrs, AttrOK a) ∧ (∀ a ∈ n.eattrs, AttrOK a)
def GNodelet.OK (t : GNodelet) : Prop :=
  (∀ a ∈ t.attrs, AttrOK a) ∧ (∀ a ∈ t.eattrs, AttrOK a) ∧ ∀ n ∈ t.nums, n.OK
def GNode.OK (n : GNode) : Prop :=
  (∀ a ∈ n.attrs, AttrOK a) ∧ (∀ t ∈ n.nodelets, t.OK) ∧ ∀ m ∈ n.nums, m.OK

theorem numStmts_ok (source : Bytes) (hs : IdOK source ∧ isKw source = false) (ns : List GNum) (hns : ∀ n ∈ ns, n.OK) :
    ∀ st ∈ numStmts source ns, StmtOK st := by
  intro st hst
  simp only [numStmts, List.mem_flatMap] at hst
  obtain ⟨n, hn, hst⟩ := hst
  have hnk := numId_ok source hs.1.idb n.k
  simp only [List.mem_cons, List.not_mem_nil, or_false] at hst
  rcases hst with rfl | rfl
  · exact ⟨hnk, (hns n hn).1⟩
  · exact ⟨hs, hnk, (hns n hn).2⟩

theorem nodeStmts_ok (i : Nat) (n : GNode) (hn : n.OK) : ∀ st ∈ nodeStmts i n, StmtOK st := by
  intro st hst
  simp only [nodeStmts, List.mem_cons, List.mem_append] at hst
  rcases hst with rfl | hst | hst
  · exact ⟨nodeId_ok i, hn.1⟩
  · simp only [nodeletStmts, List.mem_flatMap] at hst
    obtain ⟨t, ht, hst⟩ := hst
    have htok := hn.2.1 t ht
    simp only [List.mem_append, List.mem_cons, List.not_mem_nil, or_false] at hst
    rcases hst with (rfl | rfl) | hst
    · exact ⟨nodeletId_ok i t.j, htok.1⟩
    · exact ⟨nodeId_ok i, nodeletId_ok i t.j, htok.2.1⟩
    · exact numStmts_ok _ (nodeletId_ok i t.j) t.nums htok.2.2 st hst
  · exact numStmts_ok _ (nodeId_ok i) n.nums hn.2.2 st hst

theorem mem_allNodeStmts {st : Stmt} (ns : List GNode) : ∀ i, st ∈ allNodeStmts i ns ↔
    ∃ k, ∃ h : k < ns.length, st ∈ nodeStmts (i + k) ns[k] := by
  induction ns with
  | nil => intro i; simp [allNodeStmts]
  | cons n t ih =>
    intro i
    simp only [allNodeStmts, List.mem_append, ih, List.length_cons]
    constructor
    · rintro (h | ⟨k, hk, h⟩)
      · exact ⟨0, Nat.zero_lt_succ _, h⟩
      · exact ⟨k + 1, Nat.succ_lt_succ hk, by rwa [Nat.add_right_comm, Nat.add_assoc] at h⟩
    · rintro ⟨k, hk, h⟩
      cases k with
      | zero => exact Or.inl h
      | succ k => exact Or.inr ⟨k, Nat.lt_of_succ_lt_succ hk, by rwa [Nat.add_right_comm, Nat.add_assoc]⟩

structure G.OK (g : G) : Prop where
  title : qsafeB g.title = true
  legend : ∀ p, g.legend = some p → qsafeB p.1 = true ∧ ∀ a ∈ p.2, AttrOK a
  nodes : ∀ n ∈ g.nodes, n.OK
  edgeAttrs : ∀ e ∈ g.edges, ∀ a ∈ e.attrs, AttrOK a
  /-- edges connect nodes of the graph: ComposeDot (repaired, fixes/C18-dot-skip-edges-to-unlisted-nodes.patch)
  looks both ends up in its node-id map and skips an edge an end of which has no id -/
  edgeEnds : ∀ e ∈ g.edges, e.src < g.nodes.length ∧ e.dst < g.nodes.length

theorem G.stmts_ok (g : G) (hg : g.OK) : ∀ st ∈ g.stmts, StmtOK st := by
  intro st hst
  simp only [G.stmts, List.mem_append, mem_allNodeStmts] at hst
  rcases hst with ⟨k, hk, hst⟩ | hst
  · exact nodeStmts_ok _ _ (hg.nodes _ (List.getElem_mem hk)) st hst
  · simp only [edgeStmts, List.mem_map] at hst
    obtain ⟨e, he, rfl⟩ := hst
    exact ⟨nodeId_ok e.src, nodeId_ok e.dst, hg.edgeAttrs e he⟩

def ids (ss : List Stmt) : List Bytes := (nodesOf ss).map (·.id)

theorem mem_ids_of_node {ss : List Stmt} {i : Bytes} {as : List Attr} (h : Stmt.node i as ∈ ss) : i ∈ ids ss := by
  induction ss with
  | nil => cases h
  | cons s t ih =>
    rcases List.mem_cons.mp h with rfl | h'
    · exact List.mem_cons_self ..
    · cases s with
      | node => exact List.mem_cons_of_mem _ (ih h')
      | edge => exact ih h'

theorem mem_edgesOf {ss : List Stmt} {e : Bytes × Bytes} (h : e ∈ edgesOf ss) : ∃ as, Stmt.edge e.1 e.2 as ∈ ss := by
  induction ss with
  | nil => cases h
  | cons s t ih =>
    cases s with
    | node =>
      obtain ⟨as, h'⟩ := ih h
      exact ⟨as, List.mem_cons_of_mem _ h'⟩
    | edge a b as =>
      rcases List.mem_cons.mp h with rfl | h
      · exact ⟨as, List.mem_cons_self ..⟩
      · obtain ⟨as', h'⟩ := ih h
        exact ⟨as', List.mem_cons_of_mem _ h'⟩

theorem numStmts_closed {src s d : Bytes} {as : List Attr} {ns : List GNum} (h : Stmt.edge s d as ∈ numStmts src ns) :
    s = src ∧ ∃ a, Stmt.node d a ∈ numStmts src ns := by
  simp only [numStmts, List.mem_flatMap, List.mem_cons, List.not_mem_nil, or_false] at h ⊢
  obtain ⟨m, hm, h | h⟩ := h
  · cases h
  · cases h; exact ⟨rfl, m.attrs, m, hm, Or.inl rfl⟩

theorem nodeStmts_closed (i : Nat) (n : GNode) (s d : Bytes) (as : List Attr) (h : Stmt.edge s d as ∈ nodeStmts i n) :
    (∃ a, Stmt.node s a ∈ nodeStmts i n) ∧ (∃ a, Stmt.node d a ∈ nodeStmts i n) := by
  simp only [nodeStmts, List.mem_cons, List.mem_append] at h ⊢
  rcases h with h | h | h
  · cases h
  · simp only [nodeletStmts, List.mem_flatMap, List.mem_append, List.mem_cons, List.not_mem_nil, or_false] at h ⊢
    obtain ⟨t, ht, (h | h) | h⟩ := h
    · cases h
    · cases h
      exact ⟨⟨n.attrs, Or.inl rfl⟩, t.attrs, Or.inr (Or.inl ⟨t, ht, Or.inl (Or.inl rfl)⟩)⟩
    · obtain ⟨rfl, a, ha⟩ := numStmts_closed h
      exact ⟨⟨t.attrs, Or.inr (Or.inl ⟨t, ht, Or.inl (Or.inl rfl)⟩)⟩, a, Or.inr (Or.inl ⟨t, ht, Or.inr ha⟩)⟩
  · obtain ⟨rfl, a, ha⟩ := numStmts_closed h
    exact ⟨⟨n.attrs, Or.inl rfl⟩, a, Or.inr (Or.inr ha)⟩

theorem G.edges_declared (g : G) (hg : g.OK) : ∀ e ∈ edgesOf g.stmts, e.1 ∈ ids g.stmts ∧ e.2 ∈ ids g.stmts := by
  rintro ⟨s, d⟩ he
  have hdecl : ∀ k (hk : k < g.nodes.length) {i a}, Stmt.node i a ∈ nodeStmts k g.nodes[k] → i ∈ ids g.stmts :=
    fun k hk _ _ h => mem_ids_of_node (List.mem_append_left _ ((mem_allNodeStmts _ 0).mpr ⟨k, hk, by rwa [Nat.zero_add]⟩))
  obtain ⟨as, h⟩ := mem_edgesOf he
  simp only [G.stmts, List.mem_append, mem_allNodeStmts, Nat.zero_add] at h
  rcases h with ⟨k, hk, h⟩ | h
  · obtain ⟨⟨a1, h1⟩, ⟨a2, h2⟩⟩ := nodeStmts_closed _ _ _ _ _ h
    exact ⟨hdecl k hk h1, hdecl k hk h2⟩
  · simp only [edgeStmts, List.mem_map] at h
    obtain ⟨ge, hge, heq⟩ := h
    obtain ⟨h1, h2⟩ := hg.edgeEnds ge hge
    cases heq
    exact ⟨hdecl _ h1 (List.mem_cons_self ..), hdecl _ h2 (List.mem_cons_self ..)⟩
end PV.Dot
