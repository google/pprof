import PprofVerif.Lemmas.LegacyNum
import PprofVerif.Model.LegacyMap
/-!
Helper lemmas for C14: memory-map entries — the sentinel lines, runs of blanks (`sp`), the field
scanners, and `parseMappingEntry (print e)`.

A printed entry is `range ++ pre ++ optField file ++ post` (`MapEntry.print_parts`); the fields are
read back by `optSpaceField`, whose behaviour on a printed optional field is `optSpaceField_optField`.
-/
namespace PV.Legacy
open PV

theorem sentinel_table :
    (∀ s ∈ [sentinelMemoryMap, sentinelMappedLibraries],
      trimSpace s = s ∧ isSpaceOrComment s = false ∧ LineOK s ∧ (58 : UInt8) ∈ s ∧ (77 : UInt8) ∈ s) ∧
    hasPrefix (asc "---") sentinelMemoryMap = true := by decide +kernel

theorem LineOK_sentinelMemoryMap : LineOK sentinelMemoryMap := (sentinel_table.1 _ (List.mem_cons_self ..)).2.2.1

theorem sentinel_boundary : IsBoundary sentinelMemoryMap := ⟨(sentinel_table.1 _ (by simp)).1, sentinel_table.2⟩

theorem isMemoryMapSentinel_memoryMap : isMemoryMapSentinel sentinelMemoryMap = true := by
  simp [isMemoryMapSentinel, containsSub_self]
theorem isMemoryMapSentinel_mappedLibraries : isMemoryMapSentinel sentinelMappedLibraries = true := by
  simp [isMemoryMapSentinel, containsSub_self]

theorem not_sentinel_of_not_mem {c : UInt8} (hc : ∀ t ∈ [sentinelMemoryMap, sentinelMappedLibraries], c ∈ t) {s : Str}
    (h : c ∉ s) : isMemoryMapSentinel s = false := by
  rw [Bool.eq_false_iff]
  intro hs
  simp only [isMemoryMapSentinel, Bool.or_eq_true] at hs
  exact h (hs.elim (fun hs => mem_of_containsSub hs c (hc _ (List.mem_cons_self ..)))
    (fun hs => mem_of_containsSub hs c (hc _ (List.mem_cons_of_mem _ (List.mem_cons_self ..)))))

theorem not_sentinel_of_no_colon {s : Str} (h : (58 : UInt8) ∉ s) : isMemoryMapSentinel s = false :=
  not_sentinel_of_not_mem (fun t ht => (sentinel_table.1 t ht).2.2.2.1) h

theorem not_sentinel_of_no_M {s : Str} (h : (77 : UInt8) ∉ s) : isMemoryMapSentinel s = false :=
  not_sentinel_of_not_mem (fun t ht => (sentinel_table.1 t ht).2.2.2.2) h

theorem filler_no_colon {f : Filler} (h : f.wf = true) : (58 : UInt8) ∉ f.print :=
  fun hm => (Filler.print_bytes h 58 hm).2.1 rfl

theorem filler_not_sentinel {f : Filler} (h : f.wf = true) : isMemoryMapSentinel f.print = false :=
  not_sentinel_of_no_colon (filler_no_colon h)

theorem sp_succ (g : Nat) (r : Str) : sp (g+1) ++ r = 32 :: (sp g ++ r) := by simp [sp, List.replicate_succ]

theorem sp_all_reSpace (n : Nat) : ∀ b ∈ sp n, isReSpace b = true := by
  intro b hb; simp only [sp, List.mem_replicate] at hb; rw [hb.2]; decide

theorem skipReSpace_sp (n : Nat) (r : Str) (h : Stops isReSpace r) : skipReSpace (sp n ++ r) = r :=
  dropWhile_append_stops (sp_all_reSpace n) h

theorem skipSp_sp (n : Nat) (r : Str) (h : Stops (fun b => b.toNat == 32) r) : skipSp (sp n ++ r) = r := by
  unfold skipSp
  exact dropWhile_append_stops (by intro b hb; rw [List.eq_of_mem_replicate hb]; rfl) h

theorem not_mem_sp {c : UInt8} (h : c ≠ 32) (n : Nat) : c ∉ sp n := fun hm => h (List.eq_of_mem_replicate hm)

theorem Stops_isDigit_sp (n : Nat) (c : UInt8) (r : Str) (hc : isDigit c = false) : Stops isDigit (sp n ++ c :: r) := by
  cases n with
  | zero => simpa [sp] using hc
  | succ n => simp [sp_succ, isDigit_32]

theorem sp_add (a b : Nat) (r : Str) : sp a ++ (sp b ++ r) = sp (a + b) ++ r := by
  rw [← List.append_assoc, sp, sp, sp, List.replicate_append_replicate]

theorem LineOK_sp (n : Nat) : LineOK (sp n) := fun b hb => by rw [List.eq_of_mem_replicate hb]; decide

theorem trimSpace_pad (i j : Nat) (s : Str) (hne : s ≠ []) (h1 : Stops isSpace s) (h2 : Stops isSpace s.reverse) :
    trimSpace (sp i ++ (s ++ sp j)) = s := by
  have hsp : ∀ b ∈ (sp j).reverse, isSpace b = true := by
    intro b hb; simp only [sp, List.mem_reverse, List.mem_replicate] at hb; rw [hb.2]; exact isSpace_32
  rw [trimSpace, sp, trimLeft_replicate i _ (Stops_append_of_ne_nil hne h1), trimRight,
    List.reverse_append, dropWhile_append_stops hsp h2, List.reverse_reverse]

/-- text that is empty or starts with a blank: what follows a field in a printed entry -/
abbrev Blank (s : Str) : Prop := Stops (fun b => b != 32) s

theorem Blank.stops {s : Str} (h : Blank s) (p : UInt8 → Bool) (h32 : p 32 = false) : Stops p s := by
  cases s with
  | nil => simp
  | cons c t =>
    have : c = 32 := by simpa using h
    simpa [this] using h32

theorem Blank_sp_succ (g : Nat) (r : Str) : Blank (sp (g+1) ++ r) := by simp [sp_succ]

theorem Blank_optField (g : Nat) (o : Option Str) {r : Str} (hr : Blank r) : Blank (optField g o ++ r) := by
  cases o with
  | none => exact hr
  | some s => simp [optField, sp_succ]

theorem Blank_optField' (g : Nat) (o : Option Str) : Blank (optField g o) := by
  simpa using Blank_optField g o (Stops_nil _)

theorem skipReSpace_optField (p : UInt8 → Bool) (g : Nat) (o : Option Str) (R : Str)
    (ho : ∀ s, o = some s → Stops isReSpace (s ++ R) ∧ Stops p (s ++ R)) (hnone : o = none → Stops p (skipReSpace R)) :
    Stops p (skipReSpace (optField g o ++ R)) := by
  cases o with
  | none => exact hnone rfl
  | some s =>
    rw [optField, List.append_assoc, skipReSpace_sp _ _ (ho s rfl).1]
    exact (ho s rfl).2

/-- `(?:\s+(<p>+))?` where the printer put `optField g o`: a present field is non-empty and made of
`p`-bytes (no blanks among them); what follows does not continue it, and when the field is absent what
comes after the blanks is not a `p`-byte either. -/
theorem optSpaceField_optField (p : UInt8 → Bool) (g : Nat) (o : Option Str) (R : Str)
    (hp : ∀ b, p b = true → isReSpace b = false) (ho : ∀ s, o = some s → s ≠ [] ∧ ∀ b ∈ s, p b = true)
    (hR : Stops p R) (hnone : o = none → Stops p (skipReSpace R)) :
    optSpaceField p (optField g o ++ R) = (o.getD [], R) := by
  unfold optSpaceField
  cases o with
  | none =>
    simp only [optField, List.nil_append, takeWhile_stops (hnone rfl), List.isEmpty_nil, if_true, Option.getD_none]
    split <;> rfl
  | some s =>
    obtain ⟨hne, hs⟩ := ho s rfl
    have hlen : ((s ++ R).length == (sp (g+1) ++ (s ++ R)).length) = false := by simp [sp]
    simp only [optField, List.append_assoc, skipReSpace_sp (g+1) _ (Stops_of_class hp hne hs R), hlen,
      takeWhile_append_stops hs hR, dropWhile_append_stops hs hR, isEmpty_false_of_ne_nil hne, Bool.false_eq_true,
      if_false, Option.getD_some]

theorem optSpaceField_some (p : UInt8 → Bool) (g : Nat) (fld r : Str) (hp : ∀ b, p b = true → isReSpace b = false)
    (hne : fld ≠ []) (hs : ∀ b ∈ fld, p b = true) (hr : Stops p r) :
    optSpaceField p (sp (g+1) ++ (fld ++ r)) = (fld, r) := by
  simpa [optField] using optSpaceField_optField p g (some fld) r hp (fun s e => by cases e; exact ⟨hne, hs⟩) hr (by simp)

theorem reqSpaceField_some (p : UInt8 → Bool) (g : Nat) (fld r : Str) (hp : ∀ b, p b = true → isReSpace b = false)
    (hne : fld ≠ []) (hs : ∀ b ∈ fld, p b = true) (hr : Stops p r) :
    reqSpaceField p (sp (g+1) ++ (fld ++ r)) = some (fld, r) := by
  simp [reqSpaceField, optSpaceField_some p g fld r hp hne hs hr, isEmpty_false_of_ne_nil hne]

theorem isReSpace_false_of_isXDigit (b : UInt8) (h : isXDigit b = true) : isReSpace b = false :=
  isReSpace_false_of_isSpace (isSpace_eq_false_of_isWord (isWord_of_isXDigit h))

theorem isReSpace_false_of_isDigit (b : UInt8) (h : isDigit b = true) : isReSpace b = false :=
  isReSpace_false_of_isXDigit b (isXDigit_of_isDigit h)

theorem isPermByte_cases {b : UInt8} (h : isPermByte b = true) : b = 45 ∨ b = 114 ∨ b = 119 ∨ b = 120 ∨ b = 112 := by
  simpa [isPermByte, ← UInt8.toNat_inj, or_assoc] using h

theorem isReSpace_false_of_isPermByte (b : UInt8) (h : isPermByte b = true) : isReSpace b = false := by
  rcases isPermByte_cases h with rfl | rfl | rfl | rfl | rfl <;> decide

theorem isReSpace_false_of_not (b : UInt8) (h : (!isReSpace b) = true) : isReSpace b = false := by simpa using h

theorem perm_print_spec (p : Perm) :
    p.print ≠ [] ∧ (∀ b ∈ p.print, isPermByte b = true) ∧ p.print.contains 120 = p.exec := by
  cases p <;> decide +kernel

theorem buildIDOK_ne_nil {s : Str} (h : buildIDOK s = true) : s ≠ [] := by
  intro e; subst e; simp [buildIDOK] at h

theorem buildIDOK_isXDigit {s : Str} (h : buildIDOK s = true) : ∀ b ∈ s, isXDigit b = true := by
  simp only [buildIDOK, Bool.and_eq_true, List.all_eq_true] at h
  exact h.2

theorem fileOK_ne_nil {f : Str} (h : fileOK f = true) : f ≠ [] := by
  intro e; subst e; simp [fileOK] at h

theorem fileOK_bytes {f : Str} (h : fileOK f = true) : ∀ b ∈ f, isPrint b = true ∧ b.toNat ≠ 32 ∧ b.toNat ≠ 36 := by
  intro b hb
  simp only [fileOK, Bool.and_eq_true, List.all_eq_true] at h
  simpa [and_assoc] using h.2 b hb

theorem fileOK_nonspace {f : Str} (h : fileOK f = true) : ∀ b ∈ f, (!isReSpace b) = true := by
  intro b hb
  obtain ⟨hp, h32, _⟩ := fileOK_bytes h b hb
  simp [isReSpace_false_of_isSpace (isSpace_false_of_isPrint hp h32)]

/-- a file name starts with `/` or `[`, so it starts none of the other fields -/
theorem fileOK_stops {f : Str} (h : fileOK f = true) (p : UInt8 → Bool) (h47 : p 47 = false) (h91 : p 91 = false)
    (r : Str) : Stops p (f ++ r) := by
  cases f with
  | nil => simp [fileOK] at h
  | cons c t =>
    simp only [fileOK, Bool.and_eq_true, Bool.or_eq_true, beq_iff_eq] at h
    have hc : c = 47 ∨ c = 91 := h.1.imp (fun e => UInt8.toNat_inj.1 e) (fun e => UInt8.toNat_inj.1 e)
    rcases hc with rfl | rfl <;> simpa

/-- the file field `(?:\s+(\S+))?`; what follows starts with a blank, and is nothing when there is no file -/
theorem file_step (g : Nat) (file : Option Str) {R : Str} (hf : file.all fileOK = true) (hR : Blank R)
    (hnone : file = none → R = []) :
    optSpaceField (fun b => !isReSpace b) (optField g file ++ R) = (file.getD [], R) :=
  optSpaceField_optField _ g file R isReSpace_false_of_not
    (fun s e => by subst e; exact ⟨fileOK_ne_nil (by simpa using hf), fileOK_nonspace (by simpa using hf)⟩)
    (hR.stops _ (by decide)) (fun e => by rw [hnone e]; exact Stops_nil _)

/-- a number as the entries print it: optional `0x`, zero-padded hexadecimal digits -/
def hexTok (ox : Bool) (w n : Nat) : Str := (if ox then asc "0x" else []) ++ hexPad w n

theorem asc_0x : asc "0x" = [48, 120] := by decide

theorem hexTok_stops_reSpace (ox : Bool) (w n : Nat) (r : Str) : Stops isReSpace (hexTok ox w n ++ r) := by
  cases ox with
  | true => simp [hexTok, asc_0x]; decide
  | false => simpa [hexTok] using Stops_of_class isReSpace_false_of_isXDigit (hexPad_ne_nil w n) (hexPad_isXDigit w n) r

theorem stripPrefix_0x_hex (a r : Str) (ha : a ≠ []) (hx : ∀ b ∈ a, isXDigit b = true)
    (hr : Stops (fun b => b == 120) r) : stripPrefix [48, 120] (a ++ r) = none := by
  cases hq : stripPrefix [48, 120] (a ++ r) with
  | none => rfl
  | some t =>
    exfalso
    have e := stripPrefix_eq_some hq
    match a, ha, hx with
    | [_], _, _ =>
      simp only [List.cons_append, List.nil_append, List.cons.injEq] at e
      simp [e.2] at hr
    | _ :: c :: _, _, hx =>
      simp only [List.cons_append, List.cons.injEq] at e
      exact ne_of_class (hx c (by simp)) (by decide) e.2.1

/-- `(?:0x)?([[:xdigit:]]+)` reads a printed number back, provided what follows is neither a hex digit
nor an `x` (which after a lone `0` would read as the prefix). -/
theorem strip0x_hexTok (ox : Bool) (w n : Nat) (r : Str) (hr : Stops (fun b => b == 120) r) :
    (stripPrefix (asc "0x") (hexTok ox w n ++ r)).getD (hexTok ox w n ++ r) = hexPad w n ++ r := by
  cases ox with
  | true => simp [hexTok, stripPrefix_append]
  | false => simp [hexTok, asc_0x, stripPrefix_0x_hex _ _ (hexPad_ne_nil w n) (hexPad_isXDigit w n) hr]

theorem matchHexRange_print (indent : Nat) (ox : Bool) (w start limit : Nat) (rest : Str)
    (hrest : Stops isXDigit rest) (hrx : Stops (fun b => b == 120) rest) :
    matchHexRange (sp indent ++ (hexTok ox w start ++ 45 :: (hexTok ox w limit ++ rest)))
      = some (hexPad w start, hexPad w limit, (stripPrefix [58] rest).getD rest) := by
  have hS : Stops isXDigit (45 :: (hexTok ox w limit ++ rest)) := by simp; decide
  have h120 : Stops (fun b : UInt8 => b == 120) (45 :: (hexTok ox w limit ++ rest)) := by simp
  have h45 : (isReSpace 45 || (45 : UInt8).toNat == 45) = true := by decide
  have hsk : skipReSpace (hexTok ox w limit ++ rest) = hexTok ox w limit ++ rest :=
    dropWhile_stops (hexTok_stops_reSpace ox w limit rest)
  simp only [matchHexRange, skipReSpace_sp indent _ (hexTok_stops_reSpace ox w start _),
    strip0x_hexTok ox w start _ h120, takeWhile_append_stops (hexPad_isXDigit w start) hS,
    dropWhile_append_stops (hexPad_isXDigit w start) hS, isEmpty_false_of_ne_nil (hexPad_ne_nil w _), h45,
    hsk, strip0x_hexTok ox w limit rest hrx,
    takeWhile_append_stops (hexPad_isXDigit w limit) hrest, dropWhile_append_stops (hexPad_isXDigit w limit) hrest,
    Bool.false_eq_true, if_false, if_true]

theorem matchHexRange_of_skip {l body : Str} (hs : skipReSpace l = body) (hb : Stops isXDigit body) :
    matchHexRange l = none := by
  unfold matchHexRange
  rw [hs, asc_0x]
  cases body with
  | nil => simp [stripPrefix]
  | cons c t =>
    have hx : isXDigit c = false := by simpa using hb
    have : stripPrefix [48, 120] (c :: t) = none := stripPrefix_cons_ne _ _ (fun e => by rw [← e] at hx; cases hx)
    simp [this, hx]

theorem parseMappingEntry_filler (f : Filler) : parseMappingEntry f.print = .unrecognized := by
  have : matchHexRange f.print = none := by
    unfold Filler.print
    cases f.comment with
    | none => exact matchHexRange_of_skip (skipReSpace_sp _ _ (Stops_nil _)) (Stops_nil _)
    | some t => exact matchHexRange_of_skip (skipReSpace_sp _ (35 :: t) (by simp; decide)) (by simp; decide)
  simp [parseMappingEntry, this]

def MapEntry.range (e : MapEntry) : Str :=
  sp e.indent ++ (hexTok e.ox e.width e.start ++ 45 :: hexTok e.ox e.width e.limit)

/-- the fields between the range and the file name -/
def MapForm.pre (g : Nat) : MapForm → Str
  | .proc perm off dmaj dmin inode _ =>
    sp (g+1) ++ (perm.print ++ (sp (g+1) ++ (hexPad 8 off ++ (sp (g+1) ++ (hexPad 2 dmaj ++ 58 :: (hexPad 2 dmin ++
      (sp (g+1) ++ dec inode)))))))
  | .brief colon perm _ _ _ => (if colon then [58] else []) ++ optField g (perm.map Perm.print)

/-- the fields after the file name -/
def MapForm.post (g : Nat) : MapForm → Str
  | .proc .. => []
  | .brief _ _ _ off bid => optField g (off.map fun o => asc "(@" ++ hex o ++ asc ")") ++ optField g bid

theorem MapEntry.print_parts (e : MapEntry) :
    e.print = e.range ++ (e.form.pre e.gap ++ (optField e.gap e.form.file ++ e.form.post e.gap)) := by
  obtain ⟨indent, ox, width, start, limit, gap, form⟩ := e
  cases form <;>
    simp only [MapEntry.print, MapEntry.range, hexTok, MapForm.pre, MapForm.post, MapForm.file, List.append_assoc,
      List.cons_append, List.nil_append, List.append_nil]

theorem MapForm.setFile_parts (g : Nat) (f : Str) (form : MapForm) :
    (form.setFile f).pre g = form.pre g ∧ (form.setFile f).post g = form.post g ∧ (form.setFile f).file = some f := by
  cases form <;> exact ⟨rfl, rfl, rfl⟩

/-- everything in front of the file field, and everything after it -/
def MapEntry.pre (e : MapEntry) : Str := e.range ++ e.form.pre e.gap
def MapEntry.post (e : MapEntry) : Str := e.form.post e.gap

theorem MapEntry.print_eq (e : MapEntry) : e.print = e.pre ++ (optField e.gap e.form.file ++ e.post) := by
  rw [e.print_parts, MapEntry.pre, MapEntry.post, List.append_assoc]

theorem MapEntry.withFile_print (e : MapEntry) (f : Str) :
    (e.withFile f).print = e.pre ++ (sp (e.gap + 1) ++ (f ++ e.post)) := by
  obtain ⟨h1, h2, h3⟩ := MapForm.setFile_parts e.gap f e.form
  rw [MapEntry.print_eq]
  simp only [MapEntry.withFile, MapEntry.pre, MapEntry.post, h1, h2, h3, optField, List.append_assoc]
  rfl

theorem MapEntry.Blank_post (e : MapEntry) : Blank e.post := by
  unfold MapEntry.post
  cases e.form with
  | proc => exact Stops_nil _
  | brief _ _ _ off bid => exact Blank_optField _ _ (Blank_optField' _ bid)

theorem matchProcRest_proc (g : Nat) (perm : Perm) (off dmaj dmin inode : Nat) (file : Option Str)
    (hf : file.all fileOK = true) :
    matchProcRest ((MapForm.proc perm off dmaj dmin inode file).pre g ++ optField g file)
      = some (perm.print, hexPad 8 off, file.getD []) := by
  have hx := hexPad_isXDigit
  have hS : Stops isXDigit (sp (g+1) ++ (dec inode ++ optField g file)) := (Blank_sp_succ g _).stops _ isXDigit_32
  have hfile : optSpaceField (fun b => !isReSpace b) (optField g file) = (file.getD [], []) := by
    simpa using file_step g file hf (Stops_nil _) (fun _ => rfl)
  simp only [matchProcRest, MapForm.pre, List.append_assoc, List.cons_append,
    optSpaceField_some isPermByte g _ _ isReSpace_false_of_isPermByte (perm_print_spec perm).1
      (perm_print_spec perm).2.1 ((Blank_sp_succ g _).stops _ (by decide)),
    optSpaceField_some isXDigit g _ _ isReSpace_false_of_isXDigit (hexPad_ne_nil 8 off) (hx 8 off)
      ((Blank_sp_succ g _).stops _ isXDigit_32),
    reqSpaceField_some isXDigit g _ _ isReSpace_false_of_isXDigit (hexPad_ne_nil 2 dmaj) (hx 2 dmaj)
      ((Stops_cons _ _ _).2 isXDigit_58),
    reqSpaceField_some isDigit g _ _ isReSpace_false_of_isDigit (dec_ne_nil inode) (dec_isDigit inode)
      ((Blank_optField' g file).stops _ isDigit_32),
    stripPrefix_cons_self, stripPrefix_nil, takeWhile_append_stops (hx 2 dmin) hS, dropWhile_append_stops (hx 2 dmin) hS,
    isEmpty_false_of_ne_nil (hexPad_ne_nil 2 dmin), hfile, Option.bind_eq_bind, Option.bind_some, Bool.false_eq_true,
    if_false, Option.pure_def]

/-- the part of a brief line after the permission field -/
def briefTail (g : Nat) (file : Option Str) (off : Option Nat) (bid : Option Str) : Str :=
  optField g file ++ (optField g (off.map fun o => asc "(@" ++ hex o ++ asc ")") ++ optField g bid)

theorem Blank_briefTail (g : Nat) (file : Option Str) (off : Option Nat) (bid : Option Str) :
    Blank (briefTail g file off bid) := Blank_optField g _ (Blank_optField g _ (Blank_optField' g bid))

theorem briefTail_skip (g : Nat) (file : Option Str) (off : Option Nat) (bid : Option Str)
    (hf : file.all fileOK = true) (hdep : file = none → off = none ∧ bid = none)
    (p : UInt8 → Bool) (h47 : p 47 = false) (h91 : p 91 = false) : Stops p (skipReSpace (briefTail g file off bid)) := by
  apply skipReSpace_optField
  · intro f e; subst e
    have hf' : fileOK f = true := by simpa using hf
    exact ⟨fileOK_stops hf' _ (by decide) (by decide) _, fileOK_stops hf' p h47 h91 _⟩
  · intro e; obtain ⟨rfl, rfl⟩ := hdep e; simp [optField, skipReSpace]

theorem perm_step (g : Nat) (perm : Option Perm) {T : Str} (hT : Blank T) (hsk : Stops isPermByte (skipReSpace T)) :
    optSpaceField isPermByte (optField g (perm.map Perm.print) ++ T) = ((perm.map Perm.print).getD [], T) :=
  optSpaceField_optField isPermByte g _ T isReSpace_false_of_isPermByte
    (fun s e => by
      obtain ⟨q, _, rfl⟩ := Option.map_eq_some_iff.1 e
      exact ⟨(perm_print_spec q).1, (perm_print_spec q).2.1⟩)
    (hT.stops _ (by decide)) (fun _ => hsk)

theorem matchProcRest_brief (g : Nat) (perm : Option Perm) (file : Option Str) (off : Option Nat) (bid : Option Str)
    (hf : file.all fileOK = true) (hdep : file = none → off = none ∧ bid = none) :
    matchProcRest (optField g (perm.map Perm.print) ++ briefTail g file off bid) = none := by
  have hT := Blank_briefTail g file off bid
  have hsk := briefTail_skip g file off bid hf hdep
  have hx : optSpaceField isXDigit (briefTail g file off bid) = ([], briefTail g file off bid) :=
    optSpaceField_optField isXDigit g none _ isReSpace_false_of_isXDigit (by simp)
      (hT.stops _ isXDigit_32) (fun _ => hsk _ (by decide) (by decide))
  simp [matchProcRest, reqSpaceField, hx, perm_step g perm hT (hsk _ (by decide) (by decide))]

theorem asc_parenAt : asc "(@" = [40, 64] ∧ asc ")" = [41] := by decide

theorem optAtOffset_none (R : Str) (h : Stops (fun b => b == 40) (skipReSpace R)) : optAtOffset R = ([], R) := by
  have : stripPrefix (asc "(@") (skipReSpace R) = none := by
    rw [asc_parenAt.1]
    cases hq : skipReSpace R with
    | nil => rfl
    | cons c t => exact stripPrefix_cons_ne _ _ (fun e => by rw [hq, ← e] at h; cases (Stops_cons _ _ _).1 h)
  simp only [optAtOffset, this]
  split <;> rfl

theorem optAtOffset_some (g o : Nat) (B : Str) :
    optAtOffset (optField g (some (asc "(@" ++ hex o ++ asc ")")) ++ B) = (hex o, B) := by
  have hlen : ((40 :: 64 :: (hex o ++ 41 :: B)).length == (sp (g+1) ++ 40 :: 64 :: (hex o ++ 41 :: B)).length) = false := by
    simp [sp]
  have hS : Stops isXDigit (41 :: B) := (Stops_cons _ _ _).2 (by decide)
  have hsk : Stops isReSpace (40 :: 64 :: (hex o ++ 41 :: B)) := (Stops_cons _ _ _).2 (by decide)
  simp only [optAtOffset, optField, asc_parenAt.1, asc_parenAt.2, List.append_assoc, List.cons_append, List.nil_append,
    skipReSpace_sp (g+1) _ hsk, hlen, stripPrefix_cons_self, stripPrefix_nil,
    takeWhile_append_stops (hex_isXDigit o) hS, dropWhile_append_stops (hex_isXDigit o) hS,
    isEmpty_false_of_ne_nil (hex_ne_nil o), Bool.false_eq_true, if_false]

theorem matchBriefRest_brief (g : Nat) (perm : Option Perm) (file : Option Str) (off : Option Nat) (bid : Option Str)
    (hf : file.all fileOK = true) (hb : bid.all buildIDOK = true) (hdep : file = none → off = none ∧ bid = none) :
    matchBriefRest (optField g (perm.map Perm.print) ++ briefTail g file off bid)
      = ((perm.map Perm.print).getD [], file.getD [], (off.map hex).getD [], bid.getD []) := by
  have hbid : ∀ s, bid = some s → s ≠ [] ∧ ∀ b ∈ s, isXDigit b = true :=
    fun s e => by subst e; exact ⟨buildIDOK_ne_nil (by simpa using hb), buildIDOK_isXDigit (by simpa using hb)⟩
  have hoff : optAtOffset (optField g (off.map fun o => asc "(@" ++ hex o ++ asc ")") ++ optField g bid)
      = ((off.map hex).getD [], optField g bid) := by
    cases off with
    | some o => exact optAtOffset_some g o _
    | none =>
      apply optAtOffset_none
      rw [← List.append_nil (optField g bid)]
      exact skipReSpace_optField _ g bid []
        (fun s e => ⟨Stops_of_class isReSpace_false_of_isXDigit (hbid s e).1 (hbid s e).2 _,
          Stops_of_class (fun b hb => by simpa using ne_of_class hb (c := 40) (by decide)) (hbid s e).1 (hbid s e).2 _⟩)
        (fun _ => Stops_nil _)
  unfold matchBriefRest
  rw [perm_step g perm (Blank_briefTail g file off bid) (briefTail_skip g file off bid hf hdep _ (by decide) (by decide))]
  unfold briefTail
  simp only []
  rw [file_step g file hf (Blank_optField g _ (Blank_optField' g bid))
      (fun e => by obtain ⟨rfl, rfl⟩ := hdep e; rfl)]
  simp only [hoff]
  rw [← List.append_nil (optField g bid),
    optSpaceField_optField isXDigit g bid [] isReSpace_false_of_isXDigit hbid (Stops_nil _) (fun _ => Stops_nil _)]

/-- a permission field without `x` makes `parseMappingEntry` skip the line -/
theorem skip_iff_not_exec (perm : Option Perm) :
    ((perm.map Perm.print).getD [] ≠ [] ∧ (!((perm.map Perm.print).getD []).contains 120) = true)
      ↔ perm.all Perm.exec = false := by
  cases perm with
  | none => simp
  | some p =>
    have h := perm_print_spec p
    simp only [Option.map_some, Option.getD_some, Option.all_some, h.2.2, Bool.not_eq_true']
    exact and_iff_right h.1

theorem stripColon_blank {X : Str} (h : Blank X) : (stripPrefix [58] X).getD X = X := by
  cases X with
  | nil => rfl
  | cons c t =>
    have : c = 32 := by simpa using h
    simp [stripPrefix, this]

theorem colon_rest (colon : Bool) {X : Str} (hX : Blank X) :
    (∀ p : UInt8 → Bool, p 32 = false → p 58 = false → Stops p ((if colon then [58] else []) ++ X)) ∧
    (stripPrefix [58] ((if colon then [58] else []) ++ X)).getD ((if colon then [58] else []) ++ X) = X := by
  cases colon with
  | true => exact ⟨fun p _ h58 => by simpa using h58, by simp [stripPrefix]⟩
  | false => exact ⟨fun p h32 _ => by simpa using hX.stops p h32, by simpa using stripColon_blank hX⟩

/-- `parseMappingEntry` once the regexps have matched: the line is skipped iff it has a permission
field without `x`; the offset field is absent (0) or a number that reads back. -/
theorem parseMappingEntry_of_fields {l a b rest perm file offS bid : Str} {st en o : Nat} {exec : Bool}
    (hr : matchHexRange l = some (a, b, rest))
    (hf : (matchProcRest rest = some (perm, offS, file) ∧ bid = []) ∨
      (matchProcRest rest = none ∧ matchBriefRest rest = (perm, file, offS, bid)))
    (ha : parseU64Hex a = some st) (hb : parseU64Hex b = some en)
    (ho : (offS = [] ∧ o = 0) ∨ (offS ≠ [] ∧ parseU64Hex offS = some o))
    (hx : (perm ≠ [] ∧ (!perm.contains 120) = true) ↔ exec = false) :
    parseMappingEntry l = if exec then .mapping (mkMapping st en o file bid) else .skip := by
  unfold parseMappingEntry
  obtain ⟨h, h'⟩ | ⟨h, h'⟩ := hf <;> simp only [hr, h, h', ha, hb]
  all_goals
    cases exec with
    | false => rw [if_pos (hx.2 rfl)]; rfl
    | true =>
      rw [if_neg (fun h => by cases hx.1 h)]
      rcases ho with ⟨rfl, rfl⟩ | ⟨hne, hp⟩
      · rfl
      · simp [isEmpty_false_of_ne_nil hne, hp]

theorem parseMappingEntry_print (e : MapEntry) (h : e.wf = true) :
    parseMappingEntry e.print = (match e.mapping with | some m => .mapping m | none => .skip) := by
  rw [e.print_parts]
  obtain ⟨indent, ox, width, start, limit, gap, form⟩ := e
  simp only [MapEntry.wf, Bool.and_eq_true, decide_eq_true_eq] at h
  obtain ⟨⟨hstart, hlimit⟩, hform⟩ := h
  simp only [MapEntry.range, List.append_assoc, List.cons_append]
  cases form with
  | proc perm off dmaj dmin inode file =>
    simp only [Bool.and_eq_true, decide_eq_true_eq] at hform
    have hB : Blank (MapForm.pre gap (.proc perm off dmaj dmin inode file) ++ optField gap file) := by
      simp only [MapForm.pre, List.append_assoc]; exact Blank_sp_succ gap _
    simp only [MapForm.file, MapForm.post, List.append_nil]
    rw [parseMappingEntry_of_fields (exec := perm.exec)
      (matchHexRange_print indent ox width start limit _ (hB.stops _ isXDigit_32) (hB.stops _ (by decide)))
      (by rw [stripColon_blank hB]; exact Or.inl ⟨matchProcRest_proc gap perm off dmaj dmin inode file hform.2, rfl⟩)
      (parseU64Hex_hexPad hstart) (parseU64Hex_hexPad hlimit)
      (Or.inr ⟨hexPad_ne_nil 8 off, parseU64Hex_hexPad hform.1.1.1⟩) (skip_iff_not_exec (some perm))]
    cases hx : perm.exec <;> simp [MapEntry.mapping, hx, mkMapping]
  | brief colon perm file off bid =>
    simp only [Bool.and_eq_true, Bool.or_eq_true] at hform
    obtain ⟨⟨⟨hfile, hbid⟩, hoff⟩, hdep⟩ := hform
    have hdep' : file = none → off = none ∧ bid = none := by
      intro e; subst e; simpa using hdep
    obtain ⟨hrest, hcolon⟩ :=
      colon_rest colon (Blank_optField gap (perm.map Perm.print) (Blank_briefTail gap file off bid))
    have hfields : MapForm.pre gap (.brief colon perm file off bid) ++ (optField gap file ++ MapForm.post gap (.brief colon perm file off bid))
        = (if colon then [58] else []) ++ (optField gap (perm.map Perm.print) ++ briefTail gap file off bid) := by
      simp only [MapForm.pre, MapForm.post, briefTail, List.append_assoc]
    simp only [MapForm.file, hfields]
    rw [parseMappingEntry_of_fields (exec := perm.all Perm.exec) (o := off.getD 0)
      (matchHexRange_print indent ox width start limit _ (hrest _ isXDigit_32 isXDigit_58) (hrest _ (by decide) (by decide)))
      (by rw [hcolon]; exact Or.inr ⟨matchProcRest_brief gap perm file off bid hfile hdep',
        matchBriefRest_brief gap perm file off bid hfile hbid hdep'⟩)
      (parseU64Hex_hexPad hstart) (parseU64Hex_hexPad hlimit)
      (by cases off with
          | none => exact Or.inl ⟨rfl, rfl⟩
          | some o => exact Or.inr ⟨hex_ne_nil o, parseU64Hex_hex (by simpa using hoff)⟩)
      (skip_iff_not_exec perm)]
    cases hx : perm.all Perm.exec <;> simp [MapEntry.mapping, hx, mkMapping]

theorem mem_dedupAux (seen l : List Nat) (a : Nat) : a ∈ dedupAux seen l ↔ (a ∈ l ∧ a ∉ seen) := by
  induction l generalizing seen with
  | nil => simp [dedupAux]
  | cons b l ih =>
    -- `seen` gains `b` exactly when `b` is new; with `ih` either case is a propositional fact about `a = b`, `a ∈ l`, `a ∈ seen`
    by_cases hb : b ∈ seen <;>
      simp only [dedupAux, List.contains_iff_mem, hb, if_true, if_false, List.mem_cons, ih] <;>
      grind

theorem mem_dedup (l : List Nat) (a : Nat) : a ∈ dedup l ↔ a ∈ l := by simp [dedup, mem_dedupAux]

end PV.Legacy
