import PprofVerif.Model.Codec
import PprofVerif.Lemmas.ComposeWireRange
import PprofVerif.Lemmas.OutcomeSafe
/-!
Totality of the wire decoder (property C02), in the form `x.Safe P` of `Lemmas/OutcomeSafe.lean`.  For
`Model/Wire.lean`: `decodeVarint`/`decodeField` never panic, consume at least one byte and return
scalars below 2^64; hence the fuel `data.length` handed to `decodeLoop`/`decodePacked` always suffices
("out of fuel" is unreachable and any larger fuel gives the same result), and a predicate preserved by
every field application is an invariant of `decodeLoop`/`decodeMessage`.
-/
namespace PV

namespace Wire
open Outcome (Safe)

theorem decodeVarintGo_safe : ∀ (data : Bytes) (i u : Nat),
    (decodeVarintGo i u data).Safe fun r => r.1 < two64 ∧ r.2.length < data.length
  | [], i, u => trivial
  | b :: tl, i, u => by
    rw [decodeVarintGo]
    split
    · trivial
    · dsimp only
      split
      · exact ⟨Nat.mod_lt _ (by decide), Nat.lt_succ_self _⟩
      · exact (decodeVarintGo_safe tl _ _).mono fun r hr => ⟨hr.1, Nat.lt_succ_of_lt hr.2⟩

theorem decodeVarint_safe (data : Bytes) :
    (decodeVarint data).Safe fun r => r.1 < two64 ∧ r.2.length < data.length :=
  decodeVarintGo_safe data 0 0

theorem length_drop_lt {d : Bytes} {k n : Nat} (h : d.length < n) : (d.drop k).length < n := by
  rw [List.length_drop]
  exact Nat.lt_of_le_of_lt (Nat.sub_le _ _) h

theorem decodeField_safe (data : Bytes) :
    (decodeField data).Safe fun r => r.1.u64 < two64 ∧ r.2.length < data.length := by
  unfold decodeField
  refine (decodeVarint_safe data).bind fun (x, d) hd => ?_
  have hd : d.length < data.length := hd.2
  dsimp only
  split
  · exact (decodeVarint_safe d).bind fun (u, d2) h2 => ⟨h2.1, Nat.lt_trans h2.2 hd⟩
  · split
    · trivial
    · exact ⟨le_take_lt 8 (by decide) _, length_drop_lt hd⟩
  · refine (decodeVarint_safe d).bind fun (n, d2) h2 => ?_
    have h2 : d2.length < d.length := h2.2
    dsimp only
    split
    · trivial
    · exact ⟨zero_lt_two64, length_drop_lt (Nat.lt_trans h2 hd)⟩
  · split
    · trivial
    · exact ⟨le_take_lt 4 (by decide) _, length_drop_lt hd⟩
  · trivial

theorem decodeLoop_cons {M : Type} (apply : M → Field → Outcome M) (fuel : Nat) (m : M) (b : UInt8)
    (tl : Bytes) : decodeLoop apply (fuel + 1) m (b :: tl) =
      decodeField (b :: tl) >>= fun p => apply m p.1 >>= fun m' => decodeLoop apply fuel m' p.2 := by
  rw [decodeLoop]
  cases decodeField (b :: tl) with
  | ok p => cases h : apply m p.1 <;> simp [h]
  | err e => rfl
  | panic e => rfl

/-- Invariant rule for the message loop; `hstep` may assume the field's scalar fits 64 bits, as it does for
every field `decodeField` returns. -/
theorem decodeLoop_safe {M : Type} (apply : M → Field → Outcome M) (P : M → Prop)
    (hstep : ∀ m f, f.u64 < two64 → P m → (apply m f).Safe P) :
    ∀ (fuel : Nat) (m : M) (data : Bytes), data.length ≤ fuel → P m → (decodeLoop apply fuel m data).Safe P
  | _, m, [], _, hp => by rw [decodeLoop]; exact hp
  | 0, m, _ :: _, h, _ => absurd h (Nat.not_succ_le_zero _)
  | fuel + 1, m, b :: tl, h, hp => by
    rw [decodeLoop_cons]
    exact (decodeField_safe _).bind fun p hf => (hstep m p.1 hf.1 hp).bind fun m' hm' =>
      decodeLoop_safe apply P hstep fuel m' p.2 (Nat.le_of_lt_succ (Nat.lt_of_lt_of_le hf.2 h)) hm'

/-- Any sufficient amount of fuel gives the same result: the fuel parameter is only a
termination device, the model computes Go's `for len(data) > 0` loop. -/
theorem decodeLoop_fuel_irrelevant {M : Type} (apply : M → Field → Outcome M) :
    ∀ (fuel fuel' : Nat) (m : M) (data : Bytes), data.length ≤ fuel → data.length ≤ fuel' →
      decodeLoop apply fuel m data = decodeLoop apply fuel' m data
  | _, _, m, [], _, _ => by rw [decodeLoop, decodeLoop]
  | 0, _, m, _ :: _, h, _ => absurd h (Nat.not_succ_le_zero _)
  | _, 0, m, _ :: _, _, h => absurd h (Nat.not_succ_le_zero _)
  | fuel + 1, fuel' + 1, m, b :: tl, h, h' => by
    rw [decodeLoop_cons, decodeLoop_cons]
    refine Outcome.bind_congr fun p hp => Outcome.bind_congr fun m' _ => ?_
    have hl := ((decodeField_safe _).of_ok hp).2
    exact decodeLoop_fuel_irrelevant apply fuel fuel' m' p.2
      (Nat.le_of_lt_succ (Nat.lt_of_lt_of_le hl h)) (Nat.le_of_lt_succ (Nat.lt_of_lt_of_le hl h'))

theorem decodeMessage_safe {M : Type} (apply : M → Field → Outcome M) (P : M → Prop)
    (hstep : ∀ m f, f.u64 < two64 → P m → (apply m f).Safe P) (zero : M) (hz : P zero) (f : Field) :
    (decodeMessage apply zero f).Safe P := by
  unfold decodeMessage
  split
  · trivial
  · exact decodeLoop_safe apply P hstep _ _ _ (Nat.le_refl _) hz

theorem decodePacked_safe : ∀ (fuel : Nat) (data : Bytes), data.length ≤ fuel →
    (decodePacked fuel data).Safe fun us => ∀ u ∈ us, u < two64
  | _, [], _ => by rw [decodePacked]; exact fun _ h => nomatch h
  | 0, _ :: _, h => absurd h (Nat.not_succ_le_zero _)
  | fuel + 1, b :: tl, h => by
    rw [decodePacked]
    exact (decodeVarint_safe _).bind fun (u, rest) hu =>
      (decodePacked_safe fuel rest (Nat.le_of_lt_succ (Nat.lt_of_lt_of_le hu.2 h))).bind fun r hr =>
        List.forall_mem_cons.mpr ⟨hu.1, hr⟩

theorem decodePacked_fuel_irrelevant :
    ∀ (fuel fuel' : Nat) (data : Bytes), data.length ≤ fuel → data.length ≤ fuel' →
      decodePacked fuel data = decodePacked fuel' data
  | _, _, [], _, _ => by rw [decodePacked, decodePacked]
  | 0, _, _ :: _, h, _ => absurd h (Nat.not_succ_le_zero _)
  | _, 0, _ :: _, _, h => absurd h (Nat.not_succ_le_zero _)
  | fuel + 1, fuel' + 1, b :: tl, h, h' => by
    rw [decodePacked, decodePacked]
    refine Outcome.bind_congr fun (u, rest) hp => ?_
    have hl := ((decodeVarint_safe _).of_ok hp).2
    dsimp only
    rw [decodePacked_fuel_irrelevant fuel fuel' rest
      (Nat.le_of_lt_succ (Nat.lt_of_lt_of_le hl h)) (Nat.le_of_lt_succ (Nat.lt_of_lt_of_le hl h'))]

theorem decodeInt64_safe (f : Field) : (decodeInt64 f).Safe InI64 := by
  unfold decodeInt64
  split
  · trivial
  · exact toI64_InI64 _

theorem decodeUint64_safe {f : Field} (hf : f.u64 < two64) : (decodeUint64 f).Safe (· < two64) := by
  unfold decodeUint64
  split
  · trivial
  · exact hf

theorem decodeBool_safe (f : Field) : (decodeBool f).Safe fun _ => True := by
  unfold decodeBool
  split <;> trivial

theorem decodeString_safe (f : Field) : (decodeString f).Safe fun _ => True := by
  unfold decodeString
  split <;> trivial

theorem decodeUint64s_safe {f : Field} (hf : f.u64 < two64) (xs : List Nat) :
    (decodeUint64s f xs).Safe fun ys => (∀ x ∈ xs, x < two64) → ∀ y ∈ ys, y < two64 := by
  unfold decodeUint64s
  split
  · exact (decodePacked_safe _ _ (Nat.le_refl _)).bind fun us hus hx => List.forall_mem_append.mpr ⟨hx, hus⟩
  · exact (decodeUint64_safe hf).bind fun u hu hx =>
      List.forall_mem_append.mpr ⟨hx, List.forall_mem_singleton.mpr hu⟩

theorem decodeInt64s_safe (f : Field) (xs : List Int) :
    (decodeInt64s f xs).Safe fun ys => (∀ x ∈ xs, InI64 x) → ∀ y ∈ ys, InI64 y := by
  unfold decodeInt64s
  split
  · exact (decodePacked_safe _ _ (Nat.le_refl _)).bind fun us _ hx =>
      List.forall_mem_append.mpr ⟨hx, List.forall_mem_map.mpr fun _ _ => toI64_InI64 _⟩
  · exact (decodeInt64_safe f).bind fun u hu hx =>
      List.forall_mem_append.mpr ⟨hx, List.forall_mem_singleton.mpr hu⟩

end Wire
end PV
