import PprofVerif.Lemmas.TrimTreeTbl
import PprofVerif.Lemmas.TrimTreeAnc
/-!
TrimTree on a forest whose nodes are path keys (`PathForest`).  The loop invariant `Inv`: both edge
views are the specification `specE` under the set of nodes removed so far.  One iteration preserves
it (`stepNode_inv`), so the loop never panics and ends in the specification under the removed set
(`trimLoop_inv`); `RemoveRedundantEdges` then changes nothing (every node has at most one in-edge, so
no edge has a second way round) — `trimTree_forest`.
-/
namespace PV.TrimTree
open PV PV.GSpec PV.Graph
variable {κ : Type} [DecidableEq κ]

/-- the edge table of a forest of path-keyed nodes (what `newTree` builds): every edge goes from a
path to its one-frame extension, and the parent's own in-edge is present too. -/
structure PathForest (E0 : ETable (List κ)) : Prop where
  nodup : KeysNodup E0
  shape : ∀ a b e, ((a, b), e) ∈ E0 → 2 ≤ b.length ∧ a = b.dropLast
  closed : ∀ a b e, ((a, b), e) ∈ E0 → 2 ≤ a.length → (tfind E0 (a.dropLast, a)).isSome = true

/-- the specification of the edge `a → b` when the nodes in `R` have been removed, relative to the
original edge table. -/
def specE (E0 : ETable (List κ)) (R : List κ → Bool) (a b : List κ) : Option EdgeAcc :=
  if R b then none else
  match tfind E0 (b.dropLast, b) with
  | none => none
  | some e => if nearestKept R b = some a then some ⟨e.weight, e.residual || decide (a ≠ b.dropLast)⟩ else none

structure Inv (E0 : ETable (List κ)) (R : List κ → Bool) (st : TState (List κ)) : Prop where
  insNodup : KeysNodup st.ins
  outsNodup : KeysNodup st.outs
  insSpec : ∀ a b, R b = false → tfind st.ins (a, b) = specE E0 R a b
  outsSpec : ∀ a b, R a = false → tfind st.outs (a, b) = specE E0 R a b

theorem specE_some {E0 : ETable (List κ)} {R : List κ → Bool} {a b : List κ} {e : EdgeAcc}
    (h : specE E0 R a b = some e) :
    R b = false ∧ nearestKept R b = some a ∧
    ∃ e0, tfind E0 (b.dropLast, b) = some e0 ∧ e = ⟨e0.weight, e0.residual || decide (a ≠ b.dropLast)⟩ := by
  unfold specE at h
  cases hr : R b with
  | true => simp [hr] at h
  | false =>
    simp only [hr, Bool.false_eq_true, if_false] at h
    cases he : tfind E0 (b.dropLast, b) with
    | none => simp [he] at h
    | some e0 =>
      simp only [he] at h
      by_cases hn : nearestKept R b = some a
      · simp only [hn, if_true] at h
        exact ⟨rfl, hn, e0, rfl, (Option.some.inj h).symm⟩
      · simp [hn] at h

theorem specE_src_removed {E0 : ETable (List κ)} {R : List κ → Bool} {a b : List κ} (h : R a = true) :
    specE E0 R a b = none := by
  cases hs : specE E0 R a b with
  | none => rfl
  | some e =>
    have := (nearestKept_some (specE_some hs).2.1).2
    rw [h] at this; exact absurd this (by simp)

theorem specE_dst_removed {E0 : ETable (List κ)} {R : List κ → Bool} {a b : List κ} (h : R b = true) :
    specE E0 R a b = none := by
  unfold specE; simp [h]

theorem specE_self (E0 : ETable (List κ)) (R : List κ → Bool) (b : List κ) : specE E0 R b b = none := by
  cases hs : specE E0 R b b with
  | none => rfl
  | some e => exact absurd (nearestKept_some (specE_some hs).2.1).1 (not_mem_ancestors_self b)

theorem specE_unique {E0 : ETable (List κ)} {R : List κ → Bool} {a a' b : List κ} {e : EdgeAcc}
    (h : specE E0 R a b = some e) (hne : a' ≠ a) : specE E0 R a' b = none := by
  cases hs : specE E0 R a' b with
  | none => rfl
  | some e' =>
    have h1 := (specE_some h).2.1
    have h2 := (specE_some hs).2.1
    rw [h1] at h2
    exact absurd (Option.some.inj h2).symm hne

theorem PathForest.anc_edge {E0 : ETable (List κ)} (hF : PathForest E0) {b x : List κ}
    (hb : (tfind E0 (b.dropLast, b)).isSome = true) (hx : x ∈ ancestors b) (hx2 : 2 ≤ x.length) :
    (tfind E0 (x.dropLast, x)).isSome = true := by
  induction b using ListFacts.concat_induction with
  | nil => simp [ancestors, prefixes] at hx
  | concat l c ih =>
    obtain ⟨e, he⟩ := Option.isSome_iff_exists.mp hb
    rw [List.dropLast_concat] at he
    have hl : 2 ≤ l.length := by
      have := (mem_ancestors_length hx).2
      simp at this; omega
    have hpe := hF.closed _ _ _ (mem_of_tfind he) hl
    rw [ancestors_concat, if_neg (by rintro rfl; simp at hl)] at hx
    rcases List.mem_cons.mp hx with rfl | hx'
    · exact hpe
    · exact ih hpe hx'

theorem specE_step (E0 : ETable (List κ)) (R : List κ → Bool) (cur a b : List κ) (hb : b ≠ cur) :
    specE E0 (alsoRemoved R cur) a b =
      match specE E0 R cur b with
      | some e => if nearestKept R cur = some a then some { e with residual := true } else none
      | none => specE E0 R a b := by
  have hRb : alsoRemoved R cur b = R b := by simp [alsoRemoved, hb]
  unfold specE
  rw [hRb, nearestKept_step]
  cases hr : R b with
  | true => simp
  | false =>
    cases he0 : tfind E0 (b.dropLast, b) with
    | none => simp
    | some e0 =>
      by_cases hn : nearestKept R b = some cur
      · -- `cur` was the nearest survivor: its own nearest survivor takes over, and is not the parent
        by_cases hc : nearestKept R cur = some a
        · have h1 := (mem_ancestors_length (nearestKept_some hc).1).2
          have h2 := (mem_ancestors_length (nearestKept_some hn).1).2
          have : a ≠ b.dropLast := fun h => by
            have := congrArg List.length h
            simp at this; omega
          simp [hn, hc, this]
        · simp [hn, hc]
      · simp [hn]

theorem specE_step_of_parent (E0 : ETable (List κ)) {R : List κ → Bool} {cur p a b : List κ}
    (hp : nearestKept R cur = some p) (hb : b ≠ cur) :
    specE E0 (alsoRemoved R cur) a b =
      match specE E0 R cur b with
      | none => specE E0 R a b
      | some e => if a = p then some { e with residual := true } else none := by
  rw [specE_step E0 R cur a b hb, hp]
  cases specE E0 R cur b <;> simp [eq_comm]

theorem specE_step_root {E0 : ETable (List κ)} (hF : PathForest E0) (R : List κ → Bool) (cur a b : List κ)
    (hroot : ∀ x, specE E0 R x cur = none) (hcur : R cur = false) (ha : a ≠ cur) (hb : b ≠ cur) :
    specE E0 (alsoRemoved R cur) a b = specE E0 R a b := by
  rw [specE_step E0 R cur a b hb]
  cases hs : specE E0 R cur b with
  | none => rfl
  | some e =>
    simp only
    rw [specE_unique hs ha]
    have hnone : nearestKept R cur = none := by
      cases hn : nearestKept R cur with
      | none => rfl
      | some x =>
        exfalso
        obtain ⟨hr, hnb, e0, he0, _⟩ := specE_some hs
        have hcm := (nearestKept_some hnb).1
        have hx := mem_ancestors_length (nearestKept_some hn).1
        have h2 : 2 ≤ cur.length := by
          have : 0 < x.length := List.length_pos_iff.mpr hx.1
          omega
        have hedge := hF.anc_edge (by rw [he0]; rfl) hcm h2
        obtain ⟨ec, hec⟩ := Option.isSome_iff_exists.mp hedge
        have := hroot x
        unfold specE at this
        simp [hcur, hec, hn] at this
    simp [hnone]

theorem stepNode_kept (K : List κ → Bool) (st : TState (List κ)) (cur : List κ × NodeAcc)
    (h1 : (inEdges st.ins cur.1).length ≤ 1) (hk : K cur.1 = true) :
    stepNode K st cur = .ok { st with nodes := st.nodes ++ [cur] } := by
  unfold stepNode
  have : ¬ (inEdges st.ins cur.1).length > 1 := by omega
  simp [this, hk]

theorem stepNode_root (K : List κ → Bool) (st : TState (List κ)) (cur : List κ × NodeAcc)
    (h0 : inEdges st.ins cur.1 = []) (hk : K cur.1 = false) :
    stepNode K st cur = .ok { st with ins := detachChildren cur.1 st.ins (outEdges st.outs cur.1) } := by
  unfold stepNode
  simp [h0, hk]

theorem stepNode_inner (K : List κ → Bool) (st : TState (List κ)) (cur : List κ × NodeAcc)
    (e : (List κ × List κ) × EdgeAcc) (h1 : inEdges st.ins cur.1 = [e]) (hk : K cur.1 = false) :
    stepNode K st cur = .ok { st with
      ins := (rewire e.1.1 cur.1 (st.ins, tdel st.outs (e.1.1, cur.1))
                (outEdges (tdel st.outs (e.1.1, cur.1)) cur.1)).1,
      outs := (rewire e.1.1 cur.1 (st.ins, tdel st.outs (e.1.1, cur.1))
                (outEdges (tdel st.outs (e.1.1, cur.1)) cur.1)).2 } := by
  unfold stepNode
  simp [h1, hk]

theorem mem_inEdges_of_inv {E0 : ETable (List κ)} {R : List κ → Bool} {st : TState (List κ)}
    (hI : Inv E0 R st) {cur : List κ} (hcur : R cur = false) {e : (List κ × List κ) × EdgeAcc} :
    e ∈ inEdges st.ins cur ↔ e.1.2 = cur ∧ specE E0 R e.1.1 cur = some e.2 := by
  rw [mem_inEdges]
  constructor
  · rintro ⟨hm, rfl⟩
    exact ⟨rfl, (hI.insSpec _ _ hcur).symm.trans (tfind_of_mem hI.insNodup (k := e.1) (v := e.2) hm)⟩
  · rintro ⟨rfl, hs⟩
    exact ⟨mem_of_tfind (k := e.1) (v := e.2) ((hI.insSpec _ _ hcur).trans hs), rfl⟩

theorem inEdges_of_inv {E0 : ETable (List κ)} {R : List κ → Bool} {st : TState (List κ)}
    (hI : Inv E0 R st) (cur : List κ) (hcur : R cur = false) :
    (inEdges st.ins cur = [] ∧ ∀ x, specE E0 R x cur = none) ∨
    (∃ e, inEdges st.ins cur = [e] ∧ e.1.2 = cur ∧ nearestKept R cur = some e.1.1 ∧
          specE E0 R e.1.1 cur = some e.2) := by
  cases hl : inEdges st.ins cur with
  | nil =>
    refine Or.inl ⟨rfl, fun x => ?_⟩
    cases hs : specE E0 R x cur with
    | none => rfl
    | some v =>
      have := (mem_inEdges_of_inv hI hcur (e := ((x, cur), v))).mpr ⟨rfl, hs⟩
      rw [hl] at this
      exact nomatch this
  | cons e r =>
    have he := (mem_inEdges_of_inv hI hcur).mp (hl ▸ List.mem_cons_self)
    have hn := (specE_some he.2).2.1
    -- every in-edge starts at the nearest surviving ancestor, and keys are unique
    have hall : ∀ e' ∈ inEdges st.ins cur, e'.1 = (e.1.1, cur) := fun e' he' => by
      have h' := (mem_inEdges_of_inv hI hcur).mp he'
      rw [← h'.1, Option.some.inj (hn.symm.trans (specE_some h'.2).2.1)]
    have hlen := length_le_one_of_keys_eq (keysNodup_inEdges hI.insNodup cur) _ hall
    rw [hl] at hlen
    obtain rfl : r = [] := List.eq_nil_of_length_eq_zero (Nat.le_zero.mp (Nat.le_of_succ_le_succ hlen))
    exact Or.inr ⟨e, rfl, he.1, hn, he.2⟩

theorem inEdges_le_one {E0 : ETable (List κ)} {R : List κ → Bool} {st : TState (List κ)}
    (hI : Inv E0 R st) (n : List κ) (hn : R n = false) : (inEdges st.ins n).length ≤ 1 := by
  rcases inEdges_of_inv hI n hn with ⟨h0, _⟩ | ⟨e, h1, _⟩
  · rw [h0]; exact Nat.zero_le _
  · rw [h1]; exact Nat.le_refl _

theorem stepNode_inv {E0 : ETable (List κ)} (hF : PathForest E0) (K : List κ → Bool) (R : List κ → Bool)
    (st : TState (List κ)) (cur : List κ × NodeAcc) (hI : Inv E0 R st) (hcur : R cur.1 = false) :
    ∃ st', stepNode K st cur = .ok st' ∧
      Inv E0 (if K cur.1 = true then R else alsoRemoved R cur.1) st' ∧
      st'.nodes = (if K cur.1 = true then st.nodes ++ [cur] else st.nodes) := by
  have hin := inEdges_of_inv hI cur.1 hcur
  cases hk : K cur.1 with
  | true =>
    exact ⟨_, stepNode_kept K st cur (inEdges_le_one hI _ hcur) hk,
      ⟨hI.insNodup, hI.outsNodup, hI.insSpec, hI.outsSpec⟩, rfl⟩
  | false =>
    simp only [Bool.false_eq_true, if_false]
    -- what is left of `R` and of the endpoints once `cur` is removed too
    have hR' : ∀ x, alsoRemoved R cur.1 x = false → R x = false ∧ x ≠ cur.1 := fun x hx => by
      simpa [alsoRemoved] using hx
    have hRc : alsoRemoved R cur.1 cur.1 = true := by simp [alsoRemoved]
    rcases hin with ⟨h0, hroot⟩ | ⟨⟨⟨p, d⟩, ev⟩, h1, hdst, hnear, hspec⟩
    · -- no parent: the children of `cur` lose their in-edge
      have hLf : ∀ b, tfind (outEdges st.outs cur.1) (cur.1, b) = specE E0 R cur.1 b := fun b => by
        rw [tfind_outEdges, if_pos rfl, hI.outsSpec _ _ hcur]
      refine ⟨_, stepNode_root K st cur h0 hk,
        ⟨keysNodup_detachChildren _ _ _ hI.insNodup, hI.outsNodup, ?_, ?_⟩, rfl⟩
      · intro a b hb
        obtain ⟨hRb, hbc⟩ := hR' b hb
        rw [tfind_detachChildren _ _ (keysNodup_outEdges hI.outsNodup _)
          (fun x hx => (mem_outEdges.mp hx).2), hLf, hI.insSpec _ _ hRb]
        by_cases ha : a = cur.1
        · subst ha
          rw [specE_src_removed hRc]
          cases hs : specE E0 R cur.1 b <;> simp
        · rw [specE_step_root hF R cur.1 a b hroot hcur ha hbc]
          cases hs : specE E0 R cur.1 b <;> simp [ha]
      · intro a b ha
        obtain ⟨hRa, hac⟩ := hR' a ha
        show tfind st.outs (a, b) = _
        rw [hI.outsSpec _ _ hRa]
        by_cases hb : b = cur.1
        · subst hb; rw [hroot a, specE_dst_removed hRc]
        · rw [specE_step_root hF R cur.1 a b hroot hcur hac hb]
    · -- one parent `p`: the children of `cur` become residual children of `p`
      simp only at hdst hnear hspec
      subst hdst
      have hpc : p ≠ cur.1 := fun h => not_mem_ancestors_self _ (h ▸ (nearestKept_some hnear).1)
      have hne : ∀ b, ¬ (p, cur.1) = (cur.1, b) := fun b h => hpc (Prod.mk.inj h).1
      have hLn := keysNodup_outEdges (keysNodup_tdel hI.outsNodup (p, cur.1)) cur.1
      have hLs : ∀ x ∈ outEdges (tdel st.outs (p, cur.1)) cur.1, x.1.1 = cur.1 :=
        fun x hx => (mem_outEdges.mp hx).2
      have hLf : ∀ b, tfind (outEdges (tdel st.outs (p, cur.1)) cur.1) (cur.1, b) = specE E0 R cur.1 b :=
        fun b => by rw [tfind_outEdges, if_pos rfl, tfind_tdel, if_neg (hne b), hI.outsSpec _ _ hcur]
      have hnd := keysNodup_rewire p cur.1 (outEdges (tdel st.outs (p, cur.1)) cur.1)
        (st.ins, tdel st.outs (p, cur.1)) hI.insNodup (keysNodup_tdel hI.outsNodup _)
      have hstep := fun a b => specE_step_of_parent E0 (a := a) (b := b) hnear
      refine ⟨_, stepNode_inner K st cur _ h1 hk, ⟨hnd.1, hnd.2, ?_, ?_⟩, rfl⟩
      · intro a b hb
        obtain ⟨hRb, hbc⟩ := hR' b hb
        rw [tfind_rewire_ins p cur.1 _ hLn hLs, hLf, hI.insSpec _ _ hRb, hstep a b hbc]
        cases hs : specE E0 R cur.1 b with
        | none => rfl
        | some e =>
          by_cases hap : a = p
          · simp [hap]
          · by_cases ha : a = cur.1
            · simp [ha]
            · simp [hap, ha, specE_unique hs ha]
      · intro a b ha
        obtain ⟨hRa, hac⟩ := hR' a ha
        rw [tfind_rewire_outs p cur.1 _ hLn hLs, hLf, tfind_tdel, hI.outsSpec _ _ hRa]
        by_cases hb : b = cur.1
        · -- the edge `p → cur` itself was deleted first
          subst hb
          rw [specE_self, specE_dst_removed hRc]
          by_cases hap : a = p
          · simp [hap]
          · simp [Ne.symm hap, specE_unique hspec hap]
        · rw [hstep a b hb, if_neg (fun h => hb (Prod.mk.inj h).2.symm)]
          cases hs : specE E0 R cur.1 b with
          | none => rfl
          | some e =>
            by_cases hap : a = p
            · simp [hap]
            · simp [hap, specE_unique hs hac]

/-- the nodes removed after the nodes `done` have been visited -/
def removedOf (K : List κ → Bool) (done : List (List κ)) : List κ → Bool :=
  fun x => decide (x ∈ done) && !K x

theorem removedOf_step (K : List κ → Bool) (done : List (List κ)) (cur : List κ) :
    (if K cur = true then removedOf K done else alsoRemoved (removedOf K done) cur) =
      removedOf K (done ++ [cur]) := by
  funext x
  by_cases hk : K cur = true <;> by_cases hx : x = cur <;> simp [removedOf, alsoRemoved, hk, hx]

theorem specE_nothing_removed {E0 : ETable (List κ)} (hF : PathForest E0) (a b : List κ) :
    specE E0 (fun _ => false) a b = tfind E0 (a, b) := by
  -- an edge into `b` can only come from its parent
  have hother : a ≠ b.dropLast → tfind E0 (a, b) = none := fun hab =>
    tfind_none_of_not_mem fun v hv => hab (hF.shape _ _ _ hv).2
  unfold specE
  by_cases hab : a = b.dropLast
  · subst hab
    cases hp : tfind E0 (b.dropLast, b) with
    | none => rfl
    | some e0 => simp [nearestKept_parent (R := fun _ => false) (hF.shape _ _ _ (mem_of_tfind hp)).1 rfl]
  · rw [hother hab]
    cases hp : tfind E0 (b.dropLast, b) with
    | none => rfl
    | some e0 =>
      simp [nearestKept_parent (R := fun _ => false) (hF.shape _ _ _ (mem_of_tfind hp)).1 rfl, Ne.symm hab]

theorem inv_initial {E0 : ETable (List κ)} (hF : PathForest E0) (K : List κ → Bool) :
    Inv E0 (removedOf K []) ⟨[], E0, E0⟩ := by
  have : removedOf K [] = fun _ => false := by funext x; simp [removedOf]
  rw [this]
  exact ⟨hF.nodup, hF.nodup, fun a b _ => (specE_nothing_removed hF a b).symm,
    fun a b _ => (specE_nothing_removed hF a b).symm⟩

theorem trimLoop_inv {E0 : ETable (List κ)} (hF : PathForest E0) (K : List κ → Bool)
    (nodes : List (List κ × NodeAcc)) : ∀ (done : List (List κ)) (st : TState (List κ)),
    Inv E0 (removedOf K done) st → (nodes.map Prod.fst).Nodup → (∀ n ∈ nodes.map Prod.fst, n ∉ done) →
    ∃ st', trimLoop K st nodes = .ok st' ∧ Inv E0 (removedOf K (done ++ nodes.map Prod.fst)) st' ∧
      st'.nodes = st.nodes ++ nodes.filter (fun c => K c.1) := by
  induction nodes with
  | nil =>
    intro done st hI _ _
    exact ⟨st, rfl, by rw [List.map_nil, List.append_nil]; exact hI, (List.append_nil _).symm⟩
  | cons cur r ih =>
    intro done st hI hnd hfresh
    rw [List.map_cons, List.nodup_cons] at hnd
    have hcur : removedOf K done cur.1 = false := by
      simp only [removedOf, hfresh cur.1 List.mem_cons_self, decide_false, Bool.false_and]
    obtain ⟨st1, hs1, hI1, hn1⟩ := stepNode_inv hF K _ st cur hI hcur
    rw [removedOf_step] at hI1
    have hfresh' : ∀ n ∈ r.map Prod.fst, n ∉ done ++ [cur.1] := fun n hn hm => by
      rcases List.mem_append.mp hm with h | h
      · exact hfresh n (List.mem_cons_of_mem _ hn) h
      · exact hnd.1 (List.mem_singleton.mp h ▸ hn)
    obtain ⟨st2, hs2, hI2, hn2⟩ := ih (done ++ [cur.1]) st1 hI1 hnd.2 hfresh'
    rw [List.append_assoc] at hI2
    refine ⟨st2, by rw [trimLoop, hs1]; exact hs2, hI2, ?_⟩
    rw [hn2, hn1]
    cases hk : K cur.1 <;> simp [hk]

theorem isRedundantEdge_single (ins : ETable κ) (e : (κ × κ) × EdgeAcc) (h : inEdges ins e.1.2 = [e]) :
    isRedundantEdge ins e.1.1 e.1.2 = .ok false := by
  unfold isRedundantEdge
  simp only [bfs, h, scanIn]
  simp [bfs]

theorem pruneIn_single (io : ETable κ × ETable κ) (e : (κ × κ) × EdgeAcc) (h : inEdges io.1 e.1.2 = [e]) :
    pruneIn [e] io = .ok io := by
  unfold pruneIn
  cases hr : e.2.residual with
  | false => simp
  | true => simp [isRedundantEdge_single io.1 e h, pruneIn]

theorem pruneNodes_forest (sortIn : ETable κ → ETable κ) (hsort : ∀ l, (sortIn l).Perm l)
    (io : ETable κ × ETable κ) : ∀ (l : List κ), (∀ n ∈ l, (inEdges io.1 n).length ≤ 1) →
    pruneNodes sortIn l io = .ok io := by
  intro l
  induction l with
  | nil => intro _; rfl
  | cons n r ih =>
    intro h
    have hn := h n List.mem_cons_self
    have hstep : pruneIn (sortIn (inEdges io.1 n)).reverse io = .ok io := by
      match hl : inEdges io.1 n, hn with
      | [], _ => rw [List.perm_nil.mp (hsort [])]; rfl
      | [e], _ =>
        have hd : e.1.2 = n := (mem_inEdges.mp (hl ▸ List.mem_cons_self)).2
        rw [List.perm_singleton.mp (hsort [e]), List.reverse_singleton]
        exact pruneIn_single io e (hd ▸ hl)
      | _ :: _ :: _, hn => simp at hn
    simp only [pruneNodes, hstep]
    exact ih (fun m hm => h m (List.mem_cons_of_mem _ hm))

theorem removeRedundantEdges_forest (sortIn : ETable κ → ETable κ) (hsort : ∀ l, (sortIn l).Perm l)
    (st : TState κ) (h : ∀ n ∈ st.nodes.map Prod.fst, (inEdges st.ins n).length ≤ 1) :
    removeRedundantEdges sortIn st = .ok st := by
  unfold removeRedundantEdges
  rw [pruneNodes_forest sortIn hsort (st.ins, st.outs) _ (fun n hn => h n (List.mem_reverse.mp hn))]

/-- TrimTree on a path-keyed forest, nodes visited in any duplicate-free order: no panic, the
result is the specification under the removed set, and the node list is the kept nodes in order. -/
theorem trimTree_forest {E0 : ETable (List κ)} (hF : PathForest E0)
    (sortIn : ETable (List κ) → ETable (List κ)) (hsort : ∀ l, (sortIn l).Perm l)
    (K : List κ → Bool) (nodes : List (List κ × NodeAcc)) (hnd : (nodes.map Prod.fst).Nodup) :
    ∃ st, trimTree sortIn K nodes E0 E0 = .ok st ∧
      Inv E0 (removedOf K (nodes.map Prod.fst)) st ∧ st.nodes = nodes.filter (fun c => K c.1) := by
  obtain ⟨st, hs, hI, hn⟩ := trimLoop_inv hF K nodes [] ⟨[], E0, E0⟩ (inv_initial hF K) hnd
    (fun _ _ => List.not_mem_nil)
  rw [List.nil_append] at hI hn
  refine ⟨st, ?_, hI, hn⟩
  rw [trimTree, hs]
  refine removeRedundantEdges_forest sortIn hsort st fun n hm => inEdges_le_one hI n ?_
  obtain ⟨c, hc, rfl⟩ := List.mem_map.mp (hn ▸ hm)
  simp only [removedOf, (List.mem_filter.mp hc).2, Bool.not_true, Bool.and_false]

end PV.TrimTree
