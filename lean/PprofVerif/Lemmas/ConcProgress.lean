import PprofVerif.Lemmas.Conc
import PprofVerif.Lemmas.ListFacts
/-!
Each `Move` lowers a size that starts at `totalSteps prog` and is 0 at termination, so a schedule is never longer
than that and a terminated one has exactly that length.  A configuration whose threads acquire nested locks in
increasing rank is never stuck: follow the chain of holders upwards in rank (`chain_progress`).  One lock at a
time is the trivial hierarchy (`progress`).
-/
namespace PV.Conc
variable {σ : Type} {c c1 c' : Config σ} {i : Nat} {t t' : TState σ} {acq : Option Nat} {act : Option (Action σ)}
  {ev : Option (Section σ)} {sched : List Nat} {log : List (Nat × Section σ)}

def restSize (rest : List (Section σ)) : Nat := (rest.map stepsOf).sum

def tSize : TState σ → Nat
  | .idle rest => restSize rest
  | .inside _ need todo rest => restSize rest + todo.length + need.length + 1

def cfgSize (ts : List (TState σ)) : Nat := (ts.map tSize).sum

theorem cfgSize_set {ts : List (TState σ)} (hi : ts[i]? = some t) :
    cfgSize (ts.set i t') + tSize t = cfgSize ts + tSize t' := by
  induction ts generalizing i with
  | nil => cases hi
  | cons t0 ts ih =>
    cases i with
    | zero =>
      cases hi
      show tSize t' + cfgSize ts + tSize t = tSize t + cfgSize ts + tSize t'
      omega
    | succ k =>
      have := ih (i := k) hi
      show tSize t0 + cfgSize (ts.set k t') + tSize t = tSize t0 + cfgSize ts + tSize t'
      omega

theorem Move.size (hm : Move t acq act ev t') : tSize t = tSize t' + 1 := by
  cases hm with
  | enter0 hl | enter hl =>
    simp only [tSize, restSize, List.map_cons, List.sum_cons, stepsOf, hl, List.length_cons, List.length_nil]
    omega
  | act => exact congrArg (· + 1) (Nat.add_right_comm ..)
  | lock | leave => rfl

theorem step_size (h : step c i = some (c1, ev)) : cfgSize c1.ts + 1 = cfgSize c.ts := by
  obtain ⟨t, acq, act, t', hts, hm, _, rfl⟩ := step_inv h
  have := cfgSize_set (t' := t') hts
  have := hm.size
  show cfgSize (c.ts.set i t') + 1 = _
  omega

theorem exec_length (h : exec c sched = some (c', log)) : sched.length + cfgSize c'.ts = cfgSize c.ts :=
  exec_induction (R := fun c sched _ => sched.length + cfgSize c'.ts = cfgSize c.ts) (Nat.zero_add _)
    (fun hs ih => by have := step_size hs; rw [List.length_cons]; omega) h

theorem cfgSize_terminated (h : c.terminated = true) : cfgSize c.ts = 0 :=
  List.sum_eq_zero_iff_forall_eq_nat.mpr fun n hn => by
    obtain ⟨t, ht, rfl⟩ := List.mem_map.mp hn
    rw [idle_nil_of_terminated h ht]
    rfl

theorem cfgSize_initial (prog : List (Thread σ)) (mem : Mem σ) :
    cfgSize (initial prog mem).ts = totalSteps prog := by
  simp only [cfgSize, initial, totalSteps, List.map_map]
  rfl

variable {rank : Nat → Nat} {held need : List Nat} {todo : List (Action σ)} {rest : List (Section σ)}

def OrderedSec (rank : Nat → Nat) (s : Section σ) : Prop := s.locks.Pairwise fun a b => rank a < rank b

def OrdT (rank : Nat → Nat) : TState σ → Prop
  | .idle rest => ∀ s ∈ rest, OrderedSec rank s
  | .inside held need _ rest =>
    (∀ h ∈ held, ∀ n ∈ need, rank h < rank n) ∧ (need.Pairwise fun a b => rank a < rank b) ∧
    ∀ s ∈ rest, OrderedSec rank s

def OrdCfg (rank : Nat → Nat) (c : Config σ) : Prop :=
  ∀ (i : Nat) (t : TState σ), c.ts[i]? = some t → OrdT rank t

theorem Move.ordT (hm : Move t acq act ev t') (hg : OrdT rank t) : OrdT rank t' := by
  cases hm with
  | enter0 _ => exact ⟨nofun, .nil, fun s hs => hg s (List.mem_cons_of_mem _ hs)⟩
  | enter hl =>
    have h1 : OrderedSec rank _ := hg _ List.mem_cons_self
    rw [OrderedSec, hl, List.pairwise_cons] at h1
    refine ⟨fun h hh n hn => ?_, h1.2, fun s hs => hg s (List.mem_cons_of_mem _ hs)⟩
    cases List.mem_singleton.mp hh
    exact h1.1 n hn
  | lock =>
    obtain ⟨h1, h2, h3⟩ := hg
    rw [List.pairwise_cons] at h2
    refine ⟨fun h hh n hn => ?_, h2.2, h3⟩
    rcases List.mem_cons.mp hh with rfl | hh
    · exact h2.1 n hn
    · exact h1 h hh n (List.mem_cons_of_mem _ hn)
  | act => exact hg
  | leave => exact hg.2.2

theorem ordCfg_exec (hg : OrdCfg rank c) (h : exec c sched = some (c', log)) : OrdCfg rank c' :=
  exec_invariant (step_forall Move.ordT) hg h

theorem ordCfg_initial {prog : List (Thread σ)} (ho : OrderedLocks rank prog) (mem : Mem σ) :
    OrdCfg rank (initial prog mem) :=
  forall_initial (P := fun _ => OrdT rank) (fun _ th hi => ho th (List.mem_of_getElem? hi)) mem

theorem canStep_of (hi : c.ts[i]? = some t) (hs : (step c i).isSome = true) : canStep c = true :=
  List.any_eq_true.mpr ⟨i, List.mem_range.mpr (List.getElem?_eq_some_iff.mp hi).1, hs⟩

theorem canStep_inside (hi : c.ts[i]? = some (.inside held need todo rest))
    (hf : ∀ m ∈ need.head?, free c.ts m = true) : canStep c = true := by
  apply canStep_of hi
  cases need with
  | nil => cases todo <;> simp [step, hi]
  | cons m need => simp [step, hi, hf m rfl]

theorem canStep_idle {s : Section σ} (hi : c.ts[i]? = some (.idle (s :: rest)))
    (hf : ∀ m ∈ s.locks.head?, free c.ts m = true) : canStep c = true := by
  apply canStep_of hi
  cases hl : s.locks with
  | nil => simp [step, hi, hl]
  | cons m need => simp [step, hi, hl, hf m (by rw [hl]; rfl)]

theorem holder_of_not_free {ts : List (TState σ)} {m : Nat} (hf : ¬ free ts m = true) :
    ∃ (j : Nat) (held need : List Nat) (todo : List (Action σ)) (rest : List (Section σ)),
      ts[j]? = some (.inside held need todo rest) ∧ m ∈ held := by
  obtain ⟨tj, htj, hh⟩ := List.all_eq_false.mp (Bool.eq_false_iff.mpr hf)
  obtain ⟨j, hj⟩ := List.getElem?_of_mem htj
  cases tj with
  | idle _ => simp [TState.holds] at hh
  | inside held need todo rest => exact ⟨j, held, need, todo, rest, hj, by simpa [TState.holds] using hh⟩

def waitRank (rank : Nat → Nat) : TState σ → Nat
  | .inside _ (m :: _) _ _ => rank m
  | _ => 0

def rankBound (rank : Nat → Nat) (ts : List (TState σ)) : Nat := (ts.map (waitRank rank)).foldl max 0

/-- The holder of the awaited mutex waits, if at all, for a mutex of higher rank, and the ranks of awaited mutexes
are bounded by `rankBound`.  (The thread is bound in the statement, not by `variable`: the recursive call is about
another one.) -/
theorem chain_progress (hg : OrdCfg rank c) {i m : Nat} {held need : List Nat} {todo : List (Action σ)}
    {rest : List (Section σ)} (hi : c.ts[i]? = some (.inside held (m :: need) todo rest)) : canStep c = true := by
  by_cases hf : free c.ts m = true
  · exact canStep_inside hi fun _ e => by cases e; exact hf
  · obtain ⟨j, held', need', todo', rest', hj, hm⟩ := holder_of_not_free hf
    cases need' with
    | nil => exact canStep_inside hj nofun
    | cons m' need' =>
      have hb : rank m' ≤ rankBound rank c.ts :=
        ListFacts.le_foldl_max (.inr (List.mem_map.mpr ⟨_, List.mem_of_getElem? hj, rfl⟩))
      have hlt : rank m < rank m' := (hg j _ hj).1 m hm m' List.mem_cons_self
      exact chain_progress hg hj
termination_by rankBound rank c.ts - rank m
decreasing_by exact Nat.sub_lt_sub_left (Nat.lt_of_lt_of_le hlt hb) hlt

theorem inside_progress (hg : OrdCfg rank c) (hi : c.ts[i]? = some (.inside held need todo rest)) :
    canStep c = true := by
  cases need with
  | nil => exact canStep_inside hi nofun
  | cons m need => exact chain_progress hg hi

theorem progress_ordered (hg : OrdCfg rank c) (hnt : c.terminated = false) : canStep c = true := by
  obtain ⟨t, ht, hfin⟩ := List.all_eq_false.mp hnt
  obtain ⟨k, hk⟩ := List.getElem?_of_mem ht
  cases t with
  | inside held need todo rest => exact inside_progress hg hk
  | idle rest =>
    cases rest with
    | nil => exact absurd rfl hfin
    | cons s rest =>
      by_cases hf : ∀ m ∈ s.locks.head?, free c.ts m = true
      · exact canStep_idle hk hf
      · -- the first lock of `s` is held, by a thread inside a section
        obtain ⟨m, hf⟩ := Classical.not_forall.mp hf
        obtain ⟨j, held, need, todo, rest, hj, _⟩ := holder_of_not_free fun h => hf fun _ => h
        exact inside_progress hg hj

def SingleT : TState σ → Prop
  | .idle rest => ∀ s ∈ rest, s.locks.length ≤ 1
  | .inside _ need _ rest => need = [] ∧ ∀ s ∈ rest, s.locks.length ≤ 1

def SingleCfg (c : Config σ) : Prop := ∀ (i : Nat) (t : TState σ), c.ts[i]? = some t → SingleT t

theorem Move.singleT (hm : Move t acq act ev t') (hg : SingleT t) : SingleT t' := by
  cases hm with
  | enter0 _ => exact ⟨rfl, fun s hs => hg s (List.mem_cons_of_mem _ hs)⟩
  | enter hl =>
    have h1 := hg _ List.mem_cons_self
    rw [hl] at h1
    exact ⟨List.eq_nil_of_length_eq_zero (Nat.le_zero.mp (Nat.le_of_succ_le_succ h1)),
      fun s hs => hg s (List.mem_cons_of_mem _ hs)⟩
  | lock => cases hg.1
  | act => exact hg
  | leave => exact hg.2

theorem singleCfg_exec (hg : SingleCfg c) (h : exec c sched = some (c', log)) : SingleCfg c' :=
  exec_invariant (step_forall Move.singleT) hg h

theorem singleCfg_initial {prog : List (Thread σ)} (hs : SingleLock prog) (mem : Mem σ) :
    SingleCfg (initial prog mem) :=
  forall_initial (P := fun _ => SingleT) (fun _ th hi => hs th (List.mem_of_getElem? hi)) mem

theorem pairwise_of_length_le_one {α} {R : α → α → Prop} : ∀ {l : List α}, l.length ≤ 1 → l.Pairwise R
  | [], _ => .nil
  | [a], _ => List.pairwise_singleton R a

theorem SingleT.ordT (h : SingleT t) (rank : Nat → Nat) : OrdT rank t := by
  cases t with
  | idle rest => exact fun s hs => pairwise_of_length_le_one (h s hs)
  | inside held need todo rest =>
    obtain ⟨rfl, hr⟩ := h
    exact ⟨nofun, .nil, fun s hs => pairwise_of_length_le_one (hr s hs)⟩

theorem progress {c : Config σ} (hg : SingleCfg c) (hnt : c.terminated = false) : canStep c = true :=
  progress_ordered (rank := fun _ => 0) (fun i t hi => (hg i t hi).ordT _) hnt

end PV.Conc
