import PprofVerif.Model.Session
/-!
Lemmas about `Model/Session` for the C10 property theorems (core Lean only).  What every input, line and
history leaves in place is one relation (`After`); only assignment inputs change the option record,
everything else leaves the state alone or ends the session.
-/
namespace PV.Session

/-- the function `Config.put` maps over the entries, with the key outside the `if`. -/
theorem put_entry (n v : Str) (kv : Str × Str) :
    (if kv.1 == n then (kv.1, v) else kv) = (kv.1, if kv.1 == n then v else kv.2) := by
  split <;> rfl

theorem put_keys (c : Config) (n v : Str) : (c.put n v).keys = c.keys := by
  unfold Config.put Config.keys
  rw [List.map_map]
  exact List.map_congr_left fun kv _ => by rw [Function.comp_apply, put_entry]

theorem get_put_same {c : Config} {n v : Str} (h : n ∈ c.keys) : (c.put n v).get n = some v := by
  unfold Config.put Config.get Config.keys at *
  induction c with
  | nil => cases h
  | cons kv r ih =>
    rw [List.map_cons, put_entry, List.lookup_cons]
    cases hnk : n == kv.1
    · rw [List.map_cons, List.mem_cons] at h
      exact ih (h.resolve_left fun e => by rw [e] at hnk; simp at hnk)
    · simp [eq_of_beq hnk]

theorem get_put_other {c : Config} {n m v : Str} (h : m ≠ n) : (c.put n v).get m = c.get m := by
  unfold Config.put Config.get
  induction c with
  | nil => rfl
  | cons kv r ih =>
    rw [List.map_cons, put_entry, List.lookup_cons, ih]
    obtain ⟨k, w⟩ := kv
    rw [List.lookup_cons]
    cases hmk : m == k
    · rfl
    · -- the entry found is not the one `put` changes
      have : (k == n) = false := beq_false_of_ne (eq_of_beq hmk ▸ h)
      rw [this]; rfl

theorem setField_keys {fl} {f : FieldD} {v : Str} {c c' : Config} (h : setField fl f v c = .ok c') :
    c'.keys = c.keys := by
  -- every branch of `(*config).set` is an error or a `put`
  unfold setField at h
  repeat' split at h
  all_goals cases h
  all_goals exact put_keys ..

theorem configure_keys {fl} {n v : Str} {c c' : Config} (h : configure fl n v c = .ok c') :
    c'.keys = c.keys := by
  unfold configure at h
  split at h
  · cases h
  · split at h
    · exact setField_keys h
    · split at h
      · exact setField_keys h
      · cases h

theorem assign_keys {fl} {s : Session} {n : Str} {rhs : Option Str} {c' : Config}
    (h : assign fl s n rhs = .ok c') : c'.keys = s.cfg.keys := by
  unfold assign at h
  split at h
  · cases h
  · simp only at h
    split at h
    · split at h
      · cases h
      · exact configure_keys h
    · exact configure_keys h

section Shell
variable {π ρ : Type} (E : Env π ρ)

/-- `s'` comes later than `s` in a session: it holds the same pre-serialised profile, sample-type table
and default type, `done` is only ever set, never cleared, and the option record keeps its keys. -/
structure After (s' s : Session) : Prop where
  copier : s'.copier = s.copier
  stypes : s'.stypes = s.stypes
  dfltType : s'.dfltType = s.dfltType
  alive : s'.done = false → s.done = false
  keys : s'.cfg.keys = s.cfg.keys

theorem After.refl (s : Session) : After s s := ⟨rfl, rfl, rfl, id, rfl⟩

theorem After.trans {a b c : Session} (h : After a b) (h' : After b c) : After a c :=
  ⟨h.copier.trans h'.copier, h.stypes.trans h'.stypes, h.dfltType.trans h'.dfltType,
    fun d => h'.alive (h.alive d), h.keys.trans h'.keys⟩

theorem stepInput_assign (s : Session) (i : Str) (h : isAssignInput i = true) :
    stepInput E s i =
      match assign E.floatNorm s (trimSpace (splitEq i).1) (splitEq i).2 with
      | .ok c => ({ s with cfg := c }, [])
      | .error k => (s, [.err k]) := by
  unfold isAssignInput at h
  unfold stepInput
  simp only [h, ↓reduceIte]
  cases assign E.floatNorm s (trimSpace (splitEq i).1) (splitEq i).2 <;> rfl

theorem stepInput_nonassign (s : Session) (i : Str) (h : isAssignInput i = false) :
    (stepInput E s i).1 = s ∨ (stepInput E s i).1 = { s with done := true } := by
  unfold isAssignInput at h
  unfold stepInput
  simp only [h, Bool.false_eq_true, ↓reduceIte]
  split
  · left; rfl
  · split
    · left; rfl
    · split
      · right; rfl
      · split
        · left; rfl
        · split
          · left; rfl
          · split
            · left; rfl
            · right; rfl

theorem stepInput_after (s : Session) (i : Str) : After (stepInput E s i).1 s := by
  cases h : isAssignInput i
  · rcases stepInput_nonassign E s i h with h' | h' <;> rw [h']
    · exact After.refl s
    · exact ⟨rfl, rfl, rfl, nofun, rfl⟩
  · rw [stepInput_assign E s i h]
    split
    · next c hc => exact ⟨rfl, rfl, rfl, id, assign_keys hc⟩
    · exact After.refl s

theorem stepInput_nonassign_alive (E : Env π ρ) (s : Session) (i : Str) (h : isAssignInput i = false)
    (hd : (stepInput E s i).1.done = false) : (stepInput E s i).1 = s := by
  rcases stepInput_nonassign E s i h with h' | h'
  · exact h'
  · rw [h'] at hd; simp at hd

theorem stepInputs_after (l : List Str) : ∀ (s : Session), After (stepInputs E s l).1 s := by
  induction l with
  | nil => exact After.refl
  | cons i r ih =>
    intro s
    unfold stepInputs
    split
    · exact After.refl s
    · exact (ih _).trans (stepInput_after E s i)

theorem stepInputs_done (l : List Str) (s : Session) (h : s.done = true) :
    stepInputs E s l = (s, []) := by
  cases l with
  | nil => rfl
  | cons i r => unfold stepInputs; simp [h]

theorem stepInputs_single {s : Session} {i : Str} (h : s.done = false) :
    stepInputs E s [i] = stepInput E s i := by
  unfold stepInputs
  simp [h, stepInputs]

theorem step_after (s : Session) (l : Str) : After (step E s l).1 s :=
  stepInputs_after E _ s

theorem expand_noShortcut {st : List Str} {l : Str} (h : lookupShortcut st (trimSpace l) = none) :
    expand st l = [trimSpace l] := by
  unfold expand; rw [h]

theorem step_done (s : Session) (l : Str) (h : s.done = true) : step E s l = (s, []) :=
  stepInputs_done E _ s h

theorem not_assignLine {st : List Str} {l : Str} (h : isAssignLine st l = false) :
    lookupShortcut st (trimSpace l) = none ∧ isAssignInput (trimSpace l) = false := by
  unfold isAssignLine at h
  simp only [Bool.or_eq_false_iff] at h
  refine ⟨?_, h.2⟩
  cases hh : lookupShortcut st (trimSpace l) with
  | none => rfl
  | some _ => rw [hh] at h; simp at h

theorem step_nonassign (s : Session) (l : Str) (h : isAssignLine s.stypes l = false) :
    (step E s l).1 = s ∨ (step E s l).1 = { s with done := true } := by
  obtain ⟨h1, h2⟩ := not_assignLine h
  by_cases hd : s.done = true
  · left; rw [step_done E s l hd]
  · have hd' : s.done = false := by simpa using hd
    unfold step
    rw [expand_noShortcut h1, stepInputs_single E hd']
    exact stepInput_nonassign E s _ h2

theorem step_nonassign_alive (s : Session) (l : Str) (h : isAssignLine s.stypes l = false)
    (hd : (step E s l).1.done = false) : (step E s l).1 = s := by
  rcases step_nonassign E s l h with h' | h'
  · exact h'
  · rw [h'] at hd; simp at hd

theorem run_after (h : List Str) : ∀ (s : Session), After (run E s h) s := by
  induction h with
  | nil => exact After.refl
  | cons l t ih => intro s; exact (ih _).trans (step_after E s l)

theorem run_done (h : List Str) : ∀ (s : Session), s.done = true → run E s h = s := by
  induction h with
  | nil => intro s _; rfl
  | cons l t ih =>
    intro s hd
    unfold run
    rw [step_done E s l hd]
    exact ih s hd

theorem run_append (h1 h2 : List Str) : ∀ (s : Session),
    run E s (h1 ++ h2) = run E (run E s h1) h2 := by
  induction h1 with
  | nil => intro s; rfl
  | cons l t ih => intro s; simp only [List.cons_append, run]; exact ih _

theorem run_filter_assign (h : List Str) : ∀ (s : Session),
    (run E s h).done = false →
    run E s (h.filter (isAssignLine s.stypes)) = run E s h := by
  induction h with
  | nil => intro s _; rfl
  | cons l t ih =>
    intro s hd
    have hd1 : (step E s l).1.done = false := (run_after E t _).alive hd
    have hst : (step E s l).1.stypes = s.stypes := (step_after E s l).stypes
    have ih' := ih (step E s l).1 hd
    rw [hst] at ih'
    by_cases ha : isAssignLine s.stypes l = true
    · simp only [List.filter_cons, ha, ↓reduceIte, run]
      exact ih'
    · have ha' : isAssignLine s.stypes l = false := by simpa using ha
      have hs : (step E s l).1 = s := step_nonassign_alive E s l ha' hd1
      simp only [List.filter_cons, ha', Bool.false_eq_true, ↓reduceIte, run]
      rw [hs] at ih' ⊢
      exact ih'

theorem run_nonassign (cs : List Str) (s : Session)
    (hall : ∀ c ∈ cs, isAssignLine s.stypes c = false) (hd : (run E s cs).done = false) : run E s cs = s := by
  rw [← run_filter_assign E cs s hd, List.filter_eq_nil_iff.2 fun c hc => by simp [hall c hc]]
  rfl

theorem run_nonassign_cfg (cs : List Str) : ∀ (s : Session),
    (∀ c ∈ cs, isAssignLine s.stypes c = false) → (run E s cs).cfg = s.cfg := by
  induction cs with
  | nil => intro s _; rfl
  | cons l t ih =>
    intro s hall
    unfold run
    rcases step_nonassign E s l (hall l (List.mem_cons_self ..)) with hs | hs
    · rw [hs]; exact ih s (fun c hc => hall c (List.mem_cons_of_mem _ hc))
    · rw [hs, run_done E t _ rfl]

theorem step_report (s : Session) (c : Str) (hd : s.done = false)
    (hc : isReportLine s.stypes c = true) :
    (step E s c).2 = commandOutput E s.copier s.cfg c := by
  unfold isReportLine at hc
  simp only [Bool.and_eq_true, Bool.not_eq_true'] at hc
  obtain ⟨ha, hm⟩ := hc
  obtain ⟨h1, h2⟩ := not_assignLine ha
  unfold step
  rw [expand_noShortcut h1, stepInputs_single E hd]
  unfold isAssignInput at h2
  unfold stepInput commandOutput
  simp only [h2, Bool.false_eq_true, ↓reduceIte]
  cases hf : fields (trimSpace c) with
  | nil => rfl
  | cons t0 rest =>
    rw [hf] at hm
    simp only [Bool.and_eq_true, Bool.not_eq_true'] at hm
    obtain ⟨⟨ho, hq⟩, hh⟩ := hm
    simp only [ho, hq, hh, Bool.false_eq_true, ↓reduceIte]
    split
    · rfl
    · split <;> rfl

end Shell

section Web
variable {π ρ σ μ : Type} (E : WebEnv π ρ σ μ)

theorem handle_frame (w : Web σ) (r : Req) :
    (handle E w r).1.copier = w.copier ∧ (handle E w r).1.cfg = w.cfg := by
  unfold handle
  cases r with
  | view e ps =>
    simp only
    split
    · simp
    · split <;> simp
  | download => simp
  | saveConfig ps =>
    simp only
    split <;> simp
  | deleteConfig n => simp

theorem serve_frame (rs : List Req) : ∀ (w : Web σ),
    (serve E w rs).copier = w.copier ∧ (serve E w rs).cfg = w.cfg := by
  induction rs with
  | nil => intro w; simp [serve]
  | cons r t ih =>
    intro w
    have h1 := handle_frame E w r
    have h2 := ih (handle E w r).1
    unfold serve
    exact ⟨h2.1.trans h1.1, h2.2.trans h1.2⟩

theorem handle_view (w : Web σ) (e : Endpoint) (ps : List (Str × Str)) :
    (handle E w (.view e ps)).2.body = viewOutput E w.copier w.cfg e ps := by
  unfold handle viewOutput
  simp only
  split
  · rfl
  · split
    · rfl
    · rfl  -- decode failed: no page

end Web

end PV.Session

/-! Props/C10.lean holds property theorems and their `example`s only.  The examples quote the evaluation
`exSession_checks` below, so the session it evaluates is declared here, under the names that file uses. -/

namespace PV.Props.C10
open PV PV.Session

/-- a report generator that DOES mutate its argument (it returns `p + 1`). -/
def exEnv : Env Nat (Nat × List Str × Config) :=
  { decode := fun b => .ok b.length, report := fun p c cmd => ((p, cmd, c), p + 1), floatNorm := fun s => some s }

def exInit : Session := init [1, 2, 3] [lit "samples", lit "cpu"] []

def exHistory : List Str :=
  [lit "top 5 foo -bar", lit "focus=main //: comment", lit "tags k", lit "peek . >out", lit "cum=1", lit "traces"]

end PV.Props.C10

namespace PV.Session
open PV.Props.C10

/-- What the non-vacuity examples of Props/C10 quote about the session above, checked by ONE evaluation:
nearly all of the work of evaluating a session in the kernel is turning the string literals of the option
and command tables into bytes; inside one declaration each literal is converted once, whereas every
separate `decide` converts the tables again. -/
theorem exSession_checks :
    (run exEnv exInit exHistory).done = false ∧
    isReportLine exInit.stypes (lit "top10 -cum") = true ∧
    exHistory.filter (isAssignLine exInit.stypes) = [lit "focus=main //: comment", lit "cum=1"] ∧
    ((cfgAfter exEnv exInit exHistory).get (lit "focus") = some (lit "main") ∧
      (cfgAfter exEnv exInit exHistory).get (lit "sort") = some (lit "cum") ∧
      (cfgAfter exEnv exInit exHistory).get (lit "nodecount") = some (lit "-1") ∧
      (cfgAfter exEnv exInit exHistory).get (lit "output") = some []) ∧
    (lookupShortcut exInit.stypes (trimSpace (lit "focus=main")) = none ∧
      isAssignInput (trimSpace (lit "focus=main")) = true ∧
      (assign exEnv.floatNorm exInit (lit "focus") (some (lit "main"))).toBool = true) ∧
    (lookupField (mk "focus" .str "f" "").name = some (mk "focus" .str "f" "") ∧
      ((mk "focus" .str "f" "").name == lit "sample_index") = false ∧
      (mk "focus" .str "f" "").name ∈ exInit.cfg.keys) ∧
    (isAssignLine exInit.stypes (lit " total_cpu ") = true ∧ isAssignLine exInit.stypes (lit ":") = true ∧
      isAssignLine exInit.stypes (lit "top 5 foo") = false) := by
  decide +kernel

end PV.Session
