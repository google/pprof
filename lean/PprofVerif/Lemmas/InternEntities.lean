import PprofVerif.Lemmas.Intern
/-!
For `postDecode ∘ preEncode` (property C01): for every entity kind whose strings are interned by
`preEncode` (ValueType, Mapping, Function, single header strings / comments) a relation "`x` encodes
`a` in table `t`" (`VTRel`, `MapRel`, `FunRel`, `Res`): stable under table extension, established by
the pre-function (which keeps the table invariant and only extends the table), and sufficient for the
post-function to give back the original entity.
-/
namespace PV
namespace Codec

theorem add_spec (s : Str) (t : StrTab) (h : TabInv t) :
    StepOK t (add s t) (fun t' i => Res t' i s) :=
  addString_spec t s h

def VTRel (t : StrTab) (v : ValueType) (x : ValueTypeX) : Prop :=
  Res t x.typeX v.typ ∧ Res t x.unitX v.unit

theorem VTRel.mono {t t' : StrTab} {v : ValueType} {x : ValueTypeX} (h : t <+: t') (hr : VTRel t v x) :
    VTRel t' v x := ⟨hr.1.mono h, hr.2.mono h⟩

theorem preValueType_run (v : ValueType) (t : StrTab) :
    preValueType v t = ({ typeX := (addString t v.typ).2, unitX := (addString (addString t v.typ).1 v.unit).2 },
      (addString (addString t v.typ).1 v.unit).1) := rfl

theorem preValueType_spec (v : ValueType) (t : StrTab) (h : TabInv t) :
    StepOK t (preValueType v t) (fun t' x => VTRel t' v x) := by
  rw [preValueType_run]
  have h1 := addString_spec t v.typ h
  have h2 := addString_spec _ v.unit h1.1
  exact ⟨h2.1, h1.2.1.trans h2.2.1, h1.2.2.mono h2.2.1, h2.2.2⟩

theorem postValueType_of_VTRel {tab : StrTab} {v : ValueType} {x : ValueTypeX} (h : VTRel tab v x) :
    postValueType tab x = .ok v := by
  unfold postValueType
  rw [getString_of_Res h.1, Outcome.bind_ok, getString_of_Res h.2, Outcome.bind_ok]; rfl

def MapRel (t : StrTab) (m : Mapping) (x : MappingX) : Prop :=
  x.id = m.id ∧ x.start = m.start ∧ x.limit = m.limit ∧ x.offset = m.offset ∧
  x.hasFunctions = m.hasFunctions ∧ x.hasFilenames = m.hasFilenames ∧
  x.hasLineNumbers = m.hasLineNumbers ∧ x.hasInlineFrames = m.hasInlineFrames ∧
  Res t x.fileX m.file ∧ Res t x.buildIDX m.buildID

theorem MapRel.mono {t t' : StrTab} {m : Mapping} {x : MappingX} (h : t <+: t') (hr : MapRel t m x) :
    MapRel t' m x := by
  obtain ⟨a, b, c, d, e, f, g, i, r1, r2⟩ := hr
  exact ⟨a, b, c, d, e, f, g, i, r1.mono h, r2.mono h⟩

theorem preMapping_run (m : Mapping) (t : StrTab) :
    preMapping m t = (MappingX.mk m.id m.start m.limit m.offset
        (addString t m.file).2 (addString (addString t m.file).1 m.buildID).2
         m.hasFunctions m.hasFilenames m.hasLineNumbers m.hasInlineFrames,
      (addString (addString t m.file).1 m.buildID).1) := rfl

theorem preMapping_spec (m : Mapping) (t : StrTab) (h : TabInv t) :
    StepOK t (preMapping m t) (fun t' x => MapRel t' m x) := by
  rw [preMapping_run]
  have h1 := addString_spec t m.file h
  have h2 := addString_spec _ m.buildID h1.1
  exact ⟨h2.1, h1.2.1.trans h2.2.1, rfl, rfl, rfl, rfl, rfl, rfl, rfl, rfl, h1.2.2.mono h2.2.1, h2.2.2⟩

theorem postMapping_of_MapRel {tab : StrTab} {m : Mapping} {x : MappingX} (h : MapRel tab m x) :
    postMapping tab x = .ok m := by
  obtain ⟨a, b, c, d, e, f, g, i, r1, r2⟩ := h
  unfold postMapping
  rw [getString_of_Res r1, Outcome.bind_ok, getString_of_Res r2, Outcome.bind_ok, a, b, c, d, e, f, g, i]; rfl

def FunRel (t : StrTab) (f : Function) (x : FunctionX) : Prop :=
  x.id = f.id ∧ x.startLine = f.startLine ∧
  Res t x.nameX f.name ∧ Res t x.systemNameX f.systemName ∧ Res t x.filenameX f.filename

theorem FunRel.mono {t t' : StrTab} {f : Function} {x : FunctionX} (h : t <+: t') (hr : FunRel t f x) :
    FunRel t' f x := by
  obtain ⟨a, b, r1, r2, r3⟩ := hr
  exact ⟨a, b, r1.mono h, r2.mono h, r3.mono h⟩

theorem preFunction_run (f : Function) (t : StrTab) :
    preFunction f t = (FunctionX.mk f.id (addString t f.name).2
        (addString (addString t f.name).1 f.systemName).2
        (addString (addString (addString t f.name).1 f.systemName).1 f.filename).2 f.startLine,
      (addString (addString (addString t f.name).1 f.systemName).1 f.filename).1) := rfl

theorem preFunction_spec (f : Function) (t : StrTab) (h : TabInv t) :
    StepOK t (preFunction f t) (fun t' x => FunRel t' f x) := by
  rw [preFunction_run]
  have h1 := addString_spec t f.name h
  have h2 := addString_spec _ f.systemName h1.1
  have h3 := addString_spec _ f.filename h2.1
  exact ⟨h3.1, (h1.2.1.trans h2.2.1).trans h3.2.1, rfl, rfl, (h1.2.2.mono h2.2.1).mono h3.2.1,
    h2.2.2.mono h3.2.1, h3.2.2⟩

theorem postFunction_of_FunRel {tab : StrTab} {f : Function} {x : FunctionX} (h : FunRel tab f x) :
    postFunction tab x = .ok f := by
  obtain ⟨a, b, r1, r2, r3⟩ := h
  unfold postFunction
  rw [getString_of_Res r1, Outcome.bind_ok, getString_of_Res r2, Outcome.bind_ok,
    getString_of_Res r3, Outcome.bind_ok, a, b]; rfl

end Codec
end PV
