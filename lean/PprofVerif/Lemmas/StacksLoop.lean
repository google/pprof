import PprofVerif.Lemmas.StacksIntern
/-! C17: the sample loop of `makeInitialStacks`.  `Inv o acc done` is what holds after the samples `done`: the stacks
are `mkStack` of these samples read through the current table, every frame met is in the table, each source's self
value is the sum over the stacks it terminates, its place list is still empty, and source 0 is the root.  Interning
further sources preserves it (`Inv.ext`), finishing a sample extends it (`Inv.finish`); so the loop never fails. -/
namespace PV.Stacks
open PV

/-- the stack the loop builds for a sample with value/frames `x`, given the final `srcs` map. -/
def mkStack (M : List (Key × Nat)) (x : Int × List Frame) : Stack :=
  ⟨x.1, Slice.lit (0 :: x.2.map (idxIn M))⟩

structure Inv (o : Opts) (acc : St × Slice Stack) (done : List (Int × List Frame)) : Prop where
  wf : WF o acc.1
  snn : acc.2.nonnil = true
  stacks : acc.2.elems = done.map (mkStack acc.1.srcs)
  known : ∀ x ∈ done, ∀ f ∈ x.2, (acc.1.srcs.lookup f.key).isSome = true
  self : ∀ i s, acc.1.sources.elems[i]? = some s →
           s.self = Spec.selfOf acc.2.elems i ∧ s.places = Slice.lit []
  root : ∃ s, acc.1.sources.elems[0]? = some s ∧ s.fullName = Str.ofString "root" ∧ s.inlined = false

theorem inRange {o : Opts} {st : St} (h : WF o st) (fs : List Frame)
    (hk : ∀ f ∈ fs, (st.srcs.lookup f.key).isSome = true) :
    ∀ i ∈ 0 :: fs.map (idxIn st.srcs), i < st.sources.elems.length := by
  intro i hi
  rcases List.mem_cons.1 hi with rfl | hi
  · exact h.pos
  · obtain ⟨f, hf, rfl⟩ := List.mem_map.1 hi
    obtain ⟨j, hl⟩ := Option.isSome_iff_exists.1 (hk f hf)
    rw [idxIn_of_lookup hl]
    exact (h.rng _ _ hl).2

theorem Inv.range {o : Opts} {acc : St × Slice Stack} {done : List (Int × List Frame)} (h : Inv o acc done) :
    ∀ st ∈ acc.2.elems, ∀ j ∈ st.sources.elems, j < acc.1.sources.elems.length := by
  intro st hst j hj
  rw [h.stacks] at hst
  obtain ⟨y, hy, rfl⟩ := List.mem_map.1 hst
  exact inRange h.wf y.2 (h.known y hy) j hj

theorem selfOf_eq_zero (stacks : List Stack) (i : Nat)
    (h : ∀ st ∈ stacks, ∀ j ∈ st.sources.elems, j ≠ i) : Spec.selfOf stacks i = 0 := by
  have : stacks.filter (fun st => st.sources.elems.getLast? == some i) = [] := by
    rw [List.filter_eq_nil_iff]
    intro st hst hl
    exact h st hst i (List.mem_of_getLast? (beq_iff_eq.1 hl)) rfl
  rw [Spec.selfOf, this]
  rfl

theorem selfOf_append_single (stacks : List Stack) (n : Stack) (i : Nat) :
    Spec.selfOf (stacks ++ [n]) i =
      Spec.selfOf stacks i + (if n.sources.elems.getLast? = some i then n.value else 0) := by
  simp only [Spec.selfOf, List.filter_append, List.map_append, List.sum_append]
  congr 1
  by_cases h : n.sources.elems.getLast? = some i <;> simp [h]

theorem slice_eq_lit {α} {s : Slice α} {l : List α} (hn : s.nonnil = true) (he : s.elems = l) :
    s = Slice.lit l := by
  cases s; simp_all [Slice.lit]

/-- The stacks built so far read the same through the larger table, and no stack mentions a new source. -/
theorem Inv.ext {o : Opts} {acc : St × Slice Stack} {done : List (Int × List Frame)}
    (h : Inv o acc done) {st' : St} (w : WF o st') (e : Ext acc.1 st') : Inv o (st', acc.2) done := by
  obtain ⟨extra, hex, hfresh⟩ := e.app
  refine ⟨w, h.snn, ?_, fun y hy f hf => (e.known (h.known y hy f hf)).1, ?_, ?_⟩
  · rw [h.stacks]
    refine List.map_congr_left fun y hy => ?_
    rw [mkStack, mkStack, List.map_congr_left fun f hf => (e.known (h.known y hy f hf)).2]
  · intro i s hs
    change st'.sources.elems[i]? = some s at hs
    by_cases hi : i < acc.1.sources.elems.length
    · rw [hex, List.getElem?_append_left hi] at hs
      exact h.self i s hs
    · rw [hex, List.getElem?_append_right (Nat.le_of_not_lt hi)] at hs
      rw [selfOf_eq_zero acc.2.elems i fun st hst j hj e => hi (e ▸ h.range st hst j hj)]
      exact hfresh s (List.mem_of_getElem? hs)
  · obtain ⟨s, hs, hn⟩ := h.root
    exact ⟨s, by rw [← hs]; exact hex ▸ List.getElem?_append_left h.wf.pos, hn⟩

theorem Inv.finish {o : Opts} {st : St} {stacks : Slice Stack} {done : List (Int × List Frame)}
    (h : Inv o (st, stacks) done) (x : Int × List Frame)
    (hk : ∀ f ∈ x.2, (st.srcs.lookup f.key).isSome = true) {leaf : Nat}
    (hleaf : (mkStack st.srcs x).sources.elems.getLast? = some leaf) :
    Inv o (bumpSelf st leaf x.1, stacks.push (mkStack st.srcs x)) (done ++ [x]) := by
  refine ⟨h.wf.bumpSelf leaf x.1, rfl, ?_, ?_, ?_, ?_⟩
  · have hs : stacks.elems = done.map (mkStack st.srcs) := h.stacks
    show stacks.elems ++ [mkStack st.srcs x] = (done ++ [x]).map (mkStack st.srcs)
    rw [List.map_append, hs]
    rfl
  · intro y hy f hf
    rcases List.mem_append.1 hy with hy | hy
    · exact h.known y hy f hf
    · obtain rfl := List.mem_singleton.1 hy
      exact hk f hf
  · intro i s2 hs2
    obtain ⟨s1, hs1, rfl⟩ := Option.map_eq_some_iff.1 ((getElem?_bumpSelf ..).symm.trans hs2)
    obtain ⟨h1, h2⟩ := h.self i s1 hs1
    refine ⟨?_, h2⟩
    change _ = Spec.selfOf (stacks.elems ++ [mkStack st.srcs x]) i
    rw [selfOf_append_single, hleaf, ← h1]
    simp only [Option.some.injEq]
    rfl
  · obtain ⟨s, hs, hn⟩ := h.root
    exact ⟨{ s with self := s.self + if leaf = 0 then x.1 else 0 },
      by rw [getElem?_bumpSelf]; exact congrArg _ hs, hn⟩

theorem sampleStep_spec (o : Opts) (acc : St × Slice Stack) (done : List (Int × List Frame))
    (x : Int × List Frame) (h : Inv o acc done) (hu : NamesInv acc.1) :
    ∃ acc', sampleStep o acc x = .ok acc' ∧ Inv o acc' (done ++ [x]) ∧ NamesInv acc'.1 := by
  obtain ⟨w1, e1, el, nn, kn⟩ := pushFrames_spec o x.2 acc.1 (Slice.lit [0]) h.wf
  have uq := NamesInv_pushFrames o x.2 acc.1 (Slice.lit [0]) hu
  generalize hr : pushFrames o acc.1 (Slice.lit [0]) x.2 = r at w1 e1 el nn kn uq
  have hr2 : r.2 = (mkStack r.1.srcs x).sources := slice_eq_lit (nn rfl) el
  obtain ⟨leaf, hleaf⟩ : ∃ leaf, (mkStack r.1.srcs x).sources.elems.getLast? = some leaf :=
    ⟨_, List.getLast?_eq_some_getLast (List.cons_ne_nil _ _)⟩
  have hlt : leaf < r.1.sources.elems.length := inRange w1 x.2 kn leaf (List.mem_of_getLast? hleaf)
  have hget : r.2.get (r.2.len - 1) = .ok leaf := by
    rw [hr2, Slice.get, Slice.len, ← List.getLast?_eq_getElem?, hleaf]
  refine ⟨(bumpSelf r.1 leaf x.1, acc.2.push (mkStack r.1.srcs x)), ?_,
    (h.ext w1 e1).finish x kn hleaf, uq.bumpSelf leaf x.1⟩
  simp only [sampleStep, hr, hget, Slice.upd, if_pos hlt, bind, Outcome.bind, pure]
  rw [hr2]
  rfl

theorem foldO_sampleStep (o : Opts) (rest : List (Int × List Frame)) :
    ∀ (acc : St × Slice Stack) (done : List (Int × List Frame)), Inv o acc done → NamesInv acc.1 →
    ∃ acc', foldO (sampleStep o) acc rest = .ok acc' ∧ Inv o acc' (done ++ rest) ∧ NamesInv acc'.1 := by
  induction rest with
  | nil => intro acc done h hu; exact ⟨acc, rfl, (List.append_nil done).symm ▸ h, hu⟩
  | cons x r ih =>
    intro acc done h hu
    obtain ⟨acc1, h1, i1, u1⟩ := sampleStep_spec o acc done x h hu
    obtain ⟨acc2, h2, i2⟩ := ih acc1 (done ++ [x]) i1 u1
    rw [List.append_assoc] at i2
    exact ⟨acc2, by rw [foldO, h1]; exact h2, i2⟩

theorem Inv_init (o : Opts) : Inv o (St.init, Slice.lit []) [] := by
  refine ⟨⟨rfl, rfl, fun k i h => (nomatch h), fun k i h => (nomatch h), fun k k' i h => (nomatch h)⟩,
    rfl, rfl, fun x hx => (nomatch hx), fun i s hs => ?_, ⟨rootSource, rfl, rfl, rfl⟩⟩
  match i, hs with
  | 0, hs => obtain rfl : rootSource = s := Option.some.inj hs; exact ⟨rfl, rfl⟩

theorem makeInitialStacks_spec (o : Opts) (rs : List (Int × List Frame)) :
    ∃ acc, makeInitialStacks o rs = .ok acc ∧ Inv o acc rs ∧ NamesInv acc.1 :=
  foldO_sampleStep o rs _ [] (Inv_init o) NamesInv_init

end PV.Stacks
