import PprofVerif.Model.Combine
import PprofVerif.Lemmas.ListFacts
import Mathlib.Tactic.Ring
import Mathlib.Data.List.Nodup
/-!
Lemmas for C07 (Props/C07.lean).  `figure sel φ` is additive in the profile and linear in `sel`; every
operation of the pipeline (`merge`, `combine`, `neg`, `setBase`, `scaleN`) has one lemma saying it keeps
`WF` and one saying what it does to the figures of a column, and the property theorems combine those.
The rounding bounds of ScaleN / Normalize are pointwise bounds on selectors lifted to figures; a total
of absolute values (diff-base total) is itself a figure.
-/
namespace PV.Combine

theorem figure_append (sel : Vals → Int) (φ : StackKey → Bool) (p q : Prof) :
    figure sel φ (p ++ q) = figure sel φ p + figure sel φ q := by
  induction p with
  | nil => simp [figure]
  | cons s r ih => simp only [List.cons_append, figure, ih, Int.add_assoc]

theorem figure_flatten (sel : Vals → Int) (φ : StackKey → Bool) (ps : List Prof) :
    figure sel φ ps.flatten = (ps.map (figure sel φ)).sum := by
  induction ps with
  | nil => simp [figure]
  | cons p r ih => simp [figure_append, ih]

theorem figure_map_vals (sel : Vals → Int) (φ : StackKey → Bool) (f : Vals → Vals) (p : Prof) :
    figure sel φ (p.map (fun s => (s.1, f s.2))) = figure (fun v => sel (f v)) φ p := by
  induction p with
  | nil => simp [figure]
  | cons s r ih => simp [figure, ih]

theorem figure_congr {sel sel' : Vals → Int} {φ : StackKey → Bool} {p : Prof}
    (h : ∀ s ∈ p, sel s.2 = sel' s.2) : figure sel φ p = figure sel' φ p := by
  induction p with
  | nil => rfl
  | cons s r ih =>
    simp only [figure]
    rw [h s (by simp), ih (fun t ht => h t (by simp [ht]))]

theorem figure_mul_sel (sel : Vals → Int) (k : Int) (φ : StackKey → Bool) (p : Prof) :
    figure (fun v => sel v * k) φ p = figure sel φ p * k := by
  induction p with
  | nil => simp [figure]
  | cons s r ih => simp only [figure, ih, Int.add_mul, ite_mul, Int.zero_mul]

theorem figure_filter {sel : Vals → Int} {φ : StackKey → Bool} {f : Sample → Bool} {p : Prof}
    (h0 : ∀ s, f s = false → sel s.2 = 0) : figure sel φ (p.filter f) = figure sel φ p := by
  induction p with
  | nil => rfl
  | cons s r ih =>
    rw [List.filter_cons]
    cases hf : f s
    · simp [figure, ih, h0 s hf]
    · simp [figure, ih]

theorem figure_dropZero {sel : Vals → Int} {φ : StackKey → Bool} {p : Prof}
    (h0 : ∀ v, isZero v = true → sel v = 0) : figure sel φ (dropZero p) = figure sel φ p :=
  figure_filter fun s h => h0 s.2 (by simpa using h)

theorem figure_eq_zero_of_forall (sel : Vals → Int) (φ : StackKey → Bool) (p : Prof)
    (h : ∀ s ∈ p, φ s.1 = false) : figure sel φ p = 0 := by
  induction p with
  | nil => rfl
  | cons s r ih =>
    simp only [figure]
    rw [h s (by simp), ih (fun t ht => h t (by simp [ht]))]; simp

theorem col_of_isZero (i : Nat) (v : Vals) (h : isZero v = true) : col i v = 0 := by
  unfold col
  cases hi : v[i]? with
  | none => rfl
  | some x => simpa using List.all_eq_true.mp h x (List.mem_of_getElem? hi)

theorem isZero_of_col (v : Vals) (h : ∀ i, col i v = 0) : isZero v = true := by
  unfold isZero
  rw [List.all_eq_true]
  intro x hx
  obtain ⟨i, hi, rfl⟩ := List.getElem_of_mem hx
  have := h i
  unfold col at this
  rw [List.getElem?_eq_getElem hi] at this
  simpa using this

theorem getElem?_eq_some_col (v : Vals) (i : Nat) (hi : i < v.length) : v[i]? = some (col i v) := by
  unfold col
  rw [List.getElem?_eq_getElem hi]; rfl

theorem col_vadd (i : Nat) (a b : Vals) (h : a.length = b.length) :
    col i (vadd a b) = col i a + col i b := by
  unfold col vadd
  rw [List.getElem?_zipWith]
  by_cases hi : i < a.length
  · rw [List.getElem?_eq_getElem hi, List.getElem?_eq_getElem (h ▸ hi)]; rfl
  · rw [List.getElem?_eq_none (Nat.le_of_not_lt hi), List.getElem?_eq_none (h ▸ Nat.le_of_not_lt hi)]; rfl

theorem col_map_neg (i : Nat) (v : Vals) : col i (v.map (fun x => -x)) = - col i v := by
  unfold col
  rw [List.getElem?_map]
  cases v[i]? <;> simp

theorem vadd_length (a b : Vals) (h : a.length = b.length) : (vadd a b).length = a.length := by
  simp [vadd, h]

theorem WF_nil (n : Nat) : WF n [] := List.forall_mem_nil _
theorem WF_cons {n : Nat} {s : Sample} {p : Prof} : WF n (s :: p) ↔ s.2.length = n ∧ WF n p :=
  List.forall_mem_cons
theorem WF_append {n : Nat} {p q : Prof} : WF n (p ++ q) ↔ WF n p ∧ WF n q := List.forall_mem_append
theorem WF_filter {n : Nat} {p : Prof} (f : Sample → Bool) (h : WF n p) : WF n (p.filter f) :=
  fun s hs => h s (List.mem_filter.mp hs).1
theorem WF_dropZero {n : Nat} {p : Prof} (h : WF n p) : WF n (dropZero p) := WF_filter _ h
theorem WF_flatten {n : Nat} {ps : List Prof} (h : ∀ p ∈ ps, WF n p) : WF n ps.flatten :=
  List.forall_mem_flatten.mpr h
theorem WF_map_vals {n : Nat} {p : Prof} (f : Vals → Vals) (hf : ∀ s ∈ p, (f s.2).length = s.2.length)
    (h : WF n p) : WF n (p.map (fun s => (s.1, f s.2))) := by
  intro s hs
  obtain ⟨t, ht, rfl⟩ := List.mem_map.mp hs
  exact (hf t ht).trans (h t ht)

theorem addSample_nil (s : Sample) : addSample [] s = [s] := rfl
theorem addSample_cons_eq (k : StackKey) (v : Vals) (r : Prof) (s : Sample) (h : k = s.1) :
    addSample ((k, v) :: r) s = (k, vadd v s.2) :: r := by
  simp [addSample, h]
theorem addSample_cons_ne (k : StackKey) (v : Vals) (r : Prof) (s : Sample) (h : ¬ k = s.1) :
    addSample ((k, v) :: r) s = (k, v) :: addSample r s := by
  simp [addSample, h]

theorem addSample_WF {n : Nat} (acc : Prof) (s : Sample) (ha : WF n acc) (hs : s.2.length = n) :
    WF n (addSample acc s) := by
  induction acc with
  | nil => exact WF_cons.mpr ⟨hs, ha⟩
  | cons a r ih =>
    obtain ⟨k, v⟩ := a
    obtain ⟨hv, hr⟩ := WF_cons.mp ha
    by_cases hk : k = s.1
    · rw [addSample_cons_eq k v r s hk]
      exact WF_cons.mpr ⟨(vadd_length v s.2 (hv.trans hs.symm)).trans hv, hr⟩
    · rw [addSample_cons_ne k v r s hk]
      exact WF_cons.mpr ⟨hv, ih hr⟩

theorem addSample_figure {n : Nat} (i : Nat) (φ : StackKey → Bool) (acc : Prof) (s : Sample)
    (ha : WF n acc) (hs : s.2.length = n) :
    figure (col i) φ (addSample acc s) = figure (col i) φ acc + (if φ s.1 then col i s.2 else 0) := by
  induction acc with
  | nil => simp [addSample, figure]
  | cons a r ih =>
    obtain ⟨k, v⟩ := a
    obtain ⟨hv, hr⟩ := WF_cons.mp ha
    by_cases hk : k = s.1
    · rw [addSample_cons_eq k v r s hk]
      simp only [figure, col_vadd i v s.2 (hv.trans hs.symm), ← hk]
      split
      · exact Int.add_right_comm ..
      · exact (Int.add_zero _).symm
    · rw [addSample_cons_ne k v r s hk]
      simp only [figure, ih hr, Int.add_assoc]

theorem foldl_addSample_WF {n : Nat} (q acc : Prof) (ha : WF n acc) (hq : WF n q) :
    WF n (q.foldl addSample acc) := by
  induction q generalizing acc with
  | nil => exact ha
  | cons s r ih =>
    obtain ⟨hs, hr⟩ := WF_cons.mp hq
    exact ih _ (addSample_WF acc s ha hs) hr

theorem foldl_addSample_figure {n : Nat} (i : Nat) (φ : StackKey → Bool) (q acc : Prof)
    (ha : WF n acc) (hq : WF n q) :
    figure (col i) φ (q.foldl addSample acc) = figure (col i) φ acc + figure (col i) φ q := by
  induction q generalizing acc with
  | nil => simp [figure]
  | cons s r ih =>
    obtain ⟨hs, hr⟩ := WF_cons.mp hq
    simp only [List.foldl_cons, figure]
    rw [ih _ (addSample_WF acc s ha hs) hr, addSample_figure i φ acc s ha hs, Int.add_assoc]

theorem mergeRaw_WF {n : Nat} {p : Prof} (h : WF n p) : WF n (mergeRaw p) :=
  foldl_addSample_WF p [] (WF_nil n) h

theorem mergeRaw_figure {n : Nat} (i : Nat) (φ : StackKey → Bool) (p : Prof) (h : WF n p) :
    figure (col i) φ (mergeRaw p) = figure (col i) φ p := by
  unfold mergeRaw
  rw [foldl_addSample_figure i φ p [] (WF_nil n) h]; simp [figure]

theorem merge_WF {n : Nat} {p : Prof} (h : WF n p) : WF n (merge p) :=
  WF_dropZero (mergeRaw_WF (WF_dropZero h))

theorem merge_figure {n : Nat} (i : Nat) (φ : StackKey → Bool) (p : Prof) (h : WF n p) :
    figure (col i) φ (merge p) = figure (col i) φ p := by
  unfold merge
  rw [figure_dropZero (col_of_isZero i), mergeRaw_figure i φ _ (WF_dropZero h),
    figure_dropZero (col_of_isZero i)]

theorem combine_WF {n : Nat} {ps : List Prof} (h : ∀ p ∈ ps, WF n p) : WF n (combine ps) := by
  unfold combine
  split
  · exact h _ (by simp)
  · exact merge_WF (WF_flatten h)

theorem combine_figure {n : Nat} (i : Nat) (φ : StackKey → Bool) (ps : List Prof)
    (h : ∀ p ∈ ps, WF n p) :
    figure (col i) φ (combine ps) = (ps.map (figure (col i) φ)).sum := by
  unfold combine
  split
  · simp
  · rw [merge_figure i φ _ (WF_flatten h), figure_flatten]

theorem combine_pair (p q : Prof) : combine [p, q] = merge (p ++ q) := by simp [combine]

theorem combine_pair_figure {n : Nat} (i : Nat) (φ : StackKey → Bool) {p q : Prof} (hp : WF n p)
    (hq : WF n q) : figure (col i) φ (combine [p, q]) = figure (col i) φ p + figure (col i) φ q := by
  rw [combine_pair, merge_figure i φ _ (WF_append.mpr ⟨hp, hq⟩), figure_append]

theorem neg_WF {n : Nat} {p : Prof} (h : WF n p) : WF n (neg p) :=
  WF_dropZero (WF_map_vals _ (by simp) h)

theorem neg_figure (i : Nat) (φ : StackKey → Bool) (p : Prof) :
    figure (col i) φ (neg p) = - figure (col i) φ p := by
  unfold neg
  rw [figure_dropZero (col_of_isZero i), figure_map_vals]
  simpa only [col_map_neg, Int.mul_neg, Int.mul_one] using figure_mul_sel (col i) (-1) φ p

theorem setBase_WF {n : Nat} {p : Prof} (h : WF n p) : WF n (setBase p) := by
  intro s hs
  obtain ⟨t, ht, rfl⟩ := List.mem_map.mp hs
  exact h t ht

theorem setBase_figure (sel : Vals → Int) (ψ : List Nat → Bool) (p : Prof) :
    figure sel (fun k => ψ k.frames) (setBase p) = figure sel (fun k => ψ k.frames) p := by
  induction p with
  | nil => rfl
  | cons s r ih =>
    unfold setBase at ih ⊢
    simp [figure, ih]

theorem base_of_mem_setBase {p : Prof} {s : Sample} (h : s ∈ setBase p) : s.1.base = true := by
  obtain ⟨t, _, rfl⟩ := List.mem_map.mp h
  rfl

theorem setBase_InF64 {p : Prof} (h : InF64 p) : InF64 (setBase p) := by
  intro s hs x hx
  obtain ⟨t, ht, rfl⟩ := List.mem_map.mp hs
  exact h t ht x hx

theorem rne53_of_le (v : Int) (h : v.natAbs ≤ 2 ^ 53) : rne53 v = v := by
  unfold rne53
  rw [if_pos h]

theorem scaleNeg1_eq_neg (p : Prof) (h : InF64 p) : scaleNeg1 p = neg p := by
  unfold scaleNeg1 neg
  congr 1
  apply List.map_congr_left
  intro s hs
  congr 1
  apply List.map_congr_left
  intro x hx
  unfold negF64
  rw [rne53_of_le x (h s hs x hx)]

def keys (p : Prof) : List StackKey := p.map (·.1)

theorem addSample_fresh (acc : Prof) (s : Sample) (h : s.1 ∉ keys acc) : addSample acc s = acc ++ [s] := by
  induction acc with
  | nil => rfl
  | cons a r ih =>
    obtain ⟨k, v⟩ := a
    obtain ⟨hk, hr⟩ := not_or.mp (List.mem_cons.not.mp h)
    rw [addSample_cons_ne k v r s (Ne.symm hk), ih hr]; rfl

theorem addSample_keys_of_mem (acc : Prof) (s : Sample) (h : s.1 ∈ keys acc) :
    keys (addSample acc s) = keys acc := by
  induction acc with
  | nil => cases h
  | cons a r ih =>
    obtain ⟨k, v⟩ := a
    by_cases hk : k = s.1
    · rw [addSample_cons_eq k v r s hk]; rfl
    · rw [addSample_cons_ne k v r s hk]
      exact congrArg (k :: ·) (ih ((List.mem_cons.mp h).resolve_left (Ne.symm hk)))

theorem addSample_nodup (acc : Prof) (s : Sample) (h : (keys acc).Nodup) :
    (keys (addSample acc s)).Nodup := by
  by_cases hs : s.1 ∈ keys acc
  · rw [addSample_keys_of_mem acc s hs]; exact h
  · rw [addSample_fresh acc s hs, keys, List.map_append, List.map_singleton, ← List.concat_eq_append]
    exact h.concat hs

theorem foldl_addSample_nodup (q acc : Prof) (h : (keys acc).Nodup) :
    (keys (q.foldl addSample acc)).Nodup := by
  induction q generalizing acc with
  | nil => exact h
  | cons s r ih => exact ih _ (addSample_nodup acc s h)

theorem mergeRaw_nodup (q : Prof) : (keys (mergeRaw q)).Nodup :=
  foldl_addSample_nodup q [] List.nodup_nil

theorem figure_key_of_nodup (sel : Vals → Int) (p : Prof) (hn : (keys p).Nodup) (k : StackKey) (v : Vals)
    (hm : (k, v) ∈ p) : figure sel (fun k' => decide (k' = k)) p = sel v := by
  induction p with
  | nil => cases hm
  | cons s r ih =>
    obtain ⟨hs, hr⟩ := List.nodup_cons.mp hn
    simp only [figure]
    rcases List.mem_cons.mp hm with h | h
    · subst h
      rw [figure_eq_zero_of_forall sel _ r fun t ht => decide_eq_false fun (he : t.1 = k) =>
        hs (he ▸ List.mem_map_of_mem (f := (·.1)) ht)]
      simp
    · have hne : s.1 ≠ k := fun he => hs (by subst he; exact List.mem_map_of_mem (f := (·.1)) h)
      simp [hne, ih hr h]

theorem mergeRaw_entry {n : Nat} (q : Prof) (hq : WF n q) (k : StackKey) (v : Vals)
    (hm : (k, v) ∈ mergeRaw q) (i : Nat) :
    col i v = figure (col i) (fun k' => decide (k' = k)) q := by
  rw [← mergeRaw_figure i _ q hq]
  exact (figure_key_of_nodup (col i) _ (mergeRaw_nodup q) k v hm).symm

theorem self_difference_entries {n : Nat} (p : Prof) (hp : WF n p) :
    ∀ s ∈ mergeRaw (dropZero (p ++ neg p)), isZero s.2 = true := by
  intro s hs
  obtain ⟨k, v⟩ := s
  apply isZero_of_col
  intro i
  have hwf : WF n (dropZero (p ++ neg p)) := WF_dropZero (WF_append.mpr ⟨hp, neg_WF hp⟩)
  rw [mergeRaw_entry _ hwf k v hs i, figure_dropZero (col_of_isZero i), figure_append, neg_figure]
  exact Int.add_right_neg _

theorem merge_self_difference {n : Nat} (p : Prof) (hp : WF n p) : merge (p ++ neg p) = [] := by
  unfold merge dropZero
  rw [List.filter_eq_nil_iff]
  intro s hs
  simp [self_difference_entries p hp s hs]

theorem natAbs_le_of_mul_le {d L : Nat} {x : Int} (hd : 0 < d) (h : ((d : Int) * x).natAbs ≤ d * L) :
    x.natAbs ≤ L := by
  rw [Int.natAbs_mul, Int.natAbs_natCast] at h
  exact Nat.le_of_mul_le_mul_left h hd

/-- `X` stands for `d * ((2 n + d) / (2 d))`; `h1`, `h2` are what that division gives. -/
theorem half_bound (n d X : Nat) (h1 : 2 * X ≤ 2 * n + d) (h2 : 2 * n + d < 2 * X + 2 * d) :
    (2 * (X : Int) - 2 * n).natAbs ≤ d := by omega

theorem round_bound (a : Int) (d : Nat) (hd : 0 < d) :
    (2 * ((d : Int) * roundHalfAway a d) - 2 * a).natAbs ≤ d := by
  have h1 := Nat.mul_div_le (2 * a.natAbs + d) (2 * d)
  have h2 := Nat.lt_mul_div_succ (2 * a.natAbs + d) (Nat.mul_pos Nat.two_pos hd)
  unfold roundHalfAway
  generalize (2 * a.natAbs + d) / (2 * d) = Q at h1 h2 ⊢
  rw [Nat.mul_add, Nat.mul_assoc, Nat.mul_one] at h2
  rw [Nat.mul_assoc] at h1
  have key := half_bound _ _ _ h1 h2
  rw [Int.natCast_mul] at key
  simp only []
  split
  · rw [Int.ofNat_natAbs_of_nonpos (Int.le_of_lt ‹_›)] at key
    rwa [show 2 * ((d : Int) * -(Q : Int)) - 2 * a = -(2 * (d * Q) - 2 * -a) by ring, Int.natAbs_neg]
  · rwa [Int.natAbs_of_nonneg (Int.not_lt.mp ‹_›)] at key

theorem roundHalfAway_mul (v : Int) (d : Nat) (hd : 0 < d) : roundHalfAway (v * d) d = v := by
  have h := round_bound (v * d) d hd
  rw [show 2 * ((d : Int) * roundHalfAway (v * d) d) - 2 * (v * d)
    = d * (2 * (roundHalfAway (v * d) d - v)) by ring] at h
  have := natAbs_le_of_mul_le (L := 1) hd (by rwa [Nat.mul_one])
  omega

theorem roundHalfAway_one (a : Int) : roundHalfAway a 1 = a := by
  simpa using roundHalfAway_mul a 1 Nat.one_pos

theorem scaleVal_ofInt (k v : Int) : scaleVal (Ratio.ofInt k) v = v * k :=
  roundHalfAway_one _

theorem scaleVal_isOne (r : Ratio) (v : Int) (h : r.isOne = true) : scaleVal r v = v := by
  unfold scaleVal
  unfold Ratio.isOne at h
  have : r.num = (r.den : Int) := by simpa using h
  rw [this]
  exact roundHalfAway_mul v r.den r.pos

theorem scaleVec_length (rs : List Ratio) (v : Vals) (h : rs.length = v.length) :
    (scaleVec rs v).length = v.length := by
  simp [scaleVec, h]

theorem col_scaleVec (rs : List Ratio) (v : Vals) (h : rs.length = v.length) (i : Nat)
    (hi : i < rs.length) : col i (scaleVec rs v) = scaleVal rs[i] (col i v) := by
  unfold col scaleVec
  rw [List.getElem?_zipWith]
  rw [List.getElem?_eq_getElem hi, List.getElem?_eq_getElem (h ▸ hi)]
  simp only [Option.getD_some]
  split
  · rename_i h1; rw [scaleVal_isOne _ _ h1]
  · rfl

theorem scaleVec_allOne (rs : List Ratio) (v : Vals) (h : rs.length = v.length)
    (h1 : rs.all Ratio.isOne = true) : scaleVec rs v = v := by
  induction rs generalizing v with
  | nil => rw [List.length_eq_zero_iff.mp h.symm]; rfl
  | cons r rs ih =>
    cases v with
    | nil => cases h
    | cons x xs =>
      rw [List.all_cons, Bool.and_eq_true] at h1
      rw [scaleVec, List.zipWith_cons_cons, if_pos h1.1]
      exact congrArg (x :: ·) (ih xs (Nat.succ.inj h) h1.2)

/-- `keep` is existential because the all-ones shortcut of `ScaleN` returns `p` unfiltered, all-zero
samples included. -/
theorem scaleN_ok (rs : List Ratio) (n : Nat) (p q : Prof) (h : scaleN rs n p = .ok q) (hw : WF n p) :
    n = rs.length ∧ ∃ keep : Sample → Bool, (∀ t, keep t = false → isZero t.2 = true) ∧
      q = (p.map fun s => (s.1, scaleVec rs s.2)).filter keep := by
  unfold scaleN at h
  by_cases hn : n = rs.length
  · refine ⟨hn, ?_⟩
    rw [if_neg (not_not.mpr hn)] at h
    by_cases h1 : rs.all Ratio.isOne = true
    · rw [if_pos h1] at h
      cases h
      have : p.map (fun s => (s.1, scaleVec rs s.2)) = p := ListFacts.map_eq_self fun s hs => by
        rw [scaleVec_allOne rs s.2 (by rw [← hn, hw s hs]) h1]
      exact ⟨fun _ => true, fun _ h => Bool.noConfusion h, by rw [this, List.filter_true]⟩
    · rw [if_neg h1] at h
      split at h
      · cases h
      · cases h; exact ⟨_, fun t ht => by simpa using ht, rfl⟩
  · rw [if_pos hn] at h; cases h

theorem scaleN_mem (rs : List Ratio) (n : Nat) (p q : Prof) (h : scaleN rs n p = .ok q)
    (hw : WF n p) (s : Sample) (hs : s ∈ p) (hnz : isZero (scaleVec rs s.2) = false) :
    (s.1, scaleVec rs s.2) ∈ q := by
  obtain ⟨_, keep, hk, rfl⟩ := scaleN_ok rs n p q h hw
  refine List.mem_filter.mpr ⟨List.mem_map.mpr ⟨s, hs, rfl⟩, ?_⟩
  cases hkt : keep (s.1, scaleVec rs s.2)
  · rw [hk _ hkt] at hnz; cases hnz
  · rfl

theorem scaleN_sound (rs : List Ratio) (n : Nat) (p q : Prof) (h : scaleN rs n p = .ok q)
    (hw : WF n p) (t : Sample) (ht : t ∈ q) : ∃ s ∈ p, t = (s.1, scaleVec rs s.2) := by
  obtain ⟨_, keep, _, rfl⟩ := scaleN_ok rs n p q h hw
  obtain ⟨s, hs, rfl⟩ := List.mem_map.mp (List.mem_filter.mp ht).1
  exact ⟨s, hs, rfl⟩

theorem scaleN_WF (rs : List Ratio) (n : Nat) (p q : Prof) (h : scaleN rs n p = .ok q)
    (hw : WF n p) : WF n q := by
  obtain ⟨hn, keep, _, rfl⟩ := scaleN_ok rs n p q h hw
  exact WF_filter _ (WF_map_vals _ (fun s hs => scaleVec_length rs s.2 (by rw [← hn, hw s hs])) hw)

theorem scaleN_figure (rs : List Ratio) (n : Nat) (p q : Prof) (h : scaleN rs n p = .ok q)
    (hw : WF n p) (i : Nat) (hi : i < rs.length) (φ : StackKey → Bool) :
    figure (col i) φ q = figure (fun v => scaleVal rs[i] (col i v)) φ p := by
  obtain ⟨hn, keep, hk, rfl⟩ := scaleN_ok rs n p q h hw
  rw [figure_filter (fun t ht => col_of_isZero i _ (hk t ht)), figure_map_vals]
  exact figure_congr fun s hs => col_scaleVec rs s.2 (by rw [← hn, hw s hs]) i hi

theorem figure_sub_le (sel sel' : Vals → Int) (D : Nat) (h : ∀ v, (sel v - sel' v).natAbs ≤ D)
    (φ : StackKey → Bool) (p : Prof) :
    (figure sel φ p - figure sel' φ p).natAbs ≤ D * p.length := by
  induction p with
  | nil => simp [figure]
  | cons s r ih =>
    simp only [figure, List.length_cons, Nat.mul_succ]
    split
    · rw [add_sub_add_comm, Int.add_comm]
      exact (Int.natAbs_add_le _ _).trans (Nat.add_le_add ih (h _))
    · rw [Int.zero_add, Int.zero_add]; exact ih.trans (Nat.le_add_right _ _)

theorem figure_scale_bound (r : Ratio) (sel : Vals → Int) (φ : StackKey → Bool) (p : Prof) :
    (figure (fun v => scaleVal r (sel v)) φ p * (2 * r.den) - figure sel φ p * (2 * r.num)).natAbs
      ≤ r.den * p.length := by
  rw [← figure_mul_sel, ← figure_mul_sel]
  apply figure_sub_le
  intro v
  rw [show scaleVal r (sel v) * (2 * (r.den : Int)) - sel v * (2 * r.num)
    = 2 * (r.den * roundHalfAway (sel v * r.num) r.den) - 2 * (sel v * r.num) by unfold scaleVal; ring]
  exact round_bound _ _ r.pos

theorem normRatio_spec (b s : Int) (hs : s ≠ 0) :
    ((normRatio b s).den : Int) * b = s * (normRatio b s).num := by
  unfold normRatio
  simp only [hs, dif_neg, not_false_eq_true]
  rw [← Int.mul_sign_self]; ring

theorem normRatios_length (n : Nat) (p pb : Prof) : (normRatios n p pb).length = n := by
  simp [normRatios]

theorem normRatios_get (n : Nat) (p pb : Prof) (i : Nat) (hi : i < (normRatios n p pb).length) :
    (normRatios n p pb)[i] = normRatio (colSum i pb) (colSum i p) := by
  simp [normRatios]

/-- `S` source total, `B` base total, `N/D = B/S` the Normalize ratio, `F` the scaled total, `L` the number of
samples. -/
theorem scaled_total_bound {D L : Nat} {N B S F : Int} (hD : 0 < D) (hsp : (D : Int) * B = S * N)
    (hb : (F * (2 * (D : Int)) - S * (2 * N)).natAbs ≤ D * L) : 2 * (F - B).natAbs ≤ L := by
  have e : F * (2 * (D : Int)) - S * (2 * N) = D * (2 * (F - B)) := by
    rw [Int.mul_left_comm S, ← hsp]; ring
  rw [e] at hb
  have := natAbs_le_of_mul_le hD hb
  rwa [Int.natAbs_mul] at this

theorem normalize_bound (n : Nat) (p pb q : Prof) (h : normalize n p pb = .ok q) (hw : WF n p)
    (i : Nat) (hi : i < n) (hs : colSum i p ≠ 0) :
    2 * (colSum i q - colSum i pb).natAbs ≤ p.length := by
  have hi' : i < (normRatios n p pb).length := by rw [normRatios_length]; exact hi
  have hf := scaleN_figure _ n p q h hw i hi' (fun _ => true)
  rw [normRatios_get n p pb i hi'] at hf
  have hb := figure_scale_bound (normRatio (colSum i pb) (colSum i p)) (col i) (fun _ => true) p
  rw [← hf] at hb
  exact scaled_total_bound (normRatio _ _).pos (normRatio_spec _ _ hs) hb

theorem mapMO_eq_some_map {α β} {f : α → Option β} {g : α → β} {l : List α}
    (h : ∀ a ∈ l, f a = some (g a)) : mapMO f l = some (l.map g) := by
  induction l with
  | nil => rfl
  | cons a r ih =>
    unfold mapMO
    rw [h a (by simp), ih (fun b hb => h b (by simp [hb]))]
    rfl

theorem mapMO_map {α β γ} (f : α → Option β) (g : γ → α) (l : List γ) :
    mapMO f (l.map g) = mapMO (fun c => f (g c)) l := by
  induction l with
  | nil => rfl
  | cons a r ih => simp only [List.map_cons, mapMO, ih]

theorem mapMO_getElem?_range {α} (l : List α) :
    mapMO (fun i => l[i]?) (List.range l.length) = some l := by
  induction l with
  | nil => rfl
  | cons a r ih =>
    rw [List.length_cons, List.range_succ_eq_map, mapMO, mapMO_map]
    simp only [List.getElem?_cons_zero, Nat.succ_eq_add_one, List.getElem?_cons_succ, ih]

theorem mapMOutcome_eq_ok_map {α β} (f : α → Outcome β) (g : α → β) (l : List α)
    (h : ∀ a ∈ l, f a = .ok (g a)) : mapMOutcome f l = .ok (l.map g) := by
  induction l with
  | nil => rfl
  | cons a r ih =>
    unfold mapMOutcome
    rw [h a (by simp), ih (fun b hb => h b (by simp [hb]))]
    rfl

/-- position of the first column named `t` (0 when there is none — only used under `t ∈ types`). -/
def idxOf (t : Nat) (cols : List ColT) : Nat := (findCol t cols).getD 0

theorem findCol_of_mem (t : Nat) (cols : List ColT) (h : t ∈ cols.map (·.typ)) :
    ∃ i, findCol t cols = some i ∧ ∃ hi : i < cols.length, cols[i].typ = t := by
  induction cols with
  | nil => cases h
  | cons c cs ih =>
    unfold findCol
    by_cases hc : c.typ = t
    · exact ⟨0, if_pos hc, Nat.zero_lt_succ _, hc⟩
    · obtain ⟨i, h1, h2, h3⟩ := ih ((List.mem_cons.mp h).resolve_left (Ne.symm hc))
      exact ⟨i + 1, by rw [if_neg hc, h1]; rfl, Nat.succ_lt_succ h2, h3⟩

theorem findCol_idxOf (t : Nat) (cols : List ColT) (h : t ∈ cols.map (·.typ)) :
    findCol t cols = some (idxOf t cols) ∧ ∃ hi : idxOf t cols < cols.length, cols[idxOf t cols].typ = t := by
  obtain ⟨i, h1, h2, h3⟩ := findCol_of_mem t cols h
  unfold idxOf
  rw [h1]
  exact ⟨rfl, h2, h3⟩

/-- the column of `p` named `t` (first match), as a total function for the statement below. -/
def colOf (p : TProf) (t : Nat) : ColT := (p.cols[idxOf t p.cols]?).getD ⟨t, ⟨0, 0, 0⟩⟩

theorem getElem?_idxOf (p : TProf) (t : Nat) (h : t ∈ p.types) :
    p.cols[idxOf t p.cols]? = some (colOf p t) ∧ (colOf p t).typ = t := by
  obtain ⟨_, hi, hty⟩ := findCol_idxOf t p.cols h
  simp [colOf, List.getElem?_eq_getElem hi, hty]

/-- merge.go `compatibilizeSampleTypes`: the columns become exactly `st` in that order, every sample
is kept, and its `j`-th value is the one it had in the column named `st[j]`. -/
theorem compatibilizeOne_spec (st : List Nat) (p : TProf) (hst : st ≠ [])
    (hin : ∀ t ∈ st, t ∈ p.types) (hw : WF p.cols.length p.samples) :
    compatibilizeOne st p = .ok ⟨st.map (colOf p),
      p.samples.map (fun s => (s.1, st.map (fun t => col (idxOf t p.cols) s.2)))⟩ := by
  have hidx : ∀ t ∈ st, idxOf t p.cols < p.cols.length := fun t ht =>
    (findCol_idxOf t p.cols (hin t ht)).2.1
  have hcols : mapMO (fun i => p.cols[i]?) (st.map (fun t => idxOf t p.cols)) = some (st.map (colOf p)) := by
    rw [mapMO_map]
    exact mapMO_eq_some_map fun t ht => (getElem?_idxOf p t (hin t ht)).1
  have hvals : ∀ s ∈ p.samples, mapMO (fun i => s.2[i]?) (st.map (fun t => idxOf t p.cols))
      = some (st.map (fun t => col (idxOf t p.cols) s.2)) := fun s hs => by
    rw [mapMO_map]
    exact mapMO_eq_some_map fun t ht =>
      getElem?_eq_some_col s.2 _ (by rw [hw s hs]; exact hidx t ht)
  unfold compatibilizeOne
  rw [if_neg hst, mapMO_eq_some_map fun t ht => (findCol_idxOf t p.cols (hin t ht)).1]
  simp only
  split
  · -- `!needToModify` shortcut, `p` returned as is: reading every index of a list back gives the list
    rename_i hid
    rw [hid.1, hid.2, mapMO_getElem?_range] at hcols
    have hs : p.samples.map (fun s => (s.1, st.map (fun t => col (idxOf t p.cols) s.2))) = p.samples :=
      ListFacts.map_eq_self fun s hs => by
        have := hvals s hs
        rw [hid.1, hid.2, ← hw s hs, mapMO_getElem?_range] at this
        rw [← Option.some.inj this]
    rw [← Option.some.inj hcols, hs]
  · rw [hcols, mapMO_eq_some_map fun s hs => by rw [hvals s hs]; rfl]

theorem countOcc_eq_length_filter (t : Nat) (ps : List TProf) (hn : ∀ p ∈ ps, p.types.Nodup) :
    countOcc t ps = (ps.filter fun p => decide (t ∈ p.types)).length := by
  induction ps with
  | nil => rfl
  | cons p r ih =>
    obtain ⟨hp, hr⟩ := List.forall_mem_cons.mp hn
    rw [countOcc, List.map_cons, List.sum_cons, ← countOcc, ih hr, List.filter_cons]
    by_cases ht : t ∈ p.types
    · simp [ht, List.count_eq_one_of_mem hp ht, Nat.add_comm]
    · simp [ht, List.count_eq_zero_of_not_mem ht]

theorem commonTypes_mem (p0 : TProf) (ps : List TProf) (hn : ∀ p ∈ p0 :: ps, p.types.Nodup) (t : Nat) :
    t ∈ commonTypes (p0 :: ps) ↔ ∀ p ∈ p0 :: ps, t ∈ p.types := by
  rw [commonTypes, List.mem_filter, beq_iff_eq, countOcc_eq_length_filter t _ hn,
    List.length_filter_eq_length_iff]
  simp only [decide_eq_true_eq]
  exact ⟨fun h => h.2, fun h => ⟨h p0 List.mem_cons_self, h⟩⟩

theorem commonTypes_sublist (p0 : TProf) (ps : List TProf) :
    (commonTypes (p0 :: ps)).Sublist p0.types := by
  unfold commonTypes
  exact List.filter_sublist

theorem compatibilize_ok (ps : List TProf) (hne : commonTypes ps ≠ [])
    (hin : ∀ p ∈ ps, ∀ t ∈ commonTypes ps, t ∈ p.types)
    (hw : ∀ p ∈ ps, WF p.cols.length p.samples) :
    compatibilize ps = .ok (ps.map (fun p => ⟨(commonTypes ps).map (colOf p),
      p.samples.map (fun s => (s.1, (commonTypes ps).map (fun t => col (idxOf t p.cols) s.2)))⟩)) := by
  unfold compatibilize
  simp only [hne, if_false]
  apply mapMOutcome_eq_ok_map
  intro p hp
  exact compatibilizeOne_spec _ p hne (hin p hp) (hw p hp)

/-- measurement.go `CommonValueType`: within one unit family the result is a member with the smallest
factor. -/
theorem commonUnitGo_finest (f : Nat) (hf : f ≠ 0) (min : ColT) (ts : List ColT) (c : ColT)
    (hfam : ∀ t ∈ min :: ts, t.unit.fam = f) (h : commonUnitGo min ts = .ok c) :
    c ∈ min :: ts ∧ ∀ t ∈ min :: ts, c.unit.factor ≤ t.unit.factor := by
  induction ts generalizing min with
  | nil => cases h; simp
  | cons t ts ih =>
    obtain ⟨hmin, hrest⟩ := List.forall_mem_cons.mp hfam
    obtain ⟨ht, hts⟩ := List.forall_mem_cons.mp hrest
    unfold commonUnitGo at h
    split at h
    · cases h
    · by_cases hfi : finer t.unit min.unit = true
      · -- `t` is finer: the search goes on with `t`; its result is not coarser than `t`, which is below `min`
        rw [if_pos hfi] at h
        obtain ⟨hc, hle⟩ := ih t hrest h
        simp only [finer, Bool.and_eq_true, decide_eq_true_eq] at hfi
        exact ⟨List.mem_cons_of_mem _ hc, List.forall_mem_cons.mpr
          ⟨Nat.le_of_lt (Nat.lt_of_le_of_lt (hle t List.mem_cons_self) hfi.2), hle⟩⟩
      · -- `t` is not finer, so `min` is not coarser than `t`: the search goes on with `min`
        rw [if_neg hfi] at h
        obtain ⟨hc, hle⟩ := ih min (List.forall_mem_cons.mpr ⟨hmin, hts⟩) h
        obtain ⟨hcm, hcts⟩ := List.forall_mem_cons.mp hle
        have hge : min.unit.factor ≤ t.unit.factor :=
          Nat.le_of_not_lt fun hlt => hfi (by simp [finer, ht, hmin, hf, hlt])
        exact ⟨(List.mem_cons.mp hc).elim (fun e => e ▸ List.mem_cons_self)
            fun h => List.mem_cons_of_mem _ (List.mem_cons_of_mem _ h),
          List.forall_mem_cons.mpr ⟨hcm, List.forall_mem_cons.mpr ⟨hcm.trans hge, hcts⟩⟩⟩

theorem addSample_filter (P : StackKey → Bool) (acc : Prof) (s : Sample) :
    (addSample acc s).filter (fun x => P x.1) =
      if P s.1 then addSample (acc.filter (fun x => P x.1)) s else acc.filter (fun x => P x.1) := by
  induction acc with
  | nil => rw [addSample_nil, List.filter_singleton]; cases P s.1 <;> rfl
  | cons a r ih =>
    obtain ⟨k, v⟩ := a
    by_cases hk : k = s.1
    · rw [addSample_cons_eq k v r s hk, List.filter_cons, List.filter_cons, ← hk]
      cases P k
      · rfl
      · exact (addSample_cons_eq k v _ s hk).symm
    · rw [addSample_cons_ne k v r s hk, List.filter_cons, List.filter_cons, ih]
      cases P s.1
      · rfl
      · cases P k
        · rfl
        · exact (addSample_cons_ne k v _ s hk).symm

theorem foldl_addSample_filter (P : StackKey → Bool) (q acc : Prof) :
    (q.foldl addSample acc).filter (fun x => P x.1) =
      (q.filter (fun x => P x.1)).foldl addSample (acc.filter (fun x => P x.1)) := by
  induction q generalizing acc with
  | nil => rfl
  | cons s r ih =>
    rw [List.foldl_cons, ih, addSample_filter, List.filter_cons]
    cases P s.1 <;> rfl

theorem merge_filter (P : StackKey → Bool) (q : Prof) :
    (merge q).filter (fun x => P x.1) = merge (q.filter (fun x => P x.1)) := by
  unfold merge dropZero mergeRaw
  rw [List.filter_comm, foldl_addSample_filter, List.filter_nil, List.filter_comm]

theorem foldl_addSample_nodup_id (q acc : Prof) (h : (keys (acc ++ q)).Nodup) :
    q.foldl addSample acc = acc ++ q := by
  induction q generalizing acc with
  | nil => exact (List.append_nil acc).symm
  | cons s r ih =>
    have hs : s.1 ∉ keys acc := fun hm =>
      (List.nodup_append.mp (List.map_append ▸ h : (keys acc ++ keys (s :: r)).Nodup)).2.2
        _ hm _ List.mem_cons_self rfl
    rw [List.append_cons] at h ⊢
    rw [List.foldl_cons, addSample_fresh acc s hs, ih _ h]

theorem keys_filter_nodup (p : Prof) (f : Sample → Bool) (h : (keys p).Nodup) : (keys (p.filter f)).Nodup := by
  unfold keys at h ⊢
  exact List.Nodup.sublist (List.Sublist.map _ List.filter_sublist) h

theorem dropZero_idem (p : Prof) : dropZero (dropZero p) = dropZero p := by
  unfold dropZero; rw [List.filter_filter]; simp

theorem merge_nodup_id (q : Prof) (h : (keys q).Nodup) : merge q = dropZero q := by
  have hd : (keys ([] ++ dropZero q)).Nodup := keys_filter_nodup q _ h
  rw [merge, mergeRaw, foldl_addSample_nodup_id _ [] hd, List.nil_append, dropZero_idem]

theorem absI_eq_natAbs (x : Int) : absI x = x.natAbs := by
  unfold absI
  split
  · exact (Int.ofNat_natAbs_of_nonpos (Int.le_of_lt ‹_›)).symm
  · exact (Int.natAbs_of_nonneg (Int.not_lt.mp ‹_›)).symm

theorem absTotal_eq_figure (sel : Vals → Int) (p : Prof) :
    absTotal sel p = figure (fun v => absI (sel v)) (fun _ => true) p := by
  induction p with
  | nil => rfl
  | cons s r ih => simp [absTotal, figure, ih]

theorem absTotal_neg (i : Nat) (p : Prof) : absTotal (col i) (neg p) = absTotal (col i) p := by
  rw [absTotal_eq_figure, absTotal_eq_figure, neg,
    figure_dropZero (fun v hv => by rw [col_of_isZero i v hv]; rfl), figure_map_vals]
  exact figure_congr fun s _ => by
    rw [col_map_neg, absI_eq_natAbs, absI_eq_natAbs, Int.natAbs_neg]

theorem absTotal_setBase (sel : Vals → Int) (p : Prof) : absTotal sel (setBase p) = absTotal sel p := by
  rw [absTotal_eq_figure, absTotal_eq_figure]
  exact setBase_figure _ (fun _ => true) p

theorem eq_of_setBase_eq {k1 k2 : StackKey}
    (h : ({ k1 with base := true } : StackKey) = { k2 with base := true }) (hb : k1.base = k2.base) :
    k1 = k2 := by
  cases k1; cases k2
  simp only [StackKey.mk.injEq] at h ⊢
  exact ⟨h.1, h.2.1, hb⟩

theorem keys_neg_setBase_nodup (b : Prof) (hb : ∀ s ∈ b, s.1.base = false) (hnd : (keys b).Nodup) :
    (keys (neg (setBase b))).Nodup := by
  refine keys_filter_nodup _ _ ?_
  rw [keys, setBase, List.map_map, List.map_map]
  refine (List.Nodup.of_map _ hnd).map_on fun x hx y hy hxy => ?_
  exact List.inj_on_of_nodup_map hnd hx hy (eq_of_setBase_eq hxy ((hb x hx).trans (hb y hy).symm))

theorem filter_base_negSetBase (b : Prof) :
    (neg (setBase b)).filter (fun s => s.1.base) = neg (setBase b) := by
  rw [List.filter_eq_self]
  intro s hs
  obtain ⟨t, ht, rfl⟩ := List.mem_map.mp (List.mem_filter.mp hs).1
  exact base_of_mem_setBase (s := t) ht

theorem diffBase_filter_merge (src b : Prof) (hsrc : ∀ s ∈ src, s.1.base = false)
    (hb : ∀ s ∈ b, s.1.base = false) (hnd : (keys b).Nodup) (i : Nat) :
    absTotal (col i) ((merge (src ++ neg (setBase b))).filter (fun s => s.1.base)) = absTotal (col i) b := by
  rw [merge_filter (fun k => k.base), List.filter_append,
    List.filter_eq_nil_iff.mpr fun s hs => by simp [hsrc s hs], filter_base_negSetBase,
    List.nil_append, merge_nodup_id _ (keys_neg_setBase_nodup b hb hnd), absTotal_eq_figure,
    figure_dropZero (fun v hv => by rw [col_of_isZero i v hv]; rfl), ← absTotal_eq_figure,
    absTotal_neg, absTotal_setBase]

theorem keepPinned_eq (rs : List Ratio) (v : Vals) (h1 : ∀ r ∈ rs, r.isOne = false) :
    keepPinned rs v = !isZero (scaleVec rs v) := by
  induction rs generalizing v with
  | nil => rfl
  | cons r rs ih =>
    cases v with
    | nil => rfl
    | cons x xs =>
      obtain ⟨hr, hrs⟩ := List.forall_mem_cons.mp h1
      have := ih xs hrs
      unfold keepPinned scaleVec isZero at this ⊢
      -- head: the column is scaled (`hr`), so it counts iff its scaled value is non-zero; tail: `this`
      rw [List.zipWith_cons_cons, List.zipWith_cons_cons, List.any_cons, List.all_cons, this, hr,
        if_neg Bool.false_ne_true, Bool.not_and]
      rfl

theorem scaleNPinned_eq_scaleN (rs : List Ratio) (n : Nat) (p : Prof)
    (h1 : ∀ r ∈ rs, r.isOne = false) : scaleNPinned rs n p = scaleN rs n p := by
  unfold scaleNPinned scaleN dropZero
  rw [List.filter_map]
  simp only [Function.comp_def, fun v => keepPinned_eq rs v h1]

end PV.Combine
