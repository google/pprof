import PprofVerif.Model.Merge
import PprofVerif.Spec.Weight
import PprofVerif.Lemmas.MergeIntern
import PprofVerif.Lemmas.ProfileValid
import Mathlib.Data.List.Forall2
/-!
Facts about the resolved view (`Model/MergeResolve.lean`): what `optMap` returns (elementwise,
as a `List.Forall₂`, with the few `Forall₂` lemmas the merge proofs read it through), and that
every id of a profile satisfying `Profile.Valid` resolves, with non-nil functions behind every line.
-/
namespace PV.Merge
open PV.Spec

theorem optMap_eq_some_iff {α β : Type} (f : α → Option β) {xs : List α} {ys : List β} :
    optMap f xs = some ys ↔ List.Forall₂ (fun x y => f x = some y) xs ys := by
  constructor
  · intro h
    induction xs generalizing ys with
    | nil => cases h; exact List.Forall₂.nil
    | cons x xs ih =>
      rw [optMap] at h
      cases hx : f x with
      | none => rw [hx] at h; cases h
      | some b =>
        rw [hx] at h
        cases hr : optMap f xs with
        | none => rw [hr] at h; cases h
        | some bs => rw [hr] at h; cases h; exact List.Forall₂.cons hx (ih hr)
  · intro h
    induction h with
    | nil => rfl
    | cons hx _ ih => simp only [optMap, hx, ih]

theorem optMap_of_forall₂ {α β : Type} (f : α → Option β) :
    ∀ (xs : List α) (ys : List β), List.Forall₂ (fun x y => f x = some y) xs ys → optMap f xs = some ys :=
  fun _ _ => (optMap_eq_some_iff f).mpr

theorem optMap_exists {α β : Type} (f : α → Option β) (R : α → β → Prop) :
    ∀ (xs : List α), (∀ x ∈ xs, ∃ y, f x = some y ∧ R x y) →
      ∃ ys, optMap f xs = some ys ∧ List.Forall₂ R xs ys
  | [], _ => ⟨[], rfl, List.Forall₂.nil⟩
  | x :: xs, h => by
    obtain ⟨y, hy, hr⟩ := h x List.mem_cons_self
    obtain ⟨ys, hys, hrs⟩ := optMap_exists f R xs fun a ha => h a (List.mem_cons_of_mem _ ha)
    exact ⟨y :: ys, by simp only [optMap, hy, hys], List.Forall₂.cons hr hrs⟩

theorem optMap_map {α β γ : Type} (f : β → Option γ) (g : α → β) :
    ∀ (xs : List α), optMap f (xs.map g) = optMap (f ∘ g) xs
  | [] => rfl
  | x :: xs => by simp only [List.map_cons, optMap, optMap_map f g xs, Function.comp]

theorem optMap_map_exists {α β γ : Type} (f : β → Option γ) (g : α → β) (P : α → γ → Prop)
    (xs : List α) (h : ∀ x ∈ xs, ∃ y, f (g x) = some y ∧ P x y) :
    ∃ ys, optMap f (xs.map g) = some ys ∧ List.Forall₂ P xs ys :=
  optMap_map f g xs ▸ optMap_exists (f ∘ g) P xs h

theorem optMap_map_eq {α β γ : Type} (f : β → Option γ) (g : α → β) (k : α → γ) (xs : List α)
    (h : ∀ x ∈ xs, f (g x) = some (k x)) : optMap f (xs.map g) = some (xs.map k) :=
  (optMap_eq_some_iff f).mpr
    (List.forall₂_map_left_iff.mpr (List.forall₂_map_right_iff.mpr (List.forall₂_same.mpr h)))

theorem optMap_eq_filterMap {α β : Type} (f : α → Option β) (xs : List α) (h : ∀ x ∈ xs, (f x).isSome) :
    optMap f xs = some (xs.filterMap f) := by
  induction xs with
  | nil => rfl
  | cons x xs ih =>
    obtain ⟨y, hy⟩ := Option.isSome_iff_exists.mp (h x List.mem_cons_self)
    simp only [optMap, hy, ih fun a ha => h a (List.mem_cons_of_mem _ ha), List.filterMap_cons]

theorem forall₂_mem_right {α β : Type} {R : α → β → Prop} {xs : List α} {ys : List β}
    (h : List.Forall₂ R xs ys) {y : β} (hy : y ∈ ys) : ∃ x ∈ xs, R x y := by
  induction h with
  | nil => cases hy
  | cons hr _ ih =>
    rcases List.mem_cons.mp hy with rfl | hy'
    · exact ⟨_, by simp, hr⟩
    · obtain ⟨x, hx, hR⟩ := ih hy'
      exact ⟨x, List.mem_cons_of_mem _ hx, hR⟩

theorem forall₂_mem_left {α β : Type} {R : α → β → Prop} {xs : List α} {ys : List β}
    (h : List.Forall₂ R xs ys) {x : α} (hx : x ∈ xs) : ∃ y ∈ ys, R x y :=
  forall₂_mem_right h.flip hx

theorem forall₂_map_eq {α β γ : Type} {R : α → β → Prop} {f : α → γ} {g : β → γ} {xs : List α} {ys : List β}
    (h : List.Forall₂ R xs ys) (hfg : ∀ x y, R x y → f x = g y) : xs.map f = ys.map g := by
  induction h with
  | nil => rfl
  | cons hr _ ih => simp [hfg _ _ hr, ih]

theorem forall₂_nodup {α β κ ι : Type} {R : α → β → Prop} (f : α → κ) (g : β → ι) {xs : List α} {ys : List β}
    (h : List.Forall₂ R xs ys) (hn : (xs.map f).Nodup)
    (hinj : ∀ x ∈ xs, ∀ x' ∈ xs, ∀ y y', R x y → R x' y' → g y = g y' → f x = f x') : (ys.map g).Nodup := by
  induction h with
  | nil => exact List.nodup_nil
  | @cons x y xs ys hr hrs ih =>
    rw [List.map_cons, List.nodup_cons] at hn ⊢
    refine ⟨?_, ih hn.2 fun a ha a' ha' =>
      hinj a (List.mem_cons_of_mem _ ha) a' (List.mem_cons_of_mem _ ha')⟩
    intro hm
    obtain ⟨y', hy', hgy⟩ := List.mem_map.mp hm
    obtain ⟨x', hx', hr'⟩ := forall₂_mem_right hrs hy'
    have := hinj x List.mem_cons_self x' (List.mem_cons_of_mem _ hx') y y' hr hr' hgy.symm
    exact hn.1 (this ▸ List.mem_map_of_mem hx')

theorem resolveSample_fields {p : Profile} {s : Sample} {rs : RSample} (h : resolveSample p s = some rs) :
    rs.values = s.values ∧ rs.label = s.label ∧ rs.numLabel = s.numLabel ∧ rs.numUnit = s.numUnit ∧
    optMap (resolveLocID p) s.locationIDs = some rs.locs := by
  unfold resolveSample at h
  cases hl : optMap (resolveLocID p) s.locationIDs with
  | none => rw [hl] at h; cases h
  | some locs =>
    rw [hl] at h
    simp only [Option.some.injEq] at h
    subst h
    exact ⟨rfl, rfl, rfl, rfl, rfl⟩

structure ValidParts (p : Profile) : Prop where
  samples : ∀ s ∈ p.samples, s.values.length = p.sampleType.length ∧
      ∀ id ∈ s.locationIDs, id ≠ 0 ∧ p.locations.any (·.id == id) = true
  locs : ∀ l ∈ p.locations, (l.mappingID = 0 ∨ p.mappings.any (·.id == l.mappingID) = true) ∧
      ∀ ln ∈ l.lines, ln.functionID ≠ 0 ∧ p.functions.any (·.id == ln.functionID) = true
  types : p.sampleType.length ≠ 0 ∨ p.samples = []

theorem valid_iff (p : Profile) : p.Valid ↔ ValidParts p ∧ idsNodup (p.mappings.map (·.id)) ∧
    idsNodup (p.functions.map (·.id)) ∧ idsNodup (p.locations.map (·.id)) :=
  (Profile.valid_iff p).trans
    ⟨fun ⟨hT, hS, hM, hF, hL, hR⟩ => ⟨⟨hS, hR, hT⟩, hM, hF, hL⟩,
      fun ⟨⟨hS, hR, hT⟩, hM, hF, hL⟩ => ⟨hT, hS, hM, hF, hL, hR⟩⟩

/-- every line has a function, as in the resolved locations of a valid profile. -/
def RLocation.linesHaveFn (l : RLocation) : Prop := ∀ ln ∈ l.lines, ln.fn.isSome

theorem resolveLoc_valid {p : Profile} (hv : p.Valid) {l : Location} (hl : l ∈ p.locations) :
    ∃ r, resolveLoc p l = some r ∧ r.linesHaveFn := by
  have h1 : ∃ m, resolveMappingRef p l.mappingID = some m := by
    unfold resolveMappingRef
    by_cases h0 : l.mappingID = 0
    · exact ⟨none, by simp [h0]⟩
    · obtain ⟨m, hm, _⟩ := (hv.findMapping hl).resolve_left h0
      rw [if_neg h0, hm]; exact ⟨_, rfl⟩
  obtain ⟨m, hm'⟩ := h1
  obtain ⟨lines, hlines', hfa⟩ := optMap_exists (resolveLine p) (fun _ r => r.fn.isSome) l.lines
    fun ln hln => by
      obtain ⟨h0, f, hf, _⟩ := hv.findFunction hl hln
      exact ⟨_, by rw [resolveLine, if_neg h0, hf], rfl⟩
  refine ⟨⟨l.id, m, l.address, lines, l.isFolded⟩, by simp only [resolveLoc, hm', hlines'], ?_⟩
  intro r hr
  obtain ⟨_, _, hfn⟩ := forall₂_mem_right hfa hr
  exact hfn

theorem resolveSample_valid {p : Profile} (hv : p.Valid) {s : Sample} (hs : s ∈ p.samples) :
    ∃ r, resolveSample p s = some r ∧ ∀ l ∈ r.locs, l.linesHaveFn := by
  obtain ⟨locs, hlocs, hfa⟩ := optMap_exists (resolveLocID p) (fun _ r => r.linesHaveFn) s.locationIDs
    fun id hid => by
      obtain ⟨h0, l, hl, hlm⟩ := hv.findLocation hs hid
      rw [resolveLocID, if_neg h0, hl]
      exact resolveLoc_valid hv hlm
  refine ⟨⟨locs, s.values, s.label, s.numLabel, s.numUnit⟩, by simp only [resolveSample, hlocs], ?_⟩
  intro l hl
  obtain ⟨_, _, hfn⟩ := forall₂_mem_right hfa hl
  exact hfn

theorem resolve_valid {p : Profile} (h : p.Valid) :
    ∃ rs, resolve p = some rs ∧ List.Forall₂ (fun s r => resolveSample p s = some r) p.samples rs ∧
      ∀ r ∈ rs, ∀ l ∈ r.locs, l.linesHaveFn := by
  obtain ⟨rs, hrs, hfa⟩ := optMap_exists (resolveSample p)
    (fun s r => resolveSample p s = some r ∧ ∀ l ∈ r.locs, l.linesHaveFn) p.samples
    fun s hs => (resolveSample_valid h hs).imp fun _ hr => ⟨hr.1, hr⟩
  refine ⟨rs, hrs, hfa.imp fun _ _ hr => hr.1, ?_⟩
  intro r hr
  obtain ⟨_, _, hfn⟩ := forall₂_mem_right hfa hr
  exact hfn.2

end PV.Merge
