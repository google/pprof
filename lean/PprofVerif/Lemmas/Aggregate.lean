import PprofVerif.Lemmas.TagFrames
/-!
`Profile.Aggregate` (model: `Graph.aggregate`) blanks fields of functions, lines and locations in
place and never touches an id.  Two consequences the entry-identity model (`nodeInfo` after
`aggregate`) relies on:

* validity is preserved (`aggregate_valid`), so `samplesOf` is defined on the aggregated profile;
* the frames of the aggregated profile are the frames computed from the ORIGINAL records with the
  blanked fields blanked (`framesOf_aggregate`): id lookups commute with the in-place rewriting.
  Instantiated at the flag sets of `driver.aggregate` this is, per granularity, which `NodeInfo`
  fields identify an entry.
-/
namespace PV.Graph
open PV

def aggFn (f : AggFlags) (fn : Function) : Function :=
  let fn := if !f.function then { fn with name := [], systemName := [], startLine := 0 } else fn
  if !f.filename then { fn with filename := [] } else fn

def aggLines (f : AggFlags) (lines : List Line) : List Line :=
  let lines := if !f.inlineFrame && lines.length > 1 then lines.drop (lines.length - 1) else lines
  let lines := if !f.linenumber then lines.map (fun ln => { ln with line := 0, column := 0 }) else lines
  if !f.columnnumber then lines.map (fun ln => { ln with column := 0 }) else lines

def aggLoc (f : AggFlags) (l : Location) : Location :=
  { l with lines := aggLines f l.lines, address := if !f.address then 0 else l.address }

theorem aggregate_eq (p : Profile) (f : AggFlags) :
    aggregate p f = { p with functions := p.functions.map (aggFn f), locations := p.locations.map (aggLoc f) } := rfl

/-- what aggregation leaves of one function -/
theorem aggFn_eq (f : AggFlags) (fn : Function) :
    aggFn f fn = { id := fn.id, name := if f.function then fn.name else [],
                   systemName := if f.function then fn.systemName else [],
                   filename := if f.filename then fn.filename else [],
                   startLine := if f.function then fn.startLine else 0 } := by
  unfold aggFn; cases f.function <;> cases f.filename <;> rfl

@[simp] theorem aggFn_id (f : AggFlags) (fn : Function) : (aggFn f fn).id = fn.id := by rw [aggFn_eq]
@[simp] theorem aggLoc_id (f : AggFlags) (l : Location) : (aggLoc f l).id = l.id := rfl
@[simp] theorem aggLoc_mappingID (f : AggFlags) (l : Location) : (aggLoc f l).mappingID = l.mappingID := rfl

/-- the inline selection: all lines, or only the last (outermost caller) one -/
def keepLines (f : AggFlags) (lines : List Line) : List Line :=
  if !f.inlineFrame && lines.length > 1 then lines.drop (lines.length - 1) else lines

/-- what aggregation leaves of one line -/
def aggLine (f : AggFlags) (ln : Line) : Line :=
  { functionID := ln.functionID, line := if f.linenumber then ln.line else 0,
    column := if f.linenumber && f.columnnumber then ln.column else 0 }

theorem aggLines_eq (f : AggFlags) (lines : List Line) : aggLines f lines = (keepLines f lines).map (aggLine f) := by
  unfold aggLines keepLines aggLine
  simp only
  generalize (if (!f.inlineFrame && decide (lines.length > 1)) = true then List.drop (lines.length - 1) lines else lines) = ls
  cases f.linenumber <;> cases f.columnnumber <;> simp

theorem keepLines_sub (f : AggFlags) (lines : List Line) : ∀ ln ∈ keepLines f lines, ln ∈ lines := by
  intro ln h
  unfold keepLines at h
  split at h
  · exact List.mem_of_mem_drop h
  · exact h

theorem keepLines_length (f : AggFlags) (lines : List Line) :
    (keepLines f lines).length = if !f.inlineFrame && lines.length > 1 then 1 else lines.length := by
  unfold keepLines
  split
  · rename_i h
    rw [List.length_drop, Nat.sub_sub_self (Nat.le_of_lt (of_decide_eq_true (Bool.and_eq_true_iff.mp h).2))]
  · rfl

theorem keepLines_isEmpty (f : AggFlags) (lines : List Line) : (keepLines f lines).isEmpty = lines.isEmpty := by
  rw [Bool.eq_iff_iff, List.isEmpty_iff_length_eq_zero, List.isEmpty_iff_length_eq_zero, keepLines_length]
  split
  · rename_i h
    have h1 : 1 < lines.length := of_decide_eq_true (Bool.and_eq_true_iff.mp h).2
    exact ⟨fun h0 => (nomatch h0), fun h0 => by rw [h0] at h1; exact nomatch h1⟩
  · exact Iff.rfl

theorem keepLines_length_noinline (f : AggFlags) (hinl : f.inlineFrame = false) (lines : List Line)
    (hne : lines.isEmpty = false) : (keepLines f lines).length = 1 := by
  rw [keepLines_length, hinl]
  split
  · rfl
  · rename_i h
    have h1 : ¬ 1 < lines.length := fun h1 => h (by rw [decide_eq_true h1]; rfl)
    have h0 : lines.length ≠ 0 := fun h => by
      rw [List.isEmpty_iff_length_eq_zero.mpr h] at hne; exact nomatch hne
    exact Nat.le_antisymm (Nat.not_lt.mp h1) (Nat.pos_of_ne_zero h0)

theorem findFunction_aggregate (p : Profile) (f : AggFlags) (id : Nat) :
    (aggregate p f).findFunction id = (p.findFunction id).map (aggFn f) := by
  rw [aggregate_eq]
  unfold Profile.findFunction
  exact ListFacts.find?_map_of_key_eq (aggFn f) (·.id) (aggFn_id f) p.functions id

theorem findLocation_aggregate (p : Profile) (f : AggFlags) (id : Nat) :
    (aggregate p f).findLocation id = (p.findLocation id).map (aggLoc f) := by
  rw [aggregate_eq]
  unfold Profile.findLocation
  exact ListFacts.find?_map_of_key_eq (aggLoc f) (·.id) (aggLoc_id f) p.locations id

theorem findMapping_aggregate (p : Profile) (f : AggFlags) (id : Nat) :
    (aggregate p f).findMapping id = p.findMapping id := rfl

theorem map_key_map {α : Type} (g : α → α) (key : α → Nat) (hk : ∀ a, key (g a) = key a) (l : List α) :
    (l.map g).map key = l.map key := by
  rw [List.map_map]; exact List.map_congr_left fun a _ => hk a

/-- `Aggregate` preserves `CheckValid` + reference closure, for every flag combination. -/
theorem aggregate_valid (p : Profile) (f : AggFlags) (hv : p.Valid) : (aggregate p f).Valid := by
  have hF : (aggregate p f).functions.map (·.id) = p.functions.map (·.id) :=
    map_key_map (aggFn f) (·.id) (aggFn_id f) _
  obtain ⟨_, _, _, pF, _, pR⟩ := (Profile.valid_iff p).mp hv
  refine hv.of_same_ids rfl rfl rfl (map_key_map (aggLoc f) (·.id) (aggLoc_id f) _) (hF ▸ pF) fun l' hl' => ?_
  obtain ⟨l, hl, rfl⟩ := List.mem_map.mp (aggregate_eq p f ▸ hl')
  refine ⟨⟨l, hl, rfl⟩, fun ln' hln' => ?_⟩
  have hln' : ln' ∈ aggLines f l.lines := hln'
  rw [aggLines_eq] at hln'
  obtain ⟨ln, hln, rfl⟩ := List.mem_map.mp hln'
  have h := (pR l hl).2 ln (keepLines_sub f l.lines ln hln)
  exact ⟨h.1, (ListFacts.any_of_map_eq hF _).trans h.2⟩

/-- `nodeInfo` of the aggregated profile written over the ORIGINAL function / line / location:
each identity field is the original one or blank, as the flag says. -/
def nodeInfoAgg (clean : Str → Str) (p : Profile) (o : GOpts) (f : AggFlags) (l : Location) (line : Line)
    (objfile : Str) : Option NodeInfo :=
  let address := if f.address then l.address else 0
  if line.functionID = 0 then
    some { name := [], origName := [], address := address, file := [], startLine := 0, lineno := 0,
           columnno := 0, objfile := objfile }
  else
    match p.findFunction line.functionID with
    | none => none
    | some fn =>
      let name := if f.function then fn.name else []
      let sys := if f.function then fn.systemName else []
      let fname := if f.filename then fn.filename else []
      let file := if fname ≠ [] then clean fname else []
      let orig := if o.origFnNames then sys else []
      let withObj := o.objNames || (name = [] && orig = [])
      some { name := name, origName := orig, address := address, file := file,
             startLine := if withObj && f.function then fn.startLine else 0,
             lineno := if f.linenumber then line.line else 0,
             columnno := if f.linenumber && f.columnnumber then line.column else 0,
             objfile := if withObj then objfile else [] }

/-- `Mapping.File` of a location's mapping ("" for none) -/
def objfileOf (p : Profile) (l : Location) : Str :=
  match p.findMapping l.mappingID with
  | some m => m.file
  | none => []

def locNodesAgg (clean : Str → Str) (p : Profile) (o : GOpts) (f : AggFlags) (l : Location) : Option (List NodeInfo) :=
  optAll (fun ln => nodeInfoAgg clean p o f l ln (objfileOf p l))
    (if l.lines.isEmpty then [({ functionID := 0, line := 0, column := 0 } : Line)] else keepLines f l.lines)

def locOfAgg (clean : Str → Str) (p : Profile) (o : GOpts) (f : AggFlags) (id : Nat) : Option (List NodeInfo) :=
  match p.findLocation id with
  | none => none
  | some l => locNodesAgg clean p o f l

/-- the stack of a sample at the granularity given by the flags, computed on the original profile -/
def framesAgg (clean : Str → Str) (p : Profile) (o : GOpts) (f : AggFlags) (s : Sample) : Option (List NodeInfo) :=
  (optAll (locOfAgg clean p o f) s.locationIDs).map (fun perLoc => (perLoc.map List.reverse).reverse.flatten)

theorem locNodes_eq (clean : Str → Str) (p : Profile) (o : GOpts) (l : Location) :
    locNodes clean p o l = optAll (fun ln => nodeInfo clean p o l ln (objfileOf p l))
      (if l.lines.isEmpty then [({ functionID := 0, line := 0, column := 0 } : Line)] else l.lines) := rfl

theorem nodeInfo_aggregate (clean : Str → Str) (p : Profile) (o : GOpts) (f : AggFlags) (l : Location)
    (ln : Line) (objfile : Str) :
    nodeInfo clean (aggregate p f) o (aggLoc f l) (aggLine f ln) objfile = nodeInfoAgg clean p o f l ln objfile := by
  -- the start line is the one field the two sides do not compute by the same expression
  have hsl : ∀ (b c : Bool) (x : Int),
      (if b = true then (if c = true then x else 0) else 0) = if (b && c) = true then x else 0 := by
    intro b c x; cases b <;> cases c <;> rfl
  unfold nodeInfo nodeInfoAgg
  rw [show (aggLine f ln).functionID = ln.functionID from rfl,
    show (aggLoc f l).address = if f.address then l.address else 0 by unfold aggLoc; cases f.address <;> rfl,
    findFunction_aggregate]
  cases p.findFunction ln.functionID with
  | none => rfl
  | some fn => simp only [Option.map_some, aggFn_eq, hsl]; rfl

theorem locNodes_aggregate (clean : Str → Str) (p : Profile) (o : GOpts) (f : AggFlags) (l : Location) :
    locNodes clean (aggregate p f) o (aggLoc f l) = locNodesAgg clean p o f l := by
  -- the lines walked on the left are the images under `aggLine` of the lines walked on the right
  have hlines : (if (aggLoc f l).lines.isEmpty then [({ functionID := 0, line := 0, column := 0 } : Line)]
        else (aggLoc f l).lines) =
      (if l.lines.isEmpty then [({ functionID := 0, line := 0, column := 0 } : Line)]
        else keepLines f l.lines).map (aggLine f) := by
    rw [show (aggLoc f l).lines = _ from aggLines_eq f l.lines, List.isEmpty_map, keepLines_isEmpty]
    split
    · unfold aggLine; cases f.linenumber <;> cases f.columnnumber <;> rfl
    · rfl
  rw [locNodes_eq, hlines, optAll_map]
  exact optAll_congr fun ln _ => nodeInfo_aggregate clean p o f l ln _
theorem framesOf_aggregate (clean : Str → Str) (p : Profile) (o : GOpts) (f : AggFlags) (s : Sample) :
    framesOf clean (aggregate p f) o s = framesAgg clean p o f s := by
  rw [framesOf_eq]
  unfold framesAgg
  congr 1
  apply optAll_congr
  intro id _
  unfold locOf locOfAgg
  rw [findLocation_aggregate]
  cases p.findLocation id with
  | none => rfl
  | some l => simp only [Option.map_some]; exact locNodes_aggregate clean p o f l

theorem framesAgg_some {clean : Str → Str} {p : Profile} {o : GOpts} {f : AggFlags} {s : Sample}
    {fs : List NodeInfo} (h : framesAgg clean p o f s = some fs) :
    ∃ perLoc, optAll (locOfAgg clean p o f) s.locationIDs = some perLoc ∧
      (perLoc.map List.reverse).reverse.flatten = fs :=
  Option.map_eq_some_iff.mp h

theorem locOfAgg_some {clean : Str → Str} {p : Profile} {o : GOpts} {f : AggFlags} {id : Nat}
    {per : List NodeInfo} (h : locOfAgg clean p o f id = some per) :
    ∃ l, locNodesAgg clean p o f l = some per := by
  unfold locOfAgg at h
  cases hl : p.findLocation id with
  | none => rw [hl] at h; exact nomatch h
  | some l => rw [hl] at h; exact ⟨l, h⟩

theorem framesAgg_mem {clean : Str → Str} {p : Profile} {o : GOpts} {f : AggFlags} {s : Sample}
    {fs : List NodeInfo} (h : framesAgg clean p o f s = some fs) {ni : NodeInfo} (hni : ni ∈ fs) :
    ∃ l ln objfile, nodeInfoAgg clean p o f l ln objfile = some ni := by
  obtain ⟨perLoc, hp, rfl⟩ := framesAgg_some h
  simp only [List.mem_flatten, List.mem_reverse, List.mem_map] at hni
  obtain ⟨_, ⟨per, hper, rfl⟩, hmem⟩ := hni
  obtain ⟨id, _, hloc⟩ := optAll_mem hp hper
  obtain ⟨l, hl⟩ := locOfAgg_some hloc
  obtain ⟨ln, _, hln⟩ := optAll_mem hl (List.mem_reverse.mp hmem)
  exact ⟨l, ln, _, hln⟩

/-- a blanked field is blank in every entry -/
theorem nodeInfoAgg_fields {clean : Str → Str} {p : Profile} {o : GOpts} {f : AggFlags} {l : Location} {ln : Line}
    {objfile : Str} {ni : NodeInfo} (h : nodeInfoAgg clean p o f l ln objfile = some ni) :
    (f.address = false → ni.address = 0) ∧
    (f.linenumber = false → ni.lineno = 0 ∧ ni.columnno = 0) ∧
    (f.columnnumber = false → ni.columnno = 0) ∧
    (f.filename = false → ni.file = []) ∧
    (f.function = false → ni.name = [] ∧ ni.origName = [] ∧ ni.startLine = 0) := by
  -- read the entry off the aggregated records
  rw [← nodeInfo_aggregate, nodeInfo_eq, findFunction_aggregate] at h
  have haddr : f.address = false → (aggLoc f l).address = 0 := fun ha => by unfold aggLoc; rw [ha]; rfl
  split at h
  · cases h
    exact ⟨haddr, fun _ => ⟨rfl, rfl⟩, fun _ => rfl, fun _ => rfl, fun _ => ⟨rfl, rfl, rfl⟩⟩
  · obtain ⟨fn', hfn', rfl⟩ := Option.map_eq_some_iff.mp h
    obtain ⟨fn, _, rfl⟩ := Option.map_eq_some_iff.mp hfn'
    unfold fnNodeInfo
    rw [aggFn_eq]
    refine ⟨haddr, fun hl => ?_, fun hc => ?_, fun hfl => ?_, fun hfn => ?_⟩
    · show (if f.linenumber = true then ln.line else 0) = 0 ∧ (if (f.linenumber && f.columnnumber) = true then ln.column else 0) = 0
      rw [hl]; exact ⟨rfl, rfl⟩
    · show (if (f.linenumber && f.columnnumber) = true then ln.column else 0) = 0
      rw [hc, Bool.and_false]; rfl
    · dsimp only; rw [hfl]; rfl
    · dsimp only; rw [hfn]
      exact ⟨rfl, by cases o.origFnNames <;> rfl, by simp only [Bool.false_eq_true, if_false, ite_self]⟩

theorem length_flatten_singletons {α : Type} (L : List (List α)) (h : ∀ x ∈ L, x.length = 1) :
    L.flatten.length = L.length := by
  induction L with
  | nil => rfl
  | cons a r ih =>
    rw [List.flatten_cons, List.length_append, h a List.mem_cons_self,
      ih fun x hx => h x (List.mem_cons_of_mem _ hx), List.length_cons, Nat.add_comm]

/-- without inline frames every location contributes exactly one entry -/
theorem framesAgg_length_noinline {clean : Str → Str} {p : Profile} {o : GOpts} {f : AggFlags} {s : Sample}
    (hinl : f.inlineFrame = false) {fs : List NodeInfo} (h : framesAgg clean p o f s = some fs) :
    fs.length = s.locationIDs.length := by
  obtain ⟨perLoc, hp, rfl⟩ := framesAgg_some h
  rw [length_flatten_singletons, List.length_reverse, List.length_map, optAll_length hp]
  intro per' hper'
  obtain ⟨per, hper, rfl⟩ := List.mem_map.mp (List.mem_reverse.mp hper')
  obtain ⟨id, _, hloc⟩ := optAll_mem hp hper
  obtain ⟨l, hl⟩ := locOfAgg_some hloc
  unfold locNodesAgg at hl
  rw [List.length_reverse, optAll_length hl]
  split
  · rfl
  · rename_i he
    exact keepLines_length_noinline f hinl _ (Bool.eq_false_iff.mpr he)

end PV.Graph
