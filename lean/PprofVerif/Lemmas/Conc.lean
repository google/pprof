import PprofVerif.Model.Conc
import PprofVerif.Lemmas.ConcList
/-!
What every execution of the mutex machine of `Model/Conc.lean` preserves.  `step` is read once, as `step_inv`: the
stepping thread makes a `Move` and is put back with `List.set`.  Facts about one thread are lemmas about `Move`; the
lemmas of `ConcList.lean` carry them to all threads, `exec_induction` / `exec_invariant` along executions.  The key
lemma is `exec_var`: per variable, the pending work of the current lock holder, then the sections entered later.
-/
namespace PV.Conc
variable {σ : Type} {c c1 c' : Config σ} {i : Nat} {t t' : TState σ} {acq : Option Nat} {act : Option (Action σ)}
  {ev : Option (Section σ)} {sched : List Nat} {log : List (Nat × Section σ)}

def Mem.run (mem : Mem σ) : Option (Action σ) → Mem σ
  | none => mem
  | some a => mem.set a.var (a.f (mem a.var))

/-- What a step does to the thread that takes it: `Move t acq act ev t'` takes it from `t` to `t'`,
acquiring mutex `acq`, running action `act`, entering section `ev`.  One constructor per branch of `step`. -/
inductive Move : TState σ → Option Nat → Option (Action σ) → Option (Section σ) → TState σ → Prop
  | enter0 {s rest} : s.locks = [] → Move (.idle (s :: rest)) none none (some s) (.inside [] [] s.body rest)
  | enter {s rest m need} : s.locks = m :: need →
      Move (.idle (s :: rest)) (some m) none (some s) (.inside [m] need s.body rest)
  | lock {held m need todo rest} :
      Move (.inside held (m :: need) todo rest) (some m) none none (.inside (m :: held) need todo rest)
  | act {held a todo rest} : Move (.inside held [] (a :: todo) rest) none (some a) none (.inside held [] todo rest)
  | leave {held rest} : Move (.inside held [] [] rest) none none none (.idle rest)

theorem step_inv (h : step c i = some (c1, ev)) :
    ∃ t acq act t', c.ts[i]? = some t ∧ Move t acq act ev t' ∧ (∀ m, acq = some m → free c.ts m = true) ∧
      c1 = ⟨c.mem.run act, c.ts.set i t'⟩ := by
  unfold step at h
  split at h
  · cases h
  · cases h
  · next hts =>
    split at h
    · next hl => cases h; exact ⟨_, _, _, _, hts, .enter0 hl, nofun, rfl⟩
    · next hl =>
      split at h
      · next hf => cases h; exact ⟨_, _, _, _, hts, .enter hl, fun _ e => by cases e; exact hf, rfl⟩
      · cases h
  · next hts =>
    split at h
    · next hf => cases h; exact ⟨_, _, _, _, hts, .lock, fun _ e => by cases e; exact hf, rfl⟩
    · cases h
  · next hts => cases h; exact ⟨_, _, _, _, hts, .act, nofun, rfl⟩
  · next hts => cases h; exact ⟨_, _, _, _, hts, .leave, nofun, rfl⟩

theorem step_forall {P : TState σ → Prop} (hP : ∀ {t acq act ev t'}, Move t acq act ev t' → P t → P t')
    (h0 : ∀ (j : Nat) (t : TState σ), c.ts[j]? = some t → P t) (h : step c i = some (c1, ev)) :
    ∀ (j : Nat) (t : TState σ), c1.ts[j]? = some t → P t := by
  obtain ⟨t, acq, act, t', hts, hm, _, rfl⟩ := step_inv h
  exact forall_getElem?_set (P := fun _ => P) h0 (hP hm (h0 i t hts))

/-- Induction over the executions that end in `c'`; the only place where `exec` is unfolded. -/
theorem exec_induction {R : Config σ → List Nat → List (Nat × Section σ) → Prop} (nil : R c' [] [])
    (cons : ∀ {c i c1 ev is log1}, step c i = some (c1, ev) → R c1 is log1 →
      R c (i :: is) ((ev.map (Prod.mk i)).toList ++ log1))
    (h : exec c sched = some (c', log)) : R c sched log := by
  induction sched generalizing c log with
  | nil => cases h; exact nil
  | cons i is ih =>
    unfold exec at h
    split at h
    · cases h
    · next c1 ev hs =>
      split at h
      · cases h
      · next log1 he =>
        cases h
        have := cons hs (ih he)
        cases ev <;> exact this

theorem exec_invariant {P : Config σ → Prop} (hP : ∀ {c i c1 ev}, P c → step c i = some (c1, ev) → P c1)
    (h0 : P c) (h : exec c sched = some (c', log)) : P c' :=
  exec_induction (R := fun c _ _ => P c → P c') id (fun hs ih h0 => ih (hP h0 hs)) h h0

theorem forall_initial {P : Nat → TState σ → Prop} {prog : List (Thread σ)}
    (h : ∀ i th, prog[i]? = some th → P i (.idle th)) (mem : Mem σ) :
    ∀ i t, (initial prog mem).ts[i]? = some t → P i t := by
  intro i t hi
  simp only [initial, List.getElem?_map, Option.map_eq_some_iff] at hi
  obtain ⟨th, hth, rfl⟩ := hi
  exact h i th hth

theorem eq_idle_nil_of_finished (h : t.finished = true) : t = .idle [] := by
  match t, h with
  | .idle [], _ => rfl

theorem idle_nil_of_terminated (h : c.terminated = true) (ht : t ∈ c.ts) : t = .idle [] :=
  eq_idle_nil_of_finished (List.all_eq_true.mp h t ht)

def MutexInv (ts : List (TState σ)) : Prop :=
  PairRel (fun ti tj => ∀ m, ti.holds m = true → tj.holds m = true → False) ts

theorem Move.holds (hm : Move t acq act ev t') {k : Nat} (hk : t'.holds k = true) :
    t.holds k = true ∨ some k = acq := by
  cases hm <;> simp_all [TState.holds, or_comm]

theorem mutexInv_step (hinv : MutexInv c.ts) (h : step c i = some (c1, ev)) : MutexInv c1.ts := by
  obtain ⟨t, acq, act, t', hts, hm, hf, rfl⟩ := step_inv h
  -- what `t'` holds it held before (so nobody else does) or was free
  have clash : ∀ j tj, j ≠ i → c.ts[j]? = some tj → ∀ m, t'.holds m = true → tj.holds m = true → False := by
    intro j tj hji hj m h1 h2
    rcases hm.holds h1 with h | h
    · exact hinv hji.symm hts hj m h h2
    · have := all_getElem? (hf m h.symm) hj
      rw [h2] at this; cases this
  exact pairRel_set hinv fun j tj hji hj => ⟨clash j tj hji hj, fun m h1 h2 => clash j tj hji hj m h2 h1⟩

theorem mutexInv_initial (prog : List (Thread σ)) (mem : Mem σ) : MutexInv (initial prog mem).ts := by
  intro i _ ti _ _ hi _ m hti
  rw [forall_initial (P := fun _ t => t.holds m = false) (fun _ _ _ => rfl) mem i ti hi] at hti
  cases hti

theorem mutexInv_exec (hinv : MutexInv c.ts) (h : exec c sched = some (c', log)) : MutexInv c'.ts :=
  exec_invariant (P := fun c => MutexInv c.ts) mutexInv_step hinv h

theorem MutexInv.not_holds {ts : List (TState σ)} (hinv : MutexInv ts) {i j m : Nat} {ti tj : TState σ}
    (hne : i ≠ j) (hi : ts[i]? = some ti) (hj : ts[j]? = some tj) (h : tj.holds m = true) :
    ti.holds m = false :=
  Bool.eq_false_iff.mpr fun hti => hinv hne hi hj m hti h

def actsOn (v : Nat) (l : List (Action σ)) (x : σ) : σ :=
  l.foldl (fun x a => if a.var = v then a.f x else x) x

@[simp] theorem actsOn_nil (v : Nat) (x : σ) : actsOn v ([] : List (Action σ)) x = x := rfl

section PerVariable
variable {v : Nat} {L : Nat → Nat}

theorem actsOn_cons (v : Nat) (a : Action σ) (l : List (Action σ)) (x : σ) :
    actsOn v (a :: l) x = actsOn v l (if a.var = v then a.f x else x) := rfl

theorem actsOn_append (v : Nat) (l1 l2 : List (Action σ)) (x : σ) :
    actsOn v (l1 ++ l2) x = actsOn v l2 (actsOn v l1 x) :=
  List.foldl_append ..

theorem actsOn_silent {l : List (Action σ)} (h : ∀ a ∈ l, a.var ≠ v) (x : σ) : actsOn v l x = x :=
  foldl_neutral (fun a ha _ => if_neg (h a ha)) x

theorem Mem.run_apply (mem : Mem σ) (act : Option (Action σ)) (v : Nat) :
    mem.run act v = actsOn v act.toList (mem v) := by
  cases act with
  | none => rfl
  | some a =>
    show (if v = a.var then _ else _) = if a.var = v then _ else _
    by_cases h : a.var = v
    · subst h; simp
    · rw [if_neg h, if_neg (Ne.symm h)]

theorem runBody_apply (body : List (Action σ)) (mem : Mem σ) (v : Nat) :
    runBody body mem v = actsOn v body (mem v) := by
  induction body generalizing mem with
  | nil => rfl
  | cons a l ih => exact (ih (mem.run (some a))).trans (congrArg _ (mem.run_apply (some a) v))

theorem runSerial_apply (secs : List (Section σ)) (mem : Mem σ) (v : Nat) :
    runSerial secs mem v = secs.foldl (fun x s => actsOn v s.body x) (mem v) := by
  induction secs generalizing mem with
  | nil => rfl
  | cons s l ih =>
    show runSerial l (runBody s.body mem) v = _
    rw [ih, runBody_apply]; rfl

theorem actsOn_flatMap (v : Nat) (t : List (Section σ)) (x : σ) :
    actsOn v (t.flatMap (·.body)) x = t.foldl (fun x s => actsOn v s.body x) x := by
  induction t generalizing x with
  | nil => rfl
  | cons s t ih => simp only [List.flatMap_cons, actsOn_append, List.foldl_cons, ih]

def todoOf : TState σ → List (Action σ)
  | .idle _ => []
  | .inside _ _ todo _ => todo

def bodyOf : Option (Section σ) → List (Action σ)
  | none => []
  | some s => s.body

/-- the pending actions of all threads that are inside a section, applied in thread order -/
def pendAll (v : Nat) (ts : List (TState σ)) (x : σ) : σ :=
  ts.foldl (fun x t => actsOn v (todoOf t) x) x

def Silent (v : Nat) (t : TState σ) : Prop := ∀ x, actsOn v (todoOf t) x = x

theorem Move.todo (hm : Move t acq act ev t') (v : Nat) (x : σ) :
    actsOn v (todoOf t') (actsOn v act.toList x) = actsOn v (bodyOf ev) (actsOn v (todoOf t) x) := by
  cases hm <;> rfl

def GoodSec (L : Nat → Nat) (s : Section σ) : Prop := ∃ m, s.locks = [m] ∧ ∀ a ∈ s.body, L a.var = m

def GoodT (L : Nat → Nat) : TState σ → Prop
  | .idle rest => ∀ s ∈ rest, GoodSec L s
  | .inside held need todo rest =>
    ∃ m, held = [m] ∧ need = [] ∧ (∀ a ∈ todo, L a.var = m) ∧ ∀ s ∈ rest, GoodSec L s

def GoodCfg (L : Nat → Nat) (c : Config σ) : Prop :=
  (∀ (i : Nat) (t : TState σ), c.ts[i]? = some t → GoodT L t) ∧ MutexInv c.ts

theorem goodT_silent (hg : GoodT L t) (hh : t.holds (L v) = false) : Silent v t := by
  cases t with
  | idle rest => exact fun _ => rfl
  | inside held need todo rest =>
    obtain ⟨m, rfl, rfl, hb, _⟩ := hg
    refine actsOn_silent fun a ha hav => ?_
    rw [← hav, hb a ha] at hh
    simp [TState.holds] at hh

theorem Move.goodT (hm : Move t acq act ev t') (hg : GoodT L t) : GoodT L t' := by
  cases hm with
  | enter0 hl =>
    obtain ⟨m, hm, _⟩ := hg _ List.mem_cons_self
    rw [hl] at hm; cases hm
  | enter hl =>
    obtain ⟨m, hm, hb⟩ := hg _ List.mem_cons_self
    rw [hl] at hm; cases hm
    exact ⟨_, rfl, rfl, hb, fun s hs => hg s (List.mem_cons_of_mem _ hs)⟩
  | lock => obtain ⟨_, _, hn, _⟩ := hg; cases hn
  | act =>
    obtain ⟨m, hh, _, hb, hr⟩ := hg
    exact ⟨m, hh, rfl, fun b hb' => hb b (List.mem_cons_of_mem _ hb'), hr⟩
  | leave => obtain ⟨_, _, _, _, hr⟩ := hg; exact hr

theorem goodCfg_step (hg : GoodCfg L c) (h : step c i = some (c1, ev)) : GoodCfg L c1 :=
  ⟨step_forall Move.goodT hg.1 h, mutexInv_step hg.2 h⟩

theorem goodCfg_initial {prog : List (Thread σ)} (hd : Disciplined L prog) (mem : Mem σ) :
    GoodCfg L (initial prog mem) :=
  ⟨forall_initial (P := fun _ => GoodT L) (fun _ th hi => hd th (List.mem_of_getElem? hi)) mem,
    mutexInv_initial prog mem⟩

theorem pendAll_initial (v : Nat) (prog : List (Thread σ)) (mem : Mem σ) (x : σ) :
    pendAll v (initial prog mem).ts x = x :=
  foldl_neutral (fun t ht => by obtain ⟨th, _, rfl⟩ := List.mem_map.mp ht; exact fun _ => rfl) x

theorem step_var (hg : GoodCfg L c) (h : step c i = some (c1, ev)) (v : Nat) :
    pendAll v c1.ts (c1.mem v) = actsOn v (bodyOf ev) (pendAll v c.ts (c.mem v)) := by
  have hg1 := goodCfg_step hg h
  obtain ⟨t, acq, act, t', hts, hm, hf, rfl⟩ := step_inv h
  have hts' := getElem?_set_of_some hts t'
  have hloc := hm.todo v
  show List.foldl _ (c.mem.run act v) (c.ts.set i t') = actsOn v _ (List.foldl _ _ _)
  rw [Mem.run_apply]
  by_cases hj : ∃ (j : Nat) (tj : TState σ), j ≠ i ∧ c.ts[j]? = some tj ∧ tj.holds (L v) = true
  · -- somebody else holds the guard of `v`, so thread `i` has nothing to do with `v` before or
    -- after the step, and (by `Move.todo`) neither has the step
    obtain ⟨j, tj, hji, hj, hh⟩ := hj
    have hs : Silent v t := goodT_silent (hg.1 i t hts) (hg.2.not_holds hji.symm hts hj hh)
    have hs' : Silent v t' := goodT_silent (hg1.1 i t' hts')
      (hg1.2.not_holds hji.symm hts' (by rwa [List.getElem?_set_ne hji.symm]) hh)
    simp only [hs' _, hs _] at hloc
    rw [foldl_set_same hts fun x => (hs' x).trans (hs x).symm]
    cases hm with
    | enter0 _ | enter _ => exact hloc _
    | act => rw [hloc]; rfl
    | lock | leave => rfl
  · -- nobody else does: only thread `i` has pending work on `v`
    have hsil : ∀ (j : Nat) (tj : TState σ), c.ts[j]? = some tj → j ≠ i → Silent v tj := fun j tj hj' hne =>
      goodT_silent (hg.1 j tj hj') (Bool.eq_false_iff.mpr fun hh => hj ⟨j, tj, hne, hj', hh⟩)
    rw [foldl_one hts hsil, foldl_one_set hts hsil]
    exact hloc _

/-- A schedule that runs to termination leaves in `v` the value obtained by first finishing the section that
holds `L v` (if any) and then running the sections entered later, in entry order. -/
theorem exec_var (hg : GoodCfg L c) (h : exec c sched = some (c', log)) (hterm : c'.terminated = true) (v : Nat) :
    c'.mem v = log.foldl (fun x e => actsOn v e.2.body x) (pendAll v c.ts (c.mem v)) := by
  refine exec_induction (R := fun c _ log => GoodCfg L c →
    c'.mem v = log.foldl (fun x e => actsOn v e.2.body x) (pendAll v c.ts (c.mem v))) (fun _ => ?_)
    (@fun _ _ _ ev _ _ hs ih hg => ?_) h hg
  · refine (foldl_neutral (fun t ht => ?_) _).symm
    rw [idle_nil_of_terminated hterm ht]
    exact fun _ => rfl
  · rw [ih (goodCfg_step hg hs), step_var hg hs]
    cases ev <;> rfl

end PerVariable

def restOf : TState σ → List (Section σ)
  | .idle rest => rest
  | .inside _ _ _ rest => rest

/-- the sections thread `i` has not entered yet (none for a thread that does not exist) -/
def restAt (c : Config σ) (i : Nat) : List (Section σ) :=
  match c.ts[i]? with
  | some t => restOf t
  | none => []

theorem Move.rest (hm : Move t acq act ev t') : restOf t = ev.toList ++ restOf t' := by
  cases hm <;> rfl

theorem step_rest (h : step c i = some (c1, ev)) (j : Nat) :
    restAt c j = (if i = j then ev.toList else []) ++ restAt c1 j := by
  obtain ⟨t, acq, act, t', hts, hm, _, rfl⟩ := step_inv h
  unfold restAt
  by_cases hij : i = j
  · subst hij
    rw [hts, getElem?_set_of_some hts, if_pos rfl]
    exact hm.rest
  · rw [List.getElem?_set_ne hij, if_neg hij]; rfl

theorem sectionsOf_cons (i : Nat) (ev : Option (Section σ)) (log : List (Nat × Section σ)) (j : Nat) :
    sectionsOf ((ev.map (Prod.mk i)).toList ++ log) j = (if i = j then ev.toList else []) ++ sectionsOf log j := by
  cases ev with
  | none => simp
  | some s => by_cases h : i = j <;> simp [sectionsOf, h]

theorem exec_rest (h : exec c sched = some (c', log)) (j : Nat) :
    restAt c j = sectionsOf log j ++ restAt c' j :=
  exec_induction (R := fun c _ log => restAt c j = sectionsOf log j ++ restAt c' j) rfl
    (fun hs ih => by rw [step_rest hs, ih, sectionsOf_cons, List.append_assoc]) h

theorem exec_log_mem (h : exec c sched = some (c', log)) {e : Nat × Section σ} (he : e ∈ log) :
    e.2 ∈ restAt c e.1 := by
  rw [exec_rest h]
  exact List.mem_append_left _ (List.mem_map.mpr ⟨e, List.mem_filter.mpr ⟨he, beq_self_eq_true _⟩, rfl⟩)

theorem restAt_initial (prog : List (Thread σ)) (mem : Mem σ) (i : Nat) :
    restAt (initial prog mem) i = prog[i]?.getD [] := by
  unfold restAt
  simp only [initial, List.getElem?_map]
  cases prog[i]? <;> rfl

theorem exec_log_initial {prog : List (Thread σ)} {mem : Mem σ} (h : exec (initial prog mem) sched = some (c', log))
    {e : Nat × Section σ} (he : e ∈ log) : ∃ th, prog[e.1]? = some th ∧ e.2 ∈ th := by
  have hm := exec_log_mem h he
  rw [restAt_initial] at hm
  cases hp : prog[e.1]? with
  | none => rw [hp] at hm; cases hm
  | some th => rw [hp] at hm; exact ⟨th, rfl, hm⟩

theorem restAt_terminated (h : c.terminated = true) (i : Nat) : restAt c i = [] := by
  unfold restAt
  cases hi : c.ts[i]? with
  | none => rfl
  | some t => rw [idle_nil_of_terminated h (List.mem_of_getElem? hi)]; rfl

/-- every action a thread will still perform -/
def remaining : TState σ → List (Action σ)
  | .idle rest => rest.flatMap (·.body)
  | .inside _ _ todo rest => todo ++ rest.flatMap (·.body)

/-- Thread `i` only ever touches variable `i`: the goroutines of `internal/driver/fetch.go`, one result slot each. -/
def OwnSlot (ts : List (TState σ)) : Prop :=
  ∀ (i : Nat) (t : TState σ), ts[i]? = some t → ∀ a ∈ remaining t, a.var = i

theorem Move.remaining (hm : Move t acq act ev t') : remaining t = act.toList ++ remaining t' := by
  cases hm with
  | enter0 _ | enter _ => exact List.flatMap_cons
  | lock | act | leave => rfl

theorem ownSlot_step (ho : OwnSlot c.ts) (h : step c i = some (c1, ev)) : OwnSlot c1.ts := by
  obtain ⟨t, acq, act, t', hts, hm, _, rfl⟩ := step_inv h
  refine forall_getElem?_set (P := fun j tj => ∀ a ∈ remaining tj, a.var = j) ho fun a ha => ?_
  exact ho i t hts a (by rw [hm.remaining]; exact List.mem_append_right _ ha)

/-- the value slot `v` will have at the end (`v` beyond the thread list: nobody touches it) -/
def slotFinal (c : Config σ) (v : Nat) : σ :=
  match c.ts[v]? with
  | some t => actsOn v (remaining t) (c.mem v)
  | none => c.mem v

theorem slotFinal_step (ho : OwnSlot c.ts) (h : step c i = some (c1, ev)) (v : Nat) :
    slotFinal c1 v = slotFinal c v := by
  obtain ⟨t, acq, act, t', hts, hm, _, rfl⟩ := step_inv h
  unfold slotFinal
  simp only [Mem.run_apply]
  by_cases hiv : i = v
  · subst hiv
    simp only [getElem?_set_of_some hts, hts]
    rw [hm.remaining, actsOn_append]
  · -- the action (if any) is on slot `i`, not `v`
    rw [List.getElem?_set_ne hiv, actsOn_silent fun a ha e => hiv ?_]
    rw [← e]
    exact (ho i t hts a (by rw [hm.remaining]; exact List.mem_append_left _ ha)).symm

theorem ownSlot_initial {prog : List (Thread σ)}
    (hown : ∀ (i : Nat) (t : Thread σ), prog[i]? = some t → ∀ s ∈ t, ∀ a ∈ s.body, a.var = i) (mem : Mem σ) :
    OwnSlot (initial prog mem).ts :=
  forall_initial (P := fun i t => ∀ a ∈ remaining t, a.var = i) (fun i th hp a ha => by
    obtain ⟨s, hs, has⟩ := List.mem_flatMap.mp ha
    exact hown i th hp s hs a has) mem

theorem slotFinal_initial (prog : List (Thread σ)) (mem : Mem σ) (v : Nat) :
    slotFinal (initial prog mem) v = match prog[v]? with
      | some t => runSerial t mem v
      | none => mem v := by
  unfold slotFinal
  simp only [initial, List.getElem?_map]
  cases prog[v]? with
  | none => rfl
  | some th => exact (actsOn_flatMap v th _).trans (runSerial_apply th mem v).symm

theorem exec_slots (ho : OwnSlot c.ts) (h : exec c sched = some (c', log)) (hterm : c'.terminated = true)
    (v : Nat) : c'.mem v = slotFinal c v := by
  obtain ⟨_, he⟩ := exec_invariant (P := fun d => OwnSlot d.ts ∧ slotFinal d v = slotFinal c v)
    (fun ⟨ho, he⟩ hs => ⟨ownSlot_step ho hs, (slotFinal_step ho hs v).trans he⟩) ⟨ho, rfl⟩ h
  rw [← he]
  unfold slotFinal
  cases ht : c'.ts[v]? with
  | none => rfl
  | some t => rw [idle_nil_of_terminated hterm (List.mem_of_getElem? ht)]; rfl

theorem once_fold_done {τ : Type} (o : Nat) (secs : List (Section (Bool × τ)))
    (hs : ∀ s ∈ secs, ∃ f, s = onceSection o f) (x : Bool × τ) (hx : x.1 = true) :
    secs.foldl (fun x s => actsOn o s.body x) x = x := by
  induction secs with
  | nil => rfl
  | cons s secs ih =>
    obtain ⟨f, rfl⟩ := hs _ List.mem_cons_self
    have : actsOn o (onceSection o f).body x = x := by
      simp [onceSection, onceAction, actsOn, hx]
    rw [List.foldl_cons, this]
    exact ih fun s' hs' => hs s' (List.mem_cons_of_mem _ hs')

theorem once_fold {τ : Type} (o : Nat) (f : τ → τ) (secs : List (Section (Bool × τ)))
    (hs : ∀ s ∈ secs, ∃ g, s = onceSection o g) (x0 : τ) :
    (onceSection o f :: secs).foldl (fun x s => actsOn o s.body x) (false, x0) = (true, f x0) := by
  have : actsOn o (onceSection o f).body (false, x0) = (true, f x0) := by
    simp [onceSection, onceAction, actsOn]
  rw [List.foldl_cons, this]
  exact once_fold_done o secs hs _ rfl

theorem onceProg_disciplined {τ : Type} (o : Nat) (inits : List (List (τ → τ))) :
    Disciplined (fun v => v) (onceProg o inits) := by
  intro t ht s hs
  obtain ⟨fs, _, rfl⟩ := List.mem_map.mp ht
  obtain ⟨f, _, rfl⟩ := List.mem_map.mp hs
  exact ⟨o, rfl, fun a ha => by cases List.mem_singleton.mp ha; rfl⟩

theorem onceProg_log {τ : Type} {o : Nat} {inits : List (List (τ → τ))} {mem : Mem (Bool × τ)}
    {c' : Config (Bool × τ)} {log : List (Nat × Section (Bool × τ))} {e : Nat × Section (Bool × τ)}
    (h : exec (initial (onceProg o inits) mem) sched = some (c', log)) (he : e ∈ log) :
    ∃ f, (∃ fs ∈ inits, f ∈ fs) ∧ e.2 = onceSection o f := by
  obtain ⟨th, hp, hm⟩ := exec_log_initial h he
  obtain ⟨fs, hfs, rfl⟩ := List.mem_map.mp (List.mem_of_getElem? hp)
  obtain ⟨f, hf, hfe⟩ := List.mem_map.mp hm
  exact ⟨f, ⟨fs, hfs, hf⟩, hfe.symm⟩

end PV.Conc
