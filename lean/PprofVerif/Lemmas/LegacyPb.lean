import PprofVerif.Lemmas.LegacyChain
import PprofVerif.Model.LegacyPb
/-!
Helper lemmas for C14: what the protobuf decoder (`Codec.parseUncompressed`) does on printed
legacy documents — it rejects (with an error after which `ParseData` goes on to the legacy
parsers) every little-endian binary CPU profile, every heap, contention and Java text document;
it ACCEPTS the big-endian witness of the known finding.
-/
namespace PV.Legacy
open PV PV.Wire PV.Codec

/-- a zero byte pair is field number 0, wire type 0, value 0: skipped by the decoder table -/
theorem decodeLoop_zero_field (fuel : Nat) (m : ProfileX) (rest : Bytes) :
    decodeLoop ProfileX.apply (fuel + 1) m (0 :: 0 :: rest) = decodeLoop ProfileX.apply fuel m rest := by
  simp [decodeLoop, decodeField, decodeVarint, decodeVarintGo, ProfileX.apply, Wire.two64]

/-- a byte 3 is field number 0 with wire type 3 ("start group"): unknown wire type -/
theorem decodeLoop_wire3 (fuel : Nat) (m : ProfileX) (rest : Bytes) :
    decodeLoop ProfileX.apply (fuel + 1) m (3 :: rest) = .err "unknown wire type" := by
  simp [decodeLoop, decodeField, decodeVarint, decodeVarintGo, Wire.two64]

theorem pbRejects_err (e : String) (h1 : e ≠ errNoData) (h2 : e ≠ errConcatProfile) : PbRejects (.err e) :=
  ⟨e, rfl, h1, h2⟩

/-- the little-endian header `0 3 …` in 32-bit words -/
theorem pb_le32 (R : Str) : parseUncompressed (0 :: 0 :: 0 :: 0 :: 3 :: R) = .err "unknown wire type" := by
  unfold parseUncompressed unmarshal
  have hl : (0 :: 0 :: 0 :: 0 :: 3 :: R : Str).length = R.length + 2 + 1 + 1 + 1 := by simp
  rw [hl]
  simp only [Nat.succ_ne_zero, if_false]
  rw [decodeLoop_zero_field, decodeLoop_zero_field, decodeLoop_wire3]
  rfl

theorem pb_le64 (R : Str) : parseUncompressed (0 :: 0 :: 0 :: 0 :: 0 :: 0 :: 0 :: 0 :: 3 :: R) = .err "unknown wire type" := by
  unfold parseUncompressed unmarshal
  have hl : (0 :: 0 :: 0 :: 0 :: 0 :: 0 :: 0 :: 0 :: 3 :: R : Str).length = R.length + 4 + 1 + 1 + 1 + 1 + 1 := by simp
  rw [hl]
  simp only [Nat.succ_ne_zero, if_false]
  rw [decodeLoop_zero_field, decodeLoop_zero_field, decodeLoop_zero_field, decodeLoop_zero_field, decodeLoop_wire3]
  rfl

theorem pb_littleEndian_words (w64 : Bool) (R : Str) :
    parseUncompressed (word false w64 0 ++ (word false w64 3 ++ R)) = .err "unknown wire type" := by
  cases w64
  · have e0 : word false false 0 = [0, 0, 0, 0] := by decide
    have e3 : word false false 3 = [3, 0, 0, 0] := by decide
    rw [e0, e3]; exact pb_le32 _
  · have e0 : word false true 0 = [0, 0, 0, 0, 0, 0, 0, 0] := by decide
    have e3 : word false true 3 = [3, 0, 0, 0, 0, 0, 0, 0] := by decide
    rw [e0, e3]; exact pb_le64 _

theorem pbRejects_printCpu_littleEndian (d : CpuDoc) (hb : d.big = false) : PbRejects (parseUncompressed (printCpu d)) := by
  obtain ⟨R, e⟩ := printCpu_first_words d
  rw [e, hb, pb_littleEndian_words]
  exact pbRejects_err _ (by decide) (by decide)

theorem pbRejects_printJavaCpu_littleEndian (d : JavaCpuDoc) (hb : d.big = false) :
    PbRejects (parseUncompressed (printJavaCpu d)) := by
  obtain ⟨R, e⟩ := printJavaCpu_first_words d
  rw [e, hb, pb_littleEndian_words]
  exact pbRejects_err _ (by decide) (by decide)

/-- text starting with `-` (field 5 = function, wire type 5 = fixed32): type mismatch -/
theorem pb_dash (a b c d : UInt8) (R : Str) : parseUncompressed (45 :: a :: b :: c :: d :: R) = .err "type mismatch" := by
  unfold parseUncompressed unmarshal
  have hl : ¬ (R.length + 1 + 1 + 1 + 1 < 4) := by omega
  simp [decodeLoop, decodeField, decodeVarint, decodeVarintGo, ProfileX.apply, decodeMessage, Wire.two64, hl]

/-- text starting with `hea` (field 13 = comment, varint `e`; field 12 = period with wire type 1 =
fixed64): type mismatch -/
theorem pb_hea (b1 b2 b3 b4 b5 b6 b7 b8 : UInt8) (R : Str) :
    parseUncompressed (104 :: 101 :: 97 :: b1 :: b2 :: b3 :: b4 :: b5 :: b6 :: b7 :: b8 :: R) = .err "type mismatch" := by
  unfold parseUncompressed unmarshal
  have hl : ¬ (R.length + 1 + 1 + 1 + 1 + 1 + 1 + 1 + 1 < 8) := by omega
  simp [decodeLoop, decodeField, decodeVarint, decodeVarintGo, ProfileX.apply, decodeInt64s, decodeInt64, Wire.two64, hl]

theorem pbRejects_printHeap (d : HeapDoc) : PbRejects (parseUncompressed (printHeap d)) := by
  obtain ⟨R, e⟩ := printHeap_eq d
  rw [e, asc_heapProfile]
  simp only [List.cons_append, List.nil_append]
  rw [pb_hea]
  exact pbRejects_err _ (by decide) (by decide)

theorem DashHead.pbRejects {l : Str} (h : DashHead l) (more : List Str) :
    PbRejects (parseUncompressed (unlines (l :: more))) := by
  cases h with
  | mk c A B =>
    rw [show unlines ((45 :: 45 :: 45 :: 32 :: c :: (A ++ B)) :: more) = 45 :: 45 :: 45 :: 32 :: c :: ((A ++ B) ++ 10 :: unlines more) by
      simp [unlines], pb_dash]
    exact pbRejects_err _ (by decide) (by decide)

theorem pbRejects_printContention (d : ContDoc) : PbRejects (parseUncompressed (printContention d)) := by
  rw [printContention, show d.lines = d.head.print :: d.lines.tail by simp [ContDoc.lines]]
  exact d.head.dashHead.pbRejects _

theorem pbRejects_printJava (d : JavaDoc) : PbRejects (parseUncompressed (printJava d)) := by
  obtain ⟨rest, hL⟩ := d.lines_two
  rw [printJava, hL]
  exact d.dashHead.1.pbRejects _

/-! ### the known finding: a big-endian CPU profile that is also a protobuf message -/
theorem shadowed_wf : shadowedCpuDoc.wf = true := by decide +kernel

theorem shadowed_pb : parseUncompressed (printCpu shadowedCpuDoc) = .ok emptyPbProfile := by decide +kernel

theorem shadowed_ne : emptyPbProfile ≠ expectedCpu shadowedCpuDoc := by decide +kernel

theorem parseDataReal_shadowed (scale : ScaleFn) (cyc : CycFn) :
    parseDataReal scale cyc (printCpu shadowedCpuDoc) = .ok emptyPbProfile := by
  simp [parseDataReal, parseData, shadowed_pb]

theorem parseDataReal_of_rejects (scale : ScaleFn) (cyc : CycFn) (b : Str) (h : PbRejects (parseUncompressed b)) :
    parseDataReal scale cyc b = parseLegacy scale cyc b :=
  parseData_of_pb_rejects _ scale cyc b h

theorem concatCount_wf : concatCountDoc.wf = true := by decide +kernel

theorem concatCount_pb : parseUncompressed (printCount concatCountDoc) = .err errConcatProfile := by decide +kernel

theorem parseDataReal_concatCount (scale : ScaleFn) (cyc : CycFn) :
    parseDataReal scale cyc (printCount concatCountDoc) = .err errConcatProfile := by
  simp [parseDataReal, parseData, concatCount_pb, errConcatProfile, errNoData]

/-- the witness is well-formed and its first line reads as a heap header: one evaluation by the
kernel, in which the header line is evaluated once for both -/
theorem heapNamedThread_facts :
    heapNamedThreadDoc.wf = true ∧ parseHeapHeader heapNamedThreadRec.headerLine = .ok (true, 1, true) := by
  decide +kernel

theorem heapNamedThread_wf : heapNamedThreadDoc.wf = true := heapNamedThread_facts.1

theorem heapNamedThread_header : parseHeapHeader heapNamedThreadRec.headerLine = .ok (true, 1, true) :=
  heapNamedThread_facts.2

theorem isSome_of_parseHeapHeader {l : Str} {r : Bool × Nat × Bool} (h : parseHeapHeader l = .ok r) :
    (searchRe matchHeapHeaderAt l).isSome = true := by
  unfold parseHeapHeader at h
  cases hq : searchRe matchHeapHeaderAt l with
  | none => rw [hq] at h; cases h
  | some _ => rfl

theorem heapNamedThread_chain : heapNamedThreadDoc.chainOK = false := by
  show noHeapHeader heapNamedThreadRec.headerLine = false
  simp [noHeapHeader, Option.isSome_iff_ne_none.1 (isSome_of_parseHeapHeader heapNamedThread_header)]

/-- `parseHeap` claims a document whose first line reads as a heap header, and fails on a
second line that is not a record -/
theorem parseHeapLines_bad_record (scale : ScaleFn) (hd l : Str) (rest : List Str) {r : Bool × Nat × Bool}
    (hp : parseHeapHeader hd = .ok r) (h1 : isSpaceOrComment (trimSpace l) = false)
    (h2 : isMemoryMapSentinel (trimSpace l) = false) (h3 : searchRe matchHeapSampleAt (trimSpace l) = none) :
    parseHeapLines scale (hd :: l :: rest) = .err "unexpected number of sample values" := by
  simp [parseHeapLines, isSome_of_parseHeapHeader hp, hp, heapLoop, h1, h2, parseHeapSample, h3]

theorem parseLegacy_of_heap_err (scale : ScaleFn) (cyc : CycFn) (b : Str) (e : String)
    (h1 : parseCPU b = .err "unrecognized") (h2 : parseHeap scale b = .err e) (he : e ≠ "unrecognized") :
    parseLegacy scale cyc b = .err e := by
  simp only [parseLegacy, h1, h2]
  split
  · rename_i h; exact absurd (Outcome.err.inj h) he
  · rfl

theorem parseLegacy_heapNamedThread (scale : ScaleFn) (cyc : CycFn) :
    parseLegacy scale cyc (printThread heapNamedThreadDoc) = .err "unexpected number of sample values" := by
  -- the header line stays unevaluated
  have hl : heapNamedThreadDoc.lines = heapNamedThreadRec.headerLine ::
      ThreadLine.print 0 ⟨0, 2, .none, [16], none⟩ :: (ThreadEnd.noStack 0 none).lines := rfl
  have h1 : parseCPU (printThread heapNamedThreadDoc) = .err "unrecognized" := by
    rw [printThread, hl, ThreadRec.headerLine_eq]; exact parseCPU_unlines _ _ (dash_head _)
  have h2 : parseHeap scale (printThread heapNamedThreadDoc) = .err "unexpected number of sample values" := by
    rw [parseHeap, splitLines_printThread _ heapNamedThread_wf, hl]
    exact parseHeapLines_bad_record scale _ _ _ heapNamedThread_header (by decide +kernel) (by decide +kernel)
      (by decide +kernel)
  exact parseLegacy_of_heap_err scale cyc _ _ h1 h2 (by decide)

end PV.Legacy
