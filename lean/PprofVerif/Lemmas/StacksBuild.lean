import PprofVerif.Lemmas.StacksFrames
import PprofVerif.Lemmas.StacksLoop
/-! C17: `fillPlaces` and the whole of `Stacks()`.  With place entries appended pointwise (`addPlaces`), the fold with
a seen set is the indicator of the first occurrence (DESIGN A.3): `fillPlaces_spec`.  `result` is the closed form
of a successful `Stacks()` (`build_spec`, `stacks_ok`); the property theorems read it through `result_stack`,
`result_source` and `mem_placesOf`. -/
namespace PV.Stacks
open PV

/-- append place entries to a source whose place list is (and stays) non-nil. -/
def addP (s : Source) (ex : List (Nat × Nat)) : Source :=
  { s with places := ⟨true, s.places.elems ++ ex⟩ }

def addPlaces (S : List Source) (g : Nat → List (Nat × Nat)) : List Source :=
  S.mapIdx fun i s => addP s (g i)

theorem addP_nil (s : Source) (h : s.places.nonnil = true) : addP s [] = s := by
  obtain ⟨_, _, _, _, ⟨_, _⟩, _⟩ := s
  simp_all [addP]

theorem addP_addP (s : Source) (a b : List (Nat × Nat)) : addP (addP s a) b = addP s (a ++ b) := by
  simp [addP, List.append_assoc]

theorem getElem?_addPlaces (S : List Source) (g : Nat → List (Nat × Nat)) (i : Nat) :
    (addPlaces S g)[i]? = S[i]?.map (addP · (g i)) := List.getElem?_mapIdx

theorem length_addPlaces (S : List Source) (g : Nat → List (Nat × Nat)) :
    (addPlaces S g).length = S.length := List.length_mapIdx

theorem addPlaces_nonnil {S : List Source} {g : Nat → List (Nat × Nat)} :
    ∀ s ∈ addPlaces S g, s.places.nonnil = true := by
  intro s hs
  obtain ⟨k, hk⟩ := List.mem_iff_getElem?.1 hs
  rw [getElem?_addPlaces, Option.map_eq_some_iff] at hk
  obtain ⟨_, _, rfl⟩ := hk
  rfl

theorem addPlaces_nil (S : List Source) (h : ∀ s ∈ S, s.places.nonnil = true) :
    addPlaces S (fun _ => []) = S := by
  apply List.ext_getElem?
  intro i
  rw [getElem?_addPlaces]
  cases hs : S[i]? with
  | none => rfl
  | some s => simp [addP_nil s (h s (List.mem_of_getElem? hs))]

theorem addPlaces_addPlaces (S : List Source) (g h : Nat → List (Nat × Nat)) :
    addPlaces (addPlaces S g) h = addPlaces S (fun i => g i ++ h i) := by
  apply List.ext_getElem?
  intro i
  simp only [getElem?_addPlaces, Option.map_map]
  cases S[i]? <;> simp [addP_addP]

/-- `S[src].Places = append(S[src].Places, pl)` -/
theorem modify_push (S : List Source) (h : ∀ s ∈ S, s.places.nonnil = true) (src : Nat) (pl : Nat × Nat) :
    S.modify src (fun s => { s with places := s.places.push pl }) =
      addPlaces S (fun i => if src = i then [pl] else []) := by
  apply List.ext_getElem?
  intro i
  rw [getElem?_addPlaces, List.getElem?_modify]
  cases hs : S[i]? with
  | none => rfl
  | some s =>
    by_cases e : src = i
    · simp [e, addP, Slice.push]
    · simp [e, addP_nil s (h s (List.mem_of_getElem? hs))]

/-- what the inner loop of `fillPlaces` (stack number `a`, starting at position `j` with seen set
`seen`) appends to source `i`. -/
def stackExtra (a j : Nat) (seen : List Nat) (l : List Nat) (i : Nat) : List (Nat × Nat) :=
  if i ∈ seen then [] else
    match Spec.firstIdx i l with
    | some b => [(a, j + b)]
    | none => []

theorem stackExtra_nil (a j : Nat) (seen : List Nat) : stackExtra a j seen [] = fun _ => [] := by
  funext i
  simp [stackExtra, Spec.firstIdx]

theorem stackExtra_cons_seen (a j : Nat) {seen : List Nat} {src : Nat} (rest : List Nat)
    (h : src ∈ seen) : stackExtra a j seen (src :: rest) = stackExtra a (j+1) seen rest := by
  funext i
  simp only [stackExtra]
  split
  · rfl
  · next hi =>
    have hne : src ≠ i := fun e => hi (e ▸ h)
    simp only [Spec.firstIdx, if_neg hne]
    cases Spec.firstIdx i rest with
    | none => rfl
    | some b => exact congrArg (fun n => [(a, n)]) (Nat.add_right_comm j b 1)

theorem stackExtra_cons_unseen (a j : Nat) {seen : List Nat} {src : Nat} (rest : List Nat)
    (h : src ∉ seen) : stackExtra a j seen (src :: rest) =
      fun i => (if src = i then [(a, j)] else []) ++ stackExtra a (j+1) (src :: seen) rest i := by
  funext i
  by_cases e : src = i
  · subst e; simp [stackExtra, h, Spec.firstIdx]
  · have e' : ¬ i = src := fun h => e h.symm
    simp only [stackExtra, if_neg e, List.mem_cons, e', false_or, Spec.firstIdx, List.nil_append]
    split
    · rfl
    · cases Spec.firstIdx i rest with
      | none => rfl
      | some b => exact congrArg (fun n => [(a, n)]) (Nat.add_right_comm j b 1)

theorem fillStack_spec (a : Nat) (l : List Nat) : ∀ (j : Nat) (seen : List Nat) (nn : Bool) (S : List Source),
    (∀ i ∈ l, i < S.length) → (∀ s ∈ S, s.places.nonnil = true) →
    fillStack a l j seen ⟨nn, S⟩ = .ok ⟨nn, addPlaces S (stackExtra a j seen l)⟩ := by
  induction l with
  | nil =>
    intro j seen nn S _ hS
    rw [fillStack, stackExtra_nil, addPlaces_nil S hS]
  | cons src rest ih =>
    intro j seen nn S hr hS
    have hrest : ∀ i ∈ rest, i < S.length := fun i hi => hr i (List.mem_cons_of_mem _ hi)
    by_cases hseen : src ∈ seen
    · rw [fillStack, if_pos (by simpa using hseen), ih _ _ _ _ hrest hS, stackExtra_cons_seen a j rest hseen]
    · rw [fillStack, if_neg (by simpa using hseen)]
      simp only [Slice.upd, if_pos (hr src List.mem_cons_self), bind, Outcome.bind]
      rw [modify_push S hS, ih _ _ _ _ (by rw [length_addPlaces]; exact hrest) addPlaces_nonnil,
        addPlaces_addPlaces, stackExtra_cons_unseen a j rest hseen]

theorem fillPlaces_spec (stacks : List Stack) : ∀ (a : Nat) (nn : Bool) (S : List Source),
    (∀ st ∈ stacks, ∀ i ∈ st.sources.elems, i < S.length) → (∀ s ∈ S, s.places.nonnil = true) →
    fillPlaces stacks a ⟨nn, S⟩ = .ok ⟨nn, addPlaces S fun i =>
      Spec.placesFrom i a (stacks.map (·.sources.elems))⟩ := by
  induction stacks with
  | nil =>
    intro a nn S _ hS
    simp only [fillPlaces, List.map_nil, Spec.placesFrom, addPlaces_nil S hS]
  | cons st rest ih =>
    intro a nn S hr hS
    have hcons : (fun i => Spec.placesFrom i a ((st :: rest).map (·.sources.elems))) = fun i =>
        stackExtra a 0 [] st.sources.elems i ++ Spec.placesFrom i (a+1) (rest.map (·.sources.elems)) := by
      funext i
      simp only [stackExtra, List.not_mem_nil, if_false, List.map_cons, Spec.placesFrom, Nat.zero_add]
      cases Spec.firstIdx i st.sources.elems <;> rfl
    rw [fillPlaces, fillStack_spec a st.sources.elems 0 [] nn S (hr st List.mem_cons_self) hS]
    simp only [bind, Outcome.bind]
    rw [ih _ _ _ (by rw [length_addPlaces]; exact fun st' hst' => hr st' (List.mem_cons_of_mem _ hst'))
      addPlaces_nonnil, addPlaces_addPlaces, hcons]

def result (total : Int) (st : St) (rs : List (Int × List Frame)) : StackSet :=
  { total := total,
    stacks := Slice.lit (rs.map (mkStack st.srcs)),
    sources := Slice.lit (addPlaces st.sources.elems (Spec.placesOf (rs.map (mkStack st.srcs)))) }

theorem build_spec (o : Opts) (total : Int) (rs : List (Int × List Frame)) :
    ∃ st, Inv o (st, Slice.lit (rs.map (mkStack st.srcs))) rs ∧ NamesInv st ∧
      build o total rs = .ok (result total st rs) := by
  obtain ⟨⟨st, stacks⟩, hm, inv, uq⟩ := makeInitialStacks_spec o rs
  obtain rfl : stacks = Slice.lit (rs.map (mkStack st.srcs)) := slice_eq_lit inv.snn inv.stacks
  refine ⟨st, inv, uq, ?_⟩
  have hfp := fillPlaces_spec (rs.map (mkStack st.srcs)) 0 st.sources.nonnil st.sources.elems inv.range
    (fun s hs => by
      obtain ⟨i, hi⟩ := List.mem_iff_getElem?.1 hs
      rw [(inv.self i s hi).2]; rfl)
  simp only [build, hm, bind, Outcome.bind, pure]
  rw [show (Slice.lit (rs.map (mkStack st.srcs))).elems = rs.map (mkStack st.srcs) from rfl, hfp,
    inv.wf.nn]
  rfl

theorem result_stack {total : Int} {st : St} {rs : List (Int × List Frame)} {i : Nat} :
    (result total st rs).stacks.elems[i]? = rs[i]?.map (mkStack st.srcs) := List.getElem?_map ..

theorem map_nm_addPlaces (S : List Source) (g : Nat → List (Nat × Nat)) :
    (addPlaces S g).map nm = S.map nm := by
  apply List.ext_getElem?
  intro j
  rw [List.getElem?_map, getElem?_addPlaces, List.getElem?_map]
  cases S[j]? <;> rfl

theorem firstIdx_eq_findIdx? (i : Nat) (l : List Nat) : Spec.firstIdx i l = l.findIdx? (· == i) := by
  induction l with
  | nil => rfl
  | cons x r ih => simp [Spec.firstIdx, List.findIdx?_cons, ih]

theorem firstIdx_eq_some_iff (i : Nat) (l : List Nat) (b : Nat) :
    Spec.firstIdx i l = some b ↔ l[b]? = some i ∧ ∀ b', b' < b → l[b']? ≠ some i := by
  simp only [firstIdx_eq_findIdx?, List.findIdx?_eq_some_iff_getElem, beq_iff_eq, ne_eq,
    List.getElem?_eq_some_iff]
  constructor
  · rintro ⟨hb, he, hlt⟩
    exact ⟨⟨hb, he⟩, fun b' hb' ⟨_, h'⟩ => hlt b' hb' h'⟩
  · rintro ⟨⟨hb, he⟩, hlt⟩
    exact ⟨hb, he, fun j hj h' => hlt j hj ⟨Nat.lt_trans hj hb, h'⟩⟩

theorem placesFrom_eq (i : Nat) (ls : List (List Nat)) (a0 : Nat) :
    Spec.placesFrom i a0 ls =
      (ls.zipIdx a0).filterMap fun q => (Spec.firstIdx i q.1).map (q.2, ·) := by
  induction ls generalizing a0 with
  | nil => rfl
  | cons l r ih =>
    rw [Spec.placesFrom, List.zipIdx_cons, List.filterMap_cons, ← ih]
    cases Spec.firstIdx i l <;> rfl

theorem placesFrom_ge (i : Nat) (ls : List (List Nat)) (a0 : Nat) :
    ∀ pl ∈ Spec.placesFrom i a0 ls, a0 ≤ pl.1 := by
  intro pl hpl
  rw [placesFrom_eq, List.mem_filterMap] at hpl
  obtain ⟨q, hq, h⟩ := hpl
  obtain ⟨b, _, rfl⟩ := Option.map_eq_some_iff.1 h
  exact (List.mem_zipIdx_iff_le_and_getElem?_sub.1 hq).1

theorem placesFrom_pairwise (i : Nat) (ls : List (List Nat)) : ∀ a0,
    List.Pairwise (fun x y : Nat × Nat => x.1 < y.1) (Spec.placesFrom i a0 ls) := by
  induction ls with
  | nil => intro a0; exact List.Pairwise.nil
  | cons l r ih =>
    intro a0
    rw [Spec.placesFrom]
    cases Spec.firstIdx i l with
    | none => exact ih (a0+1)
    | some b => exact List.Pairwise.cons (placesFrom_ge i r (a0+1)) (ih (a0+1))

theorem mem_placesOf {stacks : List Stack} {i a b : Nat} :
    (a, b) ∈ Spec.placesOf stacks i ↔ ∃ st, stacks[a]? = some st ∧
      st.sources.elems[b]? = some i ∧ ∀ b', b' < b → st.sources.elems[b']? ≠ some i := by
  rw [Spec.placesOf, placesFrom_eq, List.mem_filterMap]
  simp only [List.mem_zipIdx_iff_getElem?, List.getElem?_map, Option.map_eq_some_iff, Prod.mk.injEq,
    firstIdx_eq_some_iff]
  constructor
  · rintro ⟨⟨l, k⟩, ⟨sk, hk, rfl⟩, b', hf, rfl, rfl⟩
    exact ⟨sk, hk, hf⟩
  · rintro ⟨sk, hk, hf⟩
    exact ⟨(_, a), ⟨sk, hk, rfl⟩, b, hf, rfl, rfl⟩

theorem resolveOne_some {p : Profile} {idx : Nat} {s : Sample} {r : Int × List Frame}
    (h : Spec.resolveOne p idx s = some r) :
    s.values[idx]? = some r.1 ∧ Spec.sampleFrames p s = some r.2 := by
  unfold Spec.resolveOne at h
  split at h
  · next hv hf => obtain rfl := Option.some.inj h; exact ⟨hv, hf⟩
  · cases h

theorem values_of_resolve {p : Profile} {idx : Nat} {rs : List (Int × List Frame)}
    (h : Spec.resolve p idx = some rs) :
    p.samples.filterMap (fun s => s.values[idx]?) = rs.map (·.1) := by
  rw [Spec.resolve] at h
  generalize p.samples = samples at h
  induction samples generalizing rs with
  | nil => obtain rfl := Option.some.inj h; rfl
  | cons s t ih =>
    rw [Spec.optMap] at h
    split at h
    · next r rs' hr ht =>
      obtain rfl := Option.some.inj h
      rw [List.filterMap_cons, (resolveOne_some hr).1, ih ht]
      rfl
    · cases h

theorem resolve_at {p : Profile} {idx : Nat} {rs : List (Int × List Frame)}
    (h : Spec.resolve p idx = some rs) :
    rs.length = p.samples.length ∧
    ∀ i (hi : i < p.samples.length), ∃ r, rs[i]? = some r ∧
      p.samples[i].values[idx]? = some r.1 ∧ Spec.sampleFrames p p.samples[i] = some r.2 := by
  rw [Spec.resolve, optMap_eq_some_iff] at h
  have hlen : rs.length = p.samples.length := by simpa using (congrArg List.length h).symm
  refine ⟨hlen, fun i hi => ?_⟩
  have hi' : i < rs.length := hlen ▸ hi
  have := congrArg (·[i]?) h
  simp only [List.getElem?_map, List.getElem?_eq_getElem hi, List.getElem?_eq_getElem hi',
    Option.map_some, Option.some.injEq] at this
  exact ⟨rs[i], List.getElem?_eq_getElem hi', resolveOne_some this⟩

theorem stacks_ok {o : Opts} {p : Profile} {idx : Nat} {ss : StackSet} (h : stacks o p idx = .ok ss) :
    ∃ rs st total, Spec.resolve p idx = some rs ∧
      Inv o (st, Slice.lit (rs.map (mkStack st.srcs))) rs ∧ ss = result total st rs ∧
      NamingScheme (ss.sources.elems.map nm) := by
  rw [stacks] at h
  cases hr : resolve p idx with
  | err e => rw [hr] at h; cases h
  | panic e => rw [hr] at h; cases h
  | ok rs =>
    rw [hr] at h
    obtain ⟨st, inv, uq, hb⟩ := build_spec o (computeTotal ((rs.zip p.samples).map fun x => (x.1.1, diffBase x.2))) rs
    obtain rfl := Outcome.ok.inj (hb.symm.trans h)
    refine ⟨rs, st, _, (resolve_spec p idx).symm.trans (toOpt_eq_some.2 hr), inv, rfl, ?_⟩
    show NamingScheme ((addPlaces _ _).map nm)
    rw [map_nm_addPlaces]
    exact uq.uniq

section
variable {o : Opts} {total : Int} {st : St} {rs : List (Int × List Frame)}
  (inv : Inv o (st, Slice.lit (rs.map (mkStack st.srcs))) rs)
include inv

theorem result_source {i : Nat} {s : Source} :
    (result total st rs).sources.elems[i]? = some s ↔ ∃ s0, st.sources.elems[i]? = some s0 ∧
      s = { s0 with places := Slice.lit (Spec.placesOf (rs.map (mkStack st.srcs)) i) } := by
  show (addPlaces _ _)[i]? = _ ↔ _
  rw [getElem?_addPlaces, Option.map_eq_some_iff]
  refine exists_congr fun s0 => and_congr_right fun h0 => ?_
  rw [addP, (inv.self i s0 h0).2, eq_comm]
  rfl

theorem result_source_of_key {k : Key} {j : Nat} (hj : st.srcs.lookup k = some j) :
    1 ≤ j ∧ ∃ so, (result total st rs).sources.elems[j]? = some so ∧ Describes o so k := by
  obtain ⟨s0, hs0, hd⟩ := inv.wf.desc _ _ hj
  exact ⟨(inv.wf.rng _ _ hj).1, _, (result_source inv).2 ⟨s0, hs0, rfl⟩, hd⟩

theorem frames_known {p : Profile} {idx : Nat} (hres : Spec.resolve p idx = some rs)
    {s : Sample} (hs : s ∈ p.samples) {fs : List Frame} (hfs : Spec.sampleFrames p s = some fs)
    {f : Frame} (hf : f ∈ fs) : ∃ j, st.srcs.lookup f.key = some j := by
  obtain ⟨i, hi, rfl⟩ := List.getElem_of_mem hs
  obtain ⟨r, hr, _, hfr⟩ := (resolve_at hres).2 i hi
  obtain rfl : fs = r.2 := Option.some.inj (hfs.symm.trans hfr)
  exact Option.isSome_iff_exists.1 (inv.known r (List.mem_of_getElem? hr) f hf)

end

end PV.Stacks
