import PprofVerif.Lemmas.ComposeParse
import PprofVerif.Lemmas.MergeTotals
/-!
# Composition C02 ← C03: a parser output meets the typing hypothesis of the merge theorems

C03's `Typed` (sample values and numeric label values are int64) is a part of C01's `InRange`,
which every parser output satisfies (`parseUncompressed_inRange`).  A parser output also always
carries a `PeriodType` (`postDecode` builds the empty value type for a nil pointer).
-/
namespace PV
namespace Codec
open Wire

theorem typed_of_inRange {p : Profile} (hr : InRange p) : Merge.Typed p :=
  fun s hs => ⟨(hr.samples s hs).2.1, (hr.samples s hs).2.2⟩

theorem parseUncompressed_typed (b : Bytes) (p : Profile) (h : parseUncompressed b = .ok p) : Merge.Typed p :=
  typed_of_inRange (parseUncompressed_inRange b p h)

theorem parseUncompressed_periodType_isSome (b : Bytes) (p : Profile) (h : parseUncompressed b = .ok p) :
    p.periodType.isSome = true := ((parseUncompressed_safe b).of_ok h).2.2

end Codec
end PV

namespace PV
namespace Merge
open PV.Spec

/-- every accepted input is valid and well typed: the per-profile hypotheses of `merge_spec` -/
theorem parsed_valid_typed (b : Wire.Bytes) (p : Profile) (h : Parse.parseData b = .ok p) : p.Valid ∧ Typed p := by
  obtain ⟨hp, hv⟩ := (Parse.parseData_ok_iff b p).mp h
  exact ⟨hv, Codec.parseUncompressed_typed b p hp⟩

theorem forall₂_parsed_valid_typed {bs : List Wire.Bytes} {ps : List Profile}
    (h : List.Forall₂ (fun b p => Parse.parseData b = .ok p) bs ps) : ∀ p ∈ ps, p.Valid ∧ Typed p := by
  intro p hp
  obtain ⟨b, _, hb⟩ := forall₂_mem_right h hp
  exact parsed_valid_typed b p hb

end Merge
end PV
