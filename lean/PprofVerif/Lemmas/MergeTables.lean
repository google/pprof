import PprofVerif.Lemmas.MergeDedup
import PprofVerif.Lemmas.MergeKeys
import PprofVerif.Lemmas.MergeResolve
/-!
The tables of `buildTables` are the memo tables of a traversal, in order of first occurrence
(`Tables.Over`, `buildTables_over`), so every entity met has its key in its table; and "same
concrete key ⇔ same semantic identity" for functions, mappings, locations and samples
(DESIGN A.2, I1–I4) — the instantiation of the key scheme for the staged model.
-/
namespace PV.Merge
open PV.Spec
open PV.Wire (InI64)

theorem functionKey_eq_iff (f g : Function) : functionKey f = functionKey g ↔ funcIdent f = funcIdent g := by
  simp only [functionKey, funcIdent, FunctionKey.mk.injEq, FuncIdent.mk.injEq]
  exact ⟨fun ⟨a, b, c, d⟩ => ⟨b, c, d, a⟩, fun ⟨b, c, d, a⟩ => ⟨a, b, c, d⟩⟩

theorem mappingKey_eq_iff (m m' : Mapping) : mappingKey m = mappingKey m' ↔ mapIdent m = mapIdent m' := by
  have hb : ∀ x : Mapping, (if x.buildID ≠ [] then x.buildID else if x.file ≠ [] then x.file else []) =
      (if x.buildID = [] then x.file else x.buildID) := by
    intro x; by_cases h1 : x.buildID = [] <;> by_cases h2 : x.file = [] <;> simp [h1, h2]
  simp only [mappingKey, mapIdent, MappingKey.mk.injEq, MapIdent.mk.injEq, hb]
  constructor
  · rintro ⟨h1, h2, h3⟩; exact ⟨h3, h1, h2⟩
  · rintro ⟨h1, h2, h3⟩; exact ⟨h2, h3, h1⟩

theorem map_eq_map_iff {α β γ : Type} (f : α → β) (g : α → γ) (as bs : List α)
    (h : ∀ a ∈ as, ∀ b ∈ bs, (f a = f b ↔ g a = g b)) : as.map f = bs.map f ↔ as.map g = bs.map g :=
  ⟨fun e => map_eq_of_keys_eq f f g g as bs e fun a ha b hb => (h a ha b hb).mp,
   fun e => map_eq_of_keys_eq g g f f as bs e fun a ha b hb => (h a ha b hb).mpr⟩

theorem mem_allLocs {srcs : List Src} {l : RLocation} :
    l ∈ allLocs srcs ↔ ∃ src ∈ srcs, ∃ s ∈ processed src, l ∈ s.locs := by
  simp only [allLocs, allSamples, List.mem_flatMap]
  constructor
  · rintro ⟨s, ⟨src, hsrc, hs⟩, hl⟩; exact ⟨src, hsrc, s, hs, hl⟩
  · rintro ⟨src, hsrc, s, hs, hl⟩; exact ⟨s, ⟨src, hsrc, hs⟩, hl⟩

theorem mem_allSamples {srcs : List Src} {s : RSample} :
    s ∈ allSamples srcs ↔ ∃ src ∈ srcs, s ∈ src.samples ∧ isZeroSample s.values = false := by
  simp only [allSamples, processed, List.mem_flatMap, List.mem_filter, Bool.not_eq_true']

theorem mem_allLocs_of_sample {srcs : List Src} {s : RSample} (hs : s ∈ allSamples srcs) {l : RLocation}
    (hl : l ∈ s.locs) : l ∈ allLocs srcs := by
  simp only [allLocs, List.mem_flatMap]
  exact ⟨s, hs, hl⟩

/-- all entities of a location have their keys in the function and mapping tables. -/
def LocIn (ftab : List Function) (mtab : List Mapping) (l : RLocation) : Prop :=
  (∀ m, l.mapping = some m → mappingKey m ∈ mtab.map mappingKey) ∧
  (∀ ln ∈ l.lines, ∀ f, ln.fn = some f → functionKey f ∈ ftab.map functionKey)

theorem subU64_rebase (a s' s : Nat) : subU64 (addU64 a (subU64 s' s)) s' = subU64 a s := by
  -- subtracting `s'` after adding it adds a multiple of 2⁶⁴
  have hc : ∀ x y : Nat, x + (18446744073709551616 - s' % 18446744073709551616) + (s' + y) =
      x + y + 18446744073709551616 * (s' / 18446744073709551616 + 1) := fun x y => by omega
  unfold subU64 addU64
  rw [Nat.mod_add_mod, Nat.add_right_comm, Nat.add_mod_mod, hc, Nat.add_mul_mod_self_left]

theorem subU64_self (s : Nat) : subU64 s s = 0 := by
  unfold subU64
  rw [← Nat.mod_add_mod, Nat.add_sub_cancel' (Nat.le_of_lt (Nat.mod_lt _ (by decide))), Nat.mod_self]

theorem addU64_addU64_zero (a d : Nat) : addU64 (addU64 a d) 0 = addU64 a d := by
  simp only [addU64, Nat.add_zero, Nat.mod_mod]

theorem addU64_subU64 (a s' s : Nat) : addU64 a (subU64 s' s) = addU64 (subU64 a s) s' := by
  unfold addU64 subU64
  generalize 18446744073709551616 = M
  rw [Nat.add_mod_mod, Nat.mod_add_mod, ← Nat.add_assoc, Nat.add_right_comm]

/-- id of an optional entity in the merged profile (nil = 0). -/
def idOpt {ε κ : Type} [DecidableEq κ] (key : ε → κ) (tab : List ε) : Option ε → Nat
  | none => 0
  | some e => idOf key tab (key e)

theorem remapLine_eq (ftab : List Function) (ln : RLine) :
    remapLine ftab ln = { functionID := idOpt functionKey ftab ln.fn, line := ln.line, column := ln.column } := by
  unfold remapLine idOpt
  cases ln.fn <;> rfl

theorem locKeyOf_eq (ftab : List Function) (mtab : List Mapping) (l : RLocation) :
    locKeyOf ftab mtab l =
      { addr := (frameIdent l).relAddr,
        mappingID := idOpt mappingKey mtab l.mapping,
        lines := linesKey (l.lines.map (remapLine ftab)),
        isFolded := l.isFolded } := by
  unfold locKeyOf remapLoc locationKey frameIdent idOpt
  cases hm : l.mapping with
  | none => simp
  | some m =>
    simp only [idOf_ne_zero mappingKey mtab (mappingKey m), if_false, subU64_rebase]

theorem idOpt_eq_iff {ε κ ι : Type} [DecidableEq κ] (key : ε → κ) (ident : ε → ι)
    (hk : ∀ x y, key x = key y ↔ ident x = ident y) (tab : List ε) (a b : Option ε)
    (ha : ∀ e, a = some e → key e ∈ tab.map key) :
    idOpt key tab a = idOpt key tab b ↔ a.map ident = b.map ident := by
  cases a with
  | none =>
    cases b with
    | none => exact iff_of_true rfl rfl
    | some e => exact iff_of_false (fun h => idOf_ne_zero key tab (key e) h.symm) (fun h => nomatch h)
  | some f =>
    cases b with
    | none => exact iff_of_false (idOf_ne_zero key tab (key f)) (fun h => nomatch h)
    | some e =>
      rw [Option.map_some, Option.map_some, Option.some.injEq, ← hk]
      exact ⟨idOf_inj key tab (ha f rfl), fun h => congrArg (idOf key tab) h⟩

theorem remapLine_eq_iff (ftab : List Function) (a b : RLine)
    (ha : ∀ f, a.fn = some f → functionKey f ∈ ftab.map functionKey) :
    remapLine ftab a = remapLine ftab b ↔ lineIdent a = lineIdent b := by
  rw [remapLine_eq, remapLine_eq]
  unfold lineIdent
  simp only [Line.mk.injEq, LineIdent.mk.injEq]
  rw [idOpt_eq_iff functionKey funcIdent functionKey_eq_iff ftab a.fn b.fn ha]

/-- **I3**: on locations whose entities are in the tables, same `Location.key` ⇔ same frame
identity (binary identity, mapping-relative address, inline chain, folded flag). -/
theorem locKeyOf_eq_iff (ftab : List Function) (mtab : List Mapping) (l1 l2 : RLocation)
    (h1 : LocIn ftab mtab l1) :
    locKeyOf ftab mtab l1 = locKeyOf ftab mtab l2 ↔ frameIdent l1 = frameIdent l2 := by
  have hlines : linesKey (l1.lines.map (remapLine ftab)) = linesKey (l2.lines.map (remapLine ftab)) ↔
      l1.lines.map lineIdent = l2.lines.map lineIdent :=
    (Iff.intro (linesKey_inj _ _) (congrArg linesKey)).trans <|
      map_eq_map_iff (remapLine ftab) lineIdent l1.lines l2.lines
        fun a ha b _ => remapLine_eq_iff ftab a b (h1.2 a ha)
  rw [locKeyOf_eq, locKeyOf_eq]
  simp only [frameIdent, LocationKey.mk.injEq, FrameIdent.mk.injEq]
  rw [hlines, idOpt_eq_iff mappingKey mapIdent mappingKey_eq_iff mtab l1.mapping l2.mapping h1.1]
  exact and_left_comm

section
variable {ftab : List Function} {mtab : List Mapping}

theorem firstSeen_congr {m m' : Mapping} (hm : mappingKey m ∈ mtab.map mappingKey)
    (h : mappingKey m = mappingKey m') : firstSeen mtab m = firstSeen mtab m' := by
  obtain ⟨e, he, _⟩ := entryOf_spec mappingKey mtab (mappingKey m) hm
  unfold firstSeen
  rw [← h, he]

/-- the key holds the mapping id, the lines, the folded flag and the address relative to the
start of the mapping that was kept. -/
theorem remapLoc_eq_of_locKeyOf_eq {a b : RLocation}
    (ha : LocIn ftab mtab a) (h : locKeyOf ftab mtab a = locKeyOf ftab mtab b) :
    remapLoc ftab mtab a = remapLoc ftab mtab b := by
  rw [locKeyOf_eq, locKeyOf_eq, LocationKey.mk.injEq] at h
  obtain ⟨h1, h2, h3, h4⟩ := h
  have hl := linesKey_inj _ _ h3
  unfold frameIdent at h1
  unfold remapLoc
  cases hma : a.mapping with
  | none =>
    cases hmb : b.mapping with
    | none =>
      rw [hma, hmb] at h1
      have h1' : a.address = b.address := h1
      rw [hl, h4, h1']
    | some m' => rw [hma, hmb] at h2; exact absurd h2 (Nat.ne_of_lt (idOf_pos mappingKey mtab (mappingKey m')))
  | some m =>
    cases hmb : b.mapping with
    | none => rw [hma, hmb] at h2; exact absurd h2 (Nat.ne_of_gt (idOf_pos mappingKey mtab (mappingKey m)))
    | some m' =>
      rw [hma, hmb] at h1 h2
      have hk := idOf_inj mappingKey mtab (ha.1 m hma) h2
      have h1' : subU64 a.address m.start = subU64 b.address m'.start := h1
      simp only [hl, h4, hk, ← firstSeen_congr (ha.1 m hma) hk, addU64_subU64, h1']

end

theorem Tables.ext {a b : Tables} (h1 : a.ftab = b.ftab) (h2 : a.mtab = b.mtab) (h3 : a.ltab = b.ltab) : a = b := by
  cases a; cases b; simp only at h1 h2 h3; rw [h1, h2, h3]

/-- `t` holds the memo tables of a traversal that met the locations `X` (per location its
mapping, then the functions of its lines), with at most one mapping pre-inserted. -/
structure Tables.Over (t : Tables) (X : List RLocation) : Prop where
  ftab : t.ftab = internBy functionKey (X.flatMap funcsOfLoc)
  mtab : ∃ pre, pre.length ≤ 1 ∧ t.mtab = internBy mappingKey (pre ++ X.filterMap (·.mapping))
  ltab : t.ltab = internBy Prod.fst (X.map fun l => (locKeyOf t.ftab t.mtab l, remapLoc t.ftab t.mtab l))

namespace Tables.Over
variable {t : Tables} {X : List RLocation} (h : t.Over X)
include h

theorem fkeys_nodup : (t.ftab.map functionKey).Nodup := by rw [h.ftab]; exact internBy_keys_nodup functionKey _

theorem mkeys_nodup : (t.mtab.map mappingKey).Nodup := by
  obtain ⟨pre, _, hm⟩ := h.mtab
  rw [hm]; exact internBy_keys_nodup mappingKey _

theorem fn_mem {x : RLocation} (hx : x ∈ X) {f : Function} (hf : f ∈ funcsOfLoc x) :
    functionKey f ∈ t.ftab.map functionKey := by
  rw [h.ftab, mem_internBy_keys]
  exact List.mem_map_of_mem (List.mem_flatMap.mpr ⟨x, hx, hf⟩)

theorem locIn {x : RLocation} (hx : x ∈ X) : LocIn t.ftab t.mtab x := by
  refine ⟨fun m hm => ?_, fun ln hln f hf => h.fn_mem hx (List.mem_filterMap.mpr ⟨ln, hln, hf⟩)⟩
  obtain ⟨pre, _, hmt⟩ := h.mtab
  rw [hmt, mem_internBy_keys]
  exact List.mem_map_of_mem (List.mem_append_right _ (List.mem_filterMap.mpr ⟨x, hx, hm⟩))

theorem lkey_mem {x : RLocation} (hx : x ∈ X) : locKeyOf t.ftab t.mtab x ∈ t.ltab.map Prod.fst := by
  rw [h.ltab, mem_internBy_keys, List.map_map]; exact List.mem_map.mpr ⟨x, hx, rfl⟩

/-- the entry of the location table at the id of a traversed location is its own key and
remapping (not only those of the first location met with that key). -/
theorem ltab_getElem? {x : RLocation} (hx : x ∈ X) :
    t.ltab[t.lid x - 1]? = some (locKeyOf t.ftab t.mtab x, remapLoc t.ftab t.mtab x) := by
  obtain ⟨e, _, hek, hemem, hget⟩ := entryOf_spec Prod.fst t.ltab _ (h.lkey_mem hx)
  rw [h.ltab] at hemem
  obtain ⟨x0, hx0, rfl⟩ := List.mem_map.mp (mem_internBy Prod.fst _ e hemem)
  rw [remapLoc_eq_of_locKeyOf_eq (h.locIn hx0) hek, show locKeyOf t.ftab t.mtab x0 = _ from hek] at hget
  exact hget

end Tables.Over

theorem allLocs_cons (src : Src) (rest : List Src) :
    allLocs (src :: rest) = (processed src).flatMap (·.locs) ++ allLocs rest := by
  simp only [allLocs, allSamples, List.flatMap_cons, List.flatMap_append]

theorem seenMappings_of_ne_nil (srcs : List Src) : ∀ (acc : List Mapping), acc ≠ [] →
    seenMappings acc srcs = acc ++ (allLocs srcs).filterMap (·.mapping) := by
  induction srcs with
  | nil => intro acc _; exact (List.append_nil _).symm
  | cons src rest ih =>
    intro acc hacc
    rw [seenMappings, if_neg (mt List.isEmpty_iff.mp hacc), ih _ fun h => hacc (List.append_eq_nil_iff.mp h).1,
      allLocs_cons, List.filterMap_append, List.append_assoc]

/-- starting empty, at most one pre-inserted mapping comes in front
(`len(pm.mappings) == 0 && len(src.Mapping) > 0`). -/
theorem seenMappings_nil (srcs : List Src) :
    ∃ pre, pre.length ≤ 1 ∧ seenMappings [] srcs = pre ++ (allLocs srcs).filterMap (·.mapping) := by
  induction srcs with
  | nil => exact ⟨[], Nat.zero_le _, rfl⟩
  | cons src rest ih =>
    rw [seenMappings, if_pos List.isEmpty_nil, List.nil_append, allLocs_cons, List.filterMap_append]
    by_cases hnil : src.firstMapping.toList ++ ((processed src).flatMap (·.locs)).filterMap (·.mapping) = []
    · -- nothing met yet: the pre-insertion is still to come
      obtain ⟨pre, hlen, hform⟩ := ih
      obtain ⟨_, h2⟩ := List.append_eq_nil_iff.mp hnil
      exact ⟨pre, hlen, by rw [hnil, hform, h2]; rfl⟩
    · exact ⟨src.firstMapping.toList, by cases src.firstMapping; exacts [Nat.zero_le 1, Nat.le_refl 1],
        by rw [seenMappings_of_ne_nil _ _ hnil, List.append_assoc]⟩

theorem buildTables_over (srcs : List Src) : (buildTables srcs).Over (allLocs srcs) := by
  obtain ⟨pre, hlen, hform⟩ := seenMappings_nil srcs
  exact ⟨rfl, ⟨pre, hlen, by rw [← hform]; rfl⟩, rfl⟩

theorem lookup_map_units (g : Str → List Str) : ∀ (nl : List (Str × List Int)) (k : Str),
    k ∈ nl.map (·.1) → unitsOf (nl.map fun kv => (kv.1, g kv.1)) k = g k := by
  intro nl k h
  induction nl with
  | nil => cases h
  | cons kv nl ih =>
    unfold unitsOf
    rw [List.map_cons, List.lookup_cons]
    by_cases hk : k = kv.1
    · subst hk; simp
    · rw [beq_false_of_ne hk]
      exact ih ((List.mem_cons.mp h).resolve_left hk)

/-- the units `mapSample` copies are the units the key was computed from. -/
theorem labelsWithUnits_remap (nl : List (Str × List Int)) (nu : List (Str × List Str)) :
    labelsWithUnits nl (nl.map fun kv => (kv.1, unitsOf nu kv.1)) = labelsWithUnits nl nu := by
  unfold labelsWithUnits
  apply List.map_congr_left
  intro kv hkv
  rw [lookup_map_units (unitsOf nu) nl kv.1 (List.mem_map_of_mem hkv)]

theorem labelsWithUnits_eq_numLabelIdent (s : RSample) :
    labelsWithUnits s.numLabel s.numUnit = numLabelIdent s := rfl

theorem sampleKey_congr (a b : Sample) (h1 : a.locationIDs = b.locationIDs) (h2 : a.label = b.label)
    (h3 : labelsWithUnits a.numLabel a.numUnit = labelsWithUnits b.numLabel b.numUnit) :
    sampleKey a = sampleKey b := by
  unfold sampleKey
  rw [← labelsWithUnits_length a.numLabel a.numUnit, ← labelsWithUnits_length b.numLabel b.numUnit, h1, h2, h3]

theorem remapSample_ids_ne_zero (t : Tables) (s : RSample) :
    ∀ id ∈ (remapSample t.lid s).locationIDs, id ≠ 0 := by
  intro id hid
  obtain ⟨l, _, rfl⟩ := List.mem_map.mp hid
  exact idOf_ne_zero _ _ _

/-- **I4**: on samples whose locations were traversed, same `sampleKey` ⇔ same stack key. -/
theorem Tables.Over.sampleKey_eq_iff {t : Tables} {X : List RLocation} (h : t.Over X) {s1 s2 : RSample}
    (h1 : ∀ l ∈ s1.locs, l ∈ X)
    (hn1 : ∀ kv ∈ s1.numLabel, ∀ v ∈ kv.2, InI64 v) (hn2 : ∀ kv ∈ s2.numLabel, ∀ v ∈ kv.2, InI64 v) :
    (keyedSample t s1).1 = (keyedSample t s2).1 ↔ stackKey s1 = stackKey s2 := by
  show sampleKey (remapSample t.lid s1) = sampleKey (remapSample t.lid s2) ↔ _
  have hlocs : s1.locs.map t.lid = s2.locs.map t.lid ↔ s1.locs.map frameIdent = s2.locs.map frameIdent :=
    map_eq_map_iff t.lid frameIdent _ _ fun a ha b _ =>
      (Iff.intro (idOf_inj Prod.fst t.ltab (h.lkey_mem (h1 a ha))) (congrArg _)).trans
        (locKeyOf_eq_iff t.ftab t.mtab a b (h.locIn (h1 a ha)))
  have hl : ∀ s : RSample, labelsWithUnits (remapSample t.lid s).numLabel (remapSample t.lid s).numUnit =
      numLabelIdent s := fun s => labelsWithUnits_remap s.numLabel s.numUnit
  constructor
  · intro hk
    obtain ⟨e1, e2, e3⟩ := sampleKey_inj _ _ (remapSample_ids_ne_zero t s1) (remapSample_ids_ne_zero t s2) hn1 hn2 hk
    rw [hl, hl] at e3
    unfold stackKey
    rw [StackKey.mk.injEq]
    exact ⟨hlocs.mp e1, e2, e3⟩
  · intro hk
    obtain ⟨k1, k2, k3⟩ := StackKey.mk.inj hk
    exact sampleKey_congr _ _ (hlocs.mpr k1) k2 (by rw [hl, hl]; exact k3)

end PV.Merge
