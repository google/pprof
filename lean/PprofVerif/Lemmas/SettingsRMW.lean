import PprofVerif.Model.SettingsRMW
/-! Serialisability of the read-modify-write cycles that `settingsMu` (`internal/driver/settings.go`) locks (C19). -/
namespace PV.RMW

variable {σ : Type}

def inCrit : PC σ → Bool
  | .locked => true
  | .haveRead _ => true
  | .written => true
  | _ => false

def hasWritten : PC σ → Bool
  | .written => true
  | .done => true
  | _ => false

/-- invariant of every reachable state of the LOCKED system: per thread, it is in its critical
section iff it holds the lock, what it has read is the file, and it is in the log iff it has
written; the file is the serial result of the log. -/
structure Inv (n : Nat) (edit : Nat → σ → σ) (f0 : σ) (s : Sys σ) : Prop where
  thr : ∀ j, (inCrit (s.pcs j) = true ↔ s.lock = some j) ∧ (∀ v, s.pcs j = .haveRead v → v = s.file) ∧
    (j ∈ s.log ↔ hasWritten (s.pcs j) = true)
  file : s.file = serial edit s.log f0
  nodup : s.log.Nodup
  bound : ∀ j, j ∈ s.log → j < n

theorem inv_init (n : Nat) (edit : Nat → σ → σ) (f0 : σ) : Inv n edit f0 (init f0) :=
  ⟨fun j => by simp [init, inCrit, hasWritten], rfl, List.nodup_nil, fun _ h => nomatch h⟩

theorem upd_same (pcs : Nat → PC σ) (i : Nat) (p : PC σ) : upd pcs i p i = p := if_pos rfl
theorem upd_other {pcs : Nat → PC σ} {i j : Nat} {p : PC σ} (h : j ≠ i) : upd pcs i p j = pcs j := if_neg h

theorem serial_append (edit : Nat → σ → σ) (l : List Nat) (i : Nat) (f : σ) :
    serial edit (l ++ [i]) f = edit i (serial edit l f) := by
  simp [serial, List.foldl_append]

/-- Another thread `j` cannot observe the change of lock, file and log: whenever these change, `i` holds the lock
and `j` is outside its critical section. -/
theorem inv_step (n : Nat) (edit : Nat → σ → σ) (f0 : σ) (s s' : Sys σ) (i : Nat)
    (h : Inv n edit f0 s) (hs : step true n edit s i = some s') : Inv n edit f0 s' := by
  unfold step at hs
  have hin : i < n := Decidable.by_contra fun hin => by rw [if_neg hin] at hs; cases hs
  rw [if_pos hin] at hs
  obtain ⟨hci, hri, hli⟩ := h.thr i
  have hout : ∀ j, j ≠ i → s.lock = some i → inCrit (s.pcs j) = true → False := fun j hji hl hc =>
    hji (Option.some.inj (((h.thr j).1.1 hc).symm.trans hl))
  split at hs
  · -- start: acquire
    rename_i hpc
    rw [if_pos rfl] at hs
    split at hs
    · rename_i hl
      cases hs
      rw [hpc] at hli
      refine ⟨fun j => ?_, h.file, h.nodup, h.bound⟩
      by_cases hji : j = i
      · subst hji
        dsimp only; rw [upd_same]
        exact ⟨⟨fun _ => rfl, fun _ => rfl⟩, (fun _ hv => nomatch hv), hli⟩
      · obtain ⟨hc, hr, hlw⟩ := h.thr j
        simp only [upd_other hji]
        exact ⟨⟨fun hcj => (nomatch hl.symm.trans (hc.1 hcj)), fun e => absurd (Option.some.inj e).symm hji⟩,
          hr, hlw⟩
    · cases hs
  · -- locked: read
    rename_i hpc
    cases hs
    rw [hpc] at hli
    refine ⟨fun j => ?_, h.file, h.nodup, h.bound⟩
    by_cases hji : j = i
    · subst hji
      dsimp only; rw [upd_same]
      exact ⟨⟨fun _ => hci.1 (by rw [hpc]; rfl), fun _ => rfl⟩, (fun _ hv => by cases hv; rfl), hli⟩
    · simpa only [upd_other hji] using h.thr j
  · -- haveRead v: write
    rename_i v hpc
    cases hs
    have hl : s.lock = some i := hci.1 (by rw [hpc]; rfl)
    rw [hpc] at hli
    refine ⟨fun j => ?_, ?_, ?_, ?_⟩
    · by_cases hji : j = i
      · subst hji
        dsimp only; rw [upd_same]
        exact ⟨⟨fun _ => hl, fun _ => rfl⟩, (fun _ hv => nomatch hv), fun _ => rfl, fun _ => List.mem_append_right _ (List.mem_singleton_self j)⟩
      · obtain ⟨hc, hr, hlw⟩ := h.thr j
        simp only [upd_other hji]
        exact ⟨hc, fun w hw => (hout j hji hl (by rw [hw]; rfl)).elim, by simpa [hji] using hlw⟩
    · show edit i v = serial edit (s.log ++ [i]) f0
      rw [serial_append, ← h.file, hri v hpc]
    · exact List.nodup_append.2 ⟨h.nodup, by simp, fun a ha b hb =>
        by rw [List.mem_singleton.1 hb]; exact fun e => nomatch hli.1 (e ▸ ha)⟩
    · intro j hj
      rcases List.mem_append.1 hj with hj | hj
      · exact h.bound j hj
      · rw [List.mem_singleton.1 hj]; exact hin
  · -- written: release
    rename_i hpc
    cases hs
    have hl : s.lock = some i := hci.1 (by rw [hpc]; rfl)
    rw [hpc] at hli
    refine ⟨fun j => ?_, h.file, h.nodup, h.bound⟩
    by_cases hji : j = i
    · subst hji
      dsimp only; rw [upd_same]
      exact ⟨⟨fun hc => (nomatch hc), fun e => (nomatch e)⟩, (fun _ hv => nomatch hv), hli⟩
    · obtain ⟨hc, hr, hlw⟩ := h.thr j
      simp only [upd_other hji]
      exact ⟨⟨fun hcj => (hout j hji hl hcj).elim, fun e => (nomatch e)⟩, hr, hlw⟩
  · cases hs

theorem inv_run (n : Nat) (edit : Nat → σ → σ) (f0 : σ) (sched : List Nat) :
    ∀ (s s' : Sys σ), Inv n edit f0 s → run true n edit s sched = some s' → Inv n edit f0 s' := by
  induction sched with
  | nil => intro s s' h hr; cases hr; exact h
  | cons i r ih =>
    intro s s' h hr
    obtain ⟨s1, hst, hr⟩ := Option.bind_eq_some_iff.1 hr
    exact ih s1 s' (inv_step n edit f0 s s1 i h hst) hr

theorem locked_serialisable (n : Nat) (edit : Nat → σ → σ) (f0 : σ) (sched : List Nat) (s : Sys σ)
    (hr : run true n edit (init f0) sched = some s) (hc : Complete n s) :
    s.file = serial edit s.log f0 ∧ s.log.Perm (List.range n) := by
  have h := inv_run n edit f0 sched _ _ (inv_init n edit f0) hr
  refine ⟨h.file, (List.perm_ext_iff_of_nodup h.nodup List.nodup_range).2 fun a =>
    ⟨fun ha => List.mem_range.2 (h.bound a ha), fun ha => (h.thr a).2.2.2 ?_⟩⟩
  have := hc a (List.mem_range.1 ha)
  cases hp : s.pcs a <;> rw [hp] at this <;> first | rfl | cases this

end PV.RMW
