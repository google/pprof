import PprofVerif.Spec.ElfLoader
/-! Lemmas for C13: the binary search of `addr2LinerNM.addrInfo` (addr2liner_nm.go:117). -/
namespace PV.Elf

theorem sorted_idx {m : List Sym} (hs : SortedByAddr m) {i j : Nat} {a b : Sym}
    (hij : i ≤ j) (ha : m[i]? = some a) (hb : m[j]? = some b) : a.address ≤ b.address := by
  rcases Nat.eq_or_lt_of_le hij with h | h
  · subst h; rw [ha] at hb; cases hb; exact Nat.le_refl _
  · unfold SortedByAddr at hs
    rw [List.pairwise_iff_getElem] at hs
    obtain ⟨hi, hai⟩ := List.getElem?_eq_some_iff.1 ha
    obtain ⟨hj, hbj⟩ := List.getElem?_eq_some_iff.1 hb
    have := hs i j hi hj h
    rw [hai, hbj] at this
    exact this

theorem nmLoop_spec (m : List Sym) (addr : Nat) (hs : SortedByAddr m) :
    ∀ fuel low high, low < high → high ≤ m.length → high - low ≤ fuel →
      (∃ s, m[low]? = some s ∧ s.address ≤ addr) →
      (∀ s, m[high]? = some s → addr < s.address) →
      ∃ r s, nmLoop m addr fuel low high = .ok r ∧ m[r]? = some s ∧ s.address ≤ addr ∧
        ∀ t ∈ m, t.address ≤ addr → t.address ≤ s.address := by
  intro fuel
  induction fuel with
  | zero => intro low high h1 _ h3; omega
  | succ n ih =>
    intro low high hlh hhl hfuel hlow hhigh
    unfold nmLoop
    by_cases hc : low + 1 < high
    · rw [if_pos hc]
      have hmid1 : low < (low + high) / 2 := by omega
      have hmid2 : (low + high) / 2 < high := by omega
      have hmidlen : (low + high) / 2 < m.length := by omega
      obtain ⟨s, hsm⟩ : ∃ s, m[(low + high) / 2]? = some s := ⟨m[(low + high) / 2], List.getElem?_eq_getElem hmidlen⟩
      simp only [hsm]
      by_cases he : addr = s.address
      · rw [if_pos he]
        exact ⟨_, s, rfl, hsm, Nat.le_of_eq he.symm, fun t _ ht => he ▸ ht⟩
      · rw [if_neg he]
        by_cases hg : addr > s.address
        · rw [if_pos hg]
          exact ih _ _ hmid2 hhl (by omega) ⟨s, hsm, Nat.le_of_lt hg⟩ hhigh
        · rw [if_neg hg]
          refine ih _ _ hmid1 (by omega) (by omega) hlow ?_
          intro s' hs'
          exact Option.some.inj (hsm.symm.trans hs') ▸ Nat.lt_of_le_of_ne (Nat.le_of_not_lt hg) he
    · -- `high = low + 1`: entries up to `low` are below by sortedness, later ones are above `addr`
      rw [if_neg hc]
      obtain ⟨s, hsl, hsa⟩ := hlow
      refine ⟨low, s, rfl, hsl, hsa, fun t ht hta => ?_⟩
      obtain ⟨j, hj⟩ := List.getElem?_of_mem ht
      by_cases hjl : j ≤ low
      · exact sorted_idx hs hjl hj hsl
      · exfalso
        have hjlen : j < m.length := (List.getElem?_eq_some_iff.1 hj).1
        have hhlen : high < m.length := by omega
        obtain ⟨u, hu⟩ : ∃ u, m[high]? = some u := ⟨m[high], List.getElem?_eq_getElem hhlen⟩
        have h1 := hhigh u hu
        have h2 := sorted_idx hs (by omega) hu hj
        omega

theorem addrInfo_cases (m : List Sym) (addr : Nat) (hs : SortedByAddr m) :
    (addrInfo m addr = .ok none ∧
      (m = [] ∨ (∃ f, m.head? = some f ∧ addr < f.address) ∨
        ∃ l, m.getLast? = some l ∧ addr ≥ add64 l.address l.size)) ∨
    ∃ r s, m[r]? = some s ∧ s.address ≤ addr ∧ (∀ t ∈ m, t.address ≤ addr → t.address ≤ s.address) ∧
      addrInfo m addr = if s.isData = true ∧ addr ≥ add64 s.address s.size then .ok none else .ok (some r) := by
  cases m with
  | nil => exact .inl ⟨rfl, .inl rfl⟩
  | cons a l =>
    obtain ⟨z, hz⟩ : ∃ z, (a :: l).getLast? = some z := ⟨_, List.getLast?_eq_some_getLast (by simp)⟩
    unfold addrInfo
    simp only [List.head?_cons, hz]
    by_cases hg : addr < a.address ∨ addr ≥ add64 z.address z.size
    · rw [if_pos hg]
      exact .inl ⟨rfl, .inr (hg.imp (fun h => ⟨a, rfl, h⟩) fun h => ⟨z, rfl, h⟩)⟩
    · obtain ⟨r, s, hr, hsr, hsa, hgr⟩ := nmLoop_spec (a :: l) addr hs ((a :: l).length + 1) 0 (a :: l).length
        (by simp) (Nat.le_refl _) (by omega) ⟨a, rfl, by omega⟩ (by intro s h; simp at h)
      rw [if_neg hg, hr]
      simp only [hsr]
      exact .inr ⟨r, s, hsr, hsa, hgr, rfl⟩

end PV.Elf
