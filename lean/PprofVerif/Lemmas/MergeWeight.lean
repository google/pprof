import PprofVerif.Model.Merge
import PprofVerif.Spec.Weight
import Mathlib.Data.List.Nodup
import Mathlib.Data.List.Perm.Basic
/-!
Value vectors and weights.  The algebra of `Spec.addV`/`Spec.sumV` on vectors of one width with
int64 entries (`VecOK`): associative, commutative, `zeroV` neutral, sums split over `++`, do not
depend on the order and ignore all-zero vectors.  From it the algebra of the Spec weight function
`weightR` over lists of resolved samples: zero samples do not count, concatenation adds, a stack
that occurs once weighs its sample's values.
-/
namespace PV.Merge
open PV.Spec
open PV.Wire (InI64 two63)

theorem wrapI64_of_InI64 {x : Int} (h : InI64 x) : wrapI64 x = x := by
  unfold InI64 two63 at h
  rw [wrapI64, Int.emod_eq_of_lt (by omega) (by omega), Int.add_sub_cancel]

theorem wrapI64_InI64 (x : Int) : InI64 (wrapI64 x) := by
  unfold InI64 two63 wrapI64; omega

theorem wrapI64_wrapI64_add (z c : Int) : wrapI64 (wrapI64 z + c) = wrapI64 (z + c) := by
  -- the offset of the inner wrap cancels, and a residue may be replaced by what it is the residue of
  have hc : ∀ a : Int, a - 9223372036854775808 + c + 9223372036854775808 = a + c := fun a => by omega
  unfold wrapI64
  rw [hc, Int.emod_add_emod, Int.add_right_comm]

theorem wrapI64_add_assoc (a b c : Int) : wrapI64 (wrapI64 (a + b) + c) = wrapI64 (a + wrapI64 (b + c)) := by
  rw [wrapI64_wrapI64_add, Int.add_comm a (wrapI64 _), wrapI64_wrapI64_add, Int.add_comm _ a, Int.add_assoc]

def VecOK (n : Nat) (v : List Int) : Prop := v.length = n ∧ ∀ x ∈ v, InI64 x

theorem addV_length (a b : List Int) : (addV a b).length = min a.length b.length := by
  simp [addV]

theorem addV_VecOK {n : Nat} {a b : List Int} (ha : a.length = n) (hb : b.length = n) : VecOK n (addV a b) := by
  refine ⟨by rw [addV_length, ha, hb, Nat.min_self], ?_⟩
  intro x hx
  unfold addV at hx
  obtain ⟨i, hi, rfl⟩ := List.mem_iff_getElem.mp hx
  simp only [List.getElem_zipWith]
  exact wrapI64_InI64 _

theorem zeroV_addV {n : Nat} {v : List Int} (h : VecOK n v) : addV (zeroV n) v = v := by
  obtain ⟨hl, hr⟩ := h
  subst hl
  induction v with
  | nil => rfl
  | cons x xs ih =>
    simp only [zeroV, List.length_cons, List.replicate_succ, addV, List.zipWith_cons_cons]
    rw [Int.zero_add, wrapI64_of_InI64 (hr x List.mem_cons_self)]
    exact congrArg (x :: ·) (ih fun y hy => hr y (List.mem_cons_of_mem _ hy))

theorem zeroV_VecOK (n : Nat) : VecOK n (zeroV n) := by
  refine ⟨by simp [zeroV], ?_⟩
  intro x hx
  simp only [zeroV, List.mem_replicate] at hx
  rw [hx.2]; unfold InI64 two63; omega

theorem addV_assoc : ∀ (a b c : List Int), addV (addV a b) c = addV a (addV b c) := by
  intro a
  induction a with
  | nil => intro b c; rfl
  | cons a as ih =>
    intro b c
    cases b with
    | nil => rfl
    | cons b bs =>
      cases c with
      | nil => rfl
      | cons c cs =>
        show wrapI64 (wrapI64 (a + b) + c) :: addV (addV as bs) cs = wrapI64 (a + wrapI64 (b + c)) :: addV as (addV bs cs)
        rw [ih, wrapI64_add_assoc]

theorem addV_comm (a b : List Int) : addV a b = addV b a :=
  List.zipWith_comm_of_comm fun x y => by rw [Int.add_comm]

theorem addV_zeroV {n : Nat} {v : List Int} (h : VecOK n v) : addV v (zeroV n) = v := by
  rw [addV_comm, zeroV_addV h]

theorem foldl_addV_VecOK {n : Nat} (vs : List (List Int)) (acc : List Int) (ha : VecOK n acc)
    (h : ∀ v ∈ vs, v.length = n) : VecOK n (vs.foldl addV acc) := by
  induction vs generalizing acc with
  | nil => exact ha
  | cons v vs ih =>
    exact ih _ (addV_VecOK ha.1 (h v List.mem_cons_self)) (fun w hw => h w (List.mem_cons_of_mem _ hw))

theorem sumV_VecOK {n : Nat} (vs : List (List Int)) (h : ∀ v ∈ vs, v.length = n) : VecOK n (sumV n vs) :=
  foldl_addV_VecOK vs _ (zeroV_VecOK n) h

theorem sumV_singleton {n : Nat} {v : List Int} (hv : VecOK n v) : sumV n [v] = v :=
  zeroV_addV hv

theorem sumV_snoc (n : Nat) (vs : List (List Int)) (v : List Int) : sumV n (vs ++ [v]) = addV (sumV n vs) v := by
  simp [sumV, List.foldl_append]

theorem foldl_addV_eq {n : Nat} (vs : List (List Int)) (acc : List Int) (ha : VecOK n acc)
    (h : ∀ v ∈ vs, v.length = n) : vs.foldl addV acc = addV acc (sumV n vs) := by
  induction vs generalizing acc with
  | nil => simp [sumV, addV_zeroV ha]
  | cons v vs ih =>
    have hv := h v List.mem_cons_self
    have hvs : ∀ w ∈ vs, w.length = n := fun w hw => h w (List.mem_cons_of_mem _ hw)
    simp only [List.foldl_cons, sumV]
    rw [ih _ (addV_VecOK ha.1 hv) hvs, ih _ (addV_VecOK (zeroV_VecOK n).1 hv) hvs, addV_assoc,
      addV_assoc (zeroV n), zeroV_addV (addV_VecOK hv (sumV_VecOK vs hvs).1)]

theorem sumV_append {n : Nat} (as bs : List (List Int)) (ha : ∀ v ∈ as, v.length = n)
    (hb : ∀ v ∈ bs, v.length = n) : sumV n (as ++ bs) = addV (sumV n as) (sumV n bs) := by
  unfold sumV
  rw [List.foldl_append]
  exact foldl_addV_eq bs _ (sumV_VecOK as ha) hb

theorem isZeroSample_eq_zeroV {n : Nat} {v : List Int} (hl : v.length = n) (hz : isZeroSample v = true) :
    v = zeroV n :=
  List.eq_replicate_iff.mpr ⟨hl, fun x hx => by simpa using List.all_eq_true.mp hz x hx⟩

theorem sumV_cons {n : Nat} (v : List Int) (vs : List (List Int)) (hv : v.length = n)
    (hvs : ∀ w ∈ vs, w.length = n) : sumV n (v :: vs) = addV (addV (zeroV n) v) (sumV n vs) := by
  unfold sumV
  rw [List.foldl_cons]
  exact foldl_addV_eq vs _ (addV_VecOK (zeroV_VecOK n).1 hv) hvs

theorem sumV_cons_of_VecOK {n : Nat} {v : List Int} {vs : List (List Int)} (hv : VecOK n v)
    (hvs : ∀ w ∈ vs, w.length = n) : sumV n (v :: vs) = addV v (sumV n vs) := by
  rw [sumV_cons v vs hv.1 hvs, zeroV_addV hv]

theorem sumV_filter_nonzero {n : Nat} (vs : List (List Int)) (h : ∀ v ∈ vs, v.length = n) :
    sumV n (vs.filter fun v => !isZeroSample v) = sumV n vs := by
  induction vs with
  | nil => rfl
  | cons v vs ih =>
    have hv := h v List.mem_cons_self
    have hvs : ∀ w ∈ vs, w.length = n := fun w hw => h w (List.mem_cons_of_mem _ hw)
    have hf : ∀ w ∈ vs.filter (fun v => !isZeroSample v), w.length = n :=
      fun w hw => hvs w (List.mem_of_mem_filter hw)
    rw [sumV_cons v vs hv hvs, ← ih hvs]
    by_cases hz : isZeroSample v = true
    · simp only [List.filter_cons, hz, Bool.not_true, Bool.false_eq_true, if_false]
      rw [isZeroSample_eq_zeroV hv hz, zeroV_addV (zeroV_VecOK n), zeroV_addV (sumV_VecOK _ hf)]
    · simp only [List.filter_cons, hz, Bool.not_false, if_true]
      rw [sumV_cons v _ hv hf]

theorem sumV_perm {n : Nat} {as bs : List (List Int)} (hp : as.Perm bs) : sumV n as = sumV n bs := by
  unfold sumV
  have : RightCommutative addV := ⟨fun a b c => by rw [addV_assoc, addV_comm b c, ← addV_assoc]⟩
  exact hp.foldl_eq _

def SamplesOK (n : Nat) (rs : List RSample) : Prop := ∀ s ∈ rs, VecOK n s.values

theorem SamplesOK.filter_values {n : Nat} {rs : List RSample} (h : SamplesOK n rs) (q : RSample → Bool) :
    ∀ v ∈ (rs.filter q).map (·.values), v.length = n :=
  List.forall_mem_map.mpr fun s hs => (h s (List.mem_of_mem_filter hs)).1

theorem weightR_VecOK {n : Nat} {rs : List RSample} (h : SamplesOK n rs) (k : StackKey) :
    VecOK n (weightR n rs k) :=
  sumV_VecOK _ (h.filter_values _)

theorem weightR_filter_nonzero {n : Nat} {rs : List RSample} (h : SamplesOK n rs) (k : StackKey) :
    weightR n (rs.filter fun s => !isZeroSample s.values) k = weightR n rs k := by
  unfold weightR
  rw [List.filter_filter]
  have : (rs.filter fun s => decide (stackKey s = k) && !isZeroSample s.values).map (·.values) =
      ((rs.filter fun s => decide (stackKey s = k)).map (·.values)).filter fun v => !isZeroSample v := by
    rw [List.filter_map, ← List.filter_filter, List.filter_filter, List.filter_filter]
    exact congrArg (List.map _) (List.filter_congr fun s _ => by simp [Bool.and_comm])
  rw [this, sumV_filter_nonzero _ (h.filter_values _)]

theorem weightR_append {n : Nat} {as bs : List RSample} (ha : SamplesOK n as) (hb : SamplesOK n bs)
    (k : StackKey) : weightR n (as ++ bs) k = addV (weightR n as k) (weightR n bs k) := by
  unfold weightR
  rw [List.filter_append, List.map_append, sumV_append _ _ (ha.filter_values _) (hb.filter_values _)]

theorem weightR_flatten {n : Nat} (rss : List (List RSample)) (h : ∀ rs ∈ rss, SamplesOK n rs) (k : StackKey) :
    weightR n rss.flatten k = sumV n (rss.map fun rs => weightR n rs k) := by
  induction rss with
  | nil => rfl
  | cons rs rss ih =>
    have hrs := h rs List.mem_cons_self
    have hrss : ∀ x ∈ rss, SamplesOK n x := fun x hx => h x (List.mem_cons_of_mem _ hx)
    have hfl : SamplesOK n rss.flatten := by
      intro s hs
      obtain ⟨x, hx, hsx⟩ := List.mem_flatten.mp hs
      exact hrss x hx s hsx
    rw [List.flatten_cons, weightR_append hrs hfl, ih hrss, List.map_cons, sumV_cons_of_VecOK (weightR_VecOK hrs k)]
    exact List.forall_mem_map.mpr fun x hx => (weightR_VecOK (hrss x hx) k).1

theorem filter_key_eq_singleton {α κ : Type} [DecidableEq κ] (f : α → κ) (tab : List α) (e0 : α)
    (hn : (tab.map f).Nodup) (hm : e0 ∈ tab) : tab.filter (fun e => decide (f e = f e0)) = [e0] := by
  induction tab with
  | nil => cases hm
  | cons x xs ih =>
    rw [List.map_cons, List.nodup_cons] at hn
    rcases List.mem_cons.mp hm with rfl | hm'
    · rw [List.filter_cons_of_pos (p := fun e => decide (f e = f e0)) (decide_eq_true rfl),
        List.filter_eq_nil_iff.mpr]
      intro y hy
      rw [decide_eq_true_eq]
      exact fun hye => hn.1 (hye ▸ List.mem_map_of_mem hy)
    · rw [List.filter_cons_of_neg, ih hn.2 hm']
      rw [decide_eq_true_eq]
      exact fun h => hn.1 (h ▸ List.mem_map_of_mem hm')

theorem weightR_of_nodup {n : Nat} {rs : List RSample} (h : SamplesOK n rs)
    (hn : (rs.map stackKey).Nodup) {s : RSample} (hs : s ∈ rs) : weightR n rs (stackKey s) = s.values := by
  unfold weightR
  rw [filter_key_eq_singleton stackKey rs s hn hs]
  exact sumV_singleton (h s hs)

theorem weightR_of_not_mem {n : Nat} {rs : List RSample} {k : StackKey}
    (h : ∀ s ∈ rs, stackKey s ≠ k) : weightR n rs k = zeroV n := by
  rw [weightR, List.filter_eq_nil_iff.mpr fun s hs => by simpa using h s hs]; rfl

end PV.Merge
