import PprofVerif.Lemmas.MergeTotals
import PprofVerif.Model.Fetch
/-!
Composition C16 ← C03: the abstract `MergeSpec merge Good abs add` that C16 assumes of `combineProfiles` is
proved for C03's model of `profile.Merge`, with `abs p = weight p` (the Spec's weight function
`StackKey → value vector`), `add = addW` and `Good = GoodFor st pt` (profiles `Good` for the same `st`, `pt`
are exactly the mutually compatible ones).
-/
namespace PV
namespace Merge
open PV.Spec PV.Fetch
open PV.Wire (InI64)

abbrev WeightFn := StackKey → List Int

/-- pointwise element-wise int64 sum of two weight functions -/
def addW (f g : WeightFn) : WeightFn := fun k => addV (f k) (g k)

/-- what a fetched profile must satisfy to be merged with others of the same kind -/
def GoodFor (st : List ValueType) (pt : ValueType) (p : Profile) : Prop :=
  p.Valid ∧ Typed p ∧ p.sampleType = st ∧ p.periodType = some pt

theorem addW_assoc (f g h : WeightFn) : addW (addW f g) h = addW f (addW g h) := by
  funext k; exact addV_assoc _ _ _

theorem foldl_addW_apply (ws : List WeightFn) : ∀ (f : WeightFn) (k : StackKey),
    (ws.foldl addW f) k = (ws.map (· k)).foldl addV (f k) := by
  induction ws with
  | nil => intro f k; rfl
  | cons w r ih => intro f k; simp only [List.foldl_cons, List.map_cons, ih]; rfl

theorem valueTypes_all_refl : ∀ (st : List ValueType),
    (List.zipWith (fun (x y : ValueType) => x.typ == y.typ && x.unit == y.unit) st st).all id = true
  | [] => rfl
  | x :: r => by simp

theorem compatibleB_of_goodFor {st : List ValueType} {pt : ValueType} {a b : Profile}
    (ha : GoodFor st pt a) (hb : GoodFor st pt b) : compatibleB a b = true := by
  unfold compatibleB
  rw [ha.2.2.1, ha.2.2.2, hb.2.2.1, hb.2.2.2, valueTypes_all_refl]
  simp

theorem merge_mergeSpec (st : List ValueType) (pt : ValueType) :
    MergeSpec merge (GoodFor st pt) (fun p => (weight p : WeightFn)) addW where
  assoc := addW_assoc
  merge_ok := by
    intro x xs hg
    have hin : Inputs x xs := ⟨fun p hp => (hg p hp).1, fun p hp => (hg p hp).2.1,
      fun p hp => compatibleB_of_goodFor (hg x (by simp)) (hg p (List.mem_cons_of_mem _ hp))⟩
    obtain ⟨r, hr, hval, htyp, hst, hpt, hw, _⟩ := merge_spec x xs hin
    have hx := hg x (by simp)
    refine ⟨r, hr, ⟨hval, htyp, hst.trans hx.2.2.1, hpt.trans hx.2.2.2⟩, ?_⟩
    funext k
    rw [foldl_addW_apply, List.map_map]
    show weight r k = _
    rw [hw k]
    show sumV x.sampleType.length ((x :: xs).map (weight · k)) = _
    simp only [sumV, List.map_cons, List.foldl_cons]
    rw [zeroV_addV (VecOK_weight hx.1 hx.2.1 k)]
    rfl

end Merge
end PV
