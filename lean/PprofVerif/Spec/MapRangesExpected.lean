import PprofVerif.Model.MapRange
/-!
# Hand-reviewed map-iteration sites (property C08)

Every `range` over a map (and every slices.Collect(maps.Keys/Values)) in internal/graph, internal/report,
internal/driver and profile whose body appends to
a slice, writes output, concatenates a string, accumulates a float or returns an iteration value —
as listed by `tools/extract/mapranges.go` — with the reviewer's verdict.  `Props/C08.lean` checks
by evaluation (rewriting over the site tables, string literals as atoms) that every site regenerated from the current source is either SELF-EVIDENT — an `append`
whose slice reaches a total sort (by value, or one of the comparators proved in Props/C08.lean, possibly
through callees or — for a helper that returns the slice — in every caller) before any output; such a
walk is order-irrelevant wherever it sits and whatever it is called — or one of `sites` below.  So a
new map walk that is not sorted totally, a sort removed, or a custom comparator breaks the obligation
until it has been reviewed here; a site that disappears, moves into a helper or is renamed does not.
Reviewed against the pinned tree 1598eac + fixes/C08-less-strict-order.patch (touches none of these
sites) + fixes/C08-entropy-sum-order.patch (edgeEntropyScore) + fixes/C08-weblist-unprocessed-sorted.patch
(splitIntoRanges) + fixes/C08-calltree-deterministic.patch (newTree, ComposeDot).
-/
namespace PV.Spec.MapRangesExpected
open PV.MapRange

def reviewed : List Reviewed := [
  -- line 90: range n.Out (map[*internal/graph.Node]*internal/graph.Edge)   internal/graph.edgeList   then: SORTC:sort.Slice, (internal/graph.edgeList).Less, return
  { site := { file := "internal/graph/dotgraph.go", fn := "ComposeDot", kind := .append, sink := "append", sorted := true, total := false, returned := true },
    verdict := .customSort "the edge comparator (edges_order_strict_total) and then the pair of node ids, unique per edge: total for any numbering (edge_order_then_node_ids_total)" },
  -- line 491: range cur.Out (map[*internal/graph.Node]*internal/graph.Edge)      then: 
  { site := { file := "internal/graph/graph.go", fn := "Graph.TrimTree", kind := .delete, sink := "delete", sorted := false, total := false, returned := false },
    verdict := .orderIrrelevant "TrimTree: every child of the removed node is re-parented (or orphaned) unconditionally; each iteration touches only its own child's entries" },
  -- line 581: range nm (map[internal/graph.NodeInfo]*internal/graph.Node)   internal/graph.Nodes   then: return
  { site := { file := "internal/graph/graph.go", fn := "NodeMap.nodes", kind := .append, sink := "append", sorted := false, total := false, returned := true },
    verdict := .sortedByConsumer "CreateNodes/newGraph/newTree hand the list to selectNodesForGraph; report.newTrimmedGraph sorts Graph.Nodes before every printer; printTraces uses only the per-location lists (line order)" },
  -- line 732: range n.In (map[*internal/graph.Node]*internal/graph.Edge)   []int   then: fmt.Sprintf, return, strings.Join
  { site := { file := "internal/graph/graph.go", fn := "Graph.String", kind := .append, sink := "append", sorted := false, total := false, returned := true },
    verdict := .notReportOutput "Graph.String is a debugging aid used by the package tests only" },
  -- line 809: range n.In (map[*internal/graph.Node]*internal/graph.Edge)      then: 
  { site := { file := "internal/graph/graph.go", fn := "Graph.TrimLowFrequencyEdges", kind := .delete, sink := "delete (from the ranged map)", sorted := false, total := false, returned := false },
    verdict := .orderIrrelevant "the edge is dropped iff its own |weight| is below the cutoff; no decision reads state changed by another iteration" },
  -- line 809: range n.In (map[*internal/graph.Node]*internal/graph.Edge)      then: 
  { site := { file := "internal/graph/graph.go", fn := "Graph.TrimLowFrequencyEdges", kind := .delete, sink := "delete", sorted := false, total := false, returned := false },
    verdict := .orderIrrelevant "the mirror entry src.Out[n] of the same dropped edge" },
  -- line 925: range n.In (map[*internal/graph.Node]*internal/graph.Edge)   internal/graph.Nodes   then: 
  { site := { file := "internal/graph/graph.go", fn := "isRedundantEdge", kind := .append, sink := "append", sorted := false, total := false, returned := false },
    verdict := .orderIrrelevant "breadth-first reachability query: the boolean result does not depend on the visiting order" },
  -- line 258: range s.NumLabel (map[string][]int64)   []int64   then: 
  { site := { file := "internal/report/report.go", fn := "Report.newGraph", kind := .append, sink := "append (slot keyed by the iteration variable)", sorted := false, total := false, returned := false },
    verdict := .orderIrrelevant "each key is appended exactly once to its own slot of a fresh map" },
  -- line 416: range symNodes (map[*internal/report.objSymbol]internal/graph.Nodes)   []*internal/report.objSymbol   then: SORTC:sort.Sort
  { site := { file := "internal/report/report.go", fn := "PrintAssembly", kind := .append, sink := "append", sorted := true, total := false, returned := false },
    verdict := .customSort "by flat sum, then first symbol name, then start address; symbols of one listing have distinct (name, start) — reviewed" },
  -- line 549: range addrMap (map[uint64]internal/report.addrInfo)   []uint64   then: SORTC:sort.Slice, return
  { site := { file := "internal/report/source.go", fn := "sourcePrinter.splitIntoRanges", kind := .append, sink := "append", sorted := true, total := false, returned := true },
    verdict := .customSort "sort.Slice by the address itself: a value sort" },
  -- line 632: range sp.files (map[string]*internal/report.sourceFile)   []*internal/report.sourceFile   then: return, SORTC:sort.Slice
  { site := { file := "internal/report/source.go", fn := "sourcePrinter.generate", kind := .append, sink := "append", sorted := true, total := false, returned := true },
    verdict := .customSort "by flat weight, then by file name (map key, unique) since fixes/C08-weblist-file-order-tiebreak.patch; by file name alone for the full listing" },
  -- line 233: range bools (map[string]*bool)   []string   then: fmt.Errorf
  { site := { file := "internal/driver/cli.go", fn := "installConfigFlags", kind := .append, sink := "append", sorted := false, total := false, returned := false },
    verdict := .notReportOutput "text of the usage error `conflicting options set: [...]` for mutually exclusive flags (stderr, no report is produced)" },
  -- line 289: range configFieldMap (map[string]internal/driver.configField)   []string   then: return
  { site := { file := "internal/driver/config.go", fn := "completeConfig", kind := .append, sink := "append", sorted := false, total := false, returned := true },
    verdict := .orderIrrelevant "interactive completion: the only caller (matchVariableOrCommand) uses the result when the combined list has exactly one element" },
  -- line 268: range ms (map[string][]struct{Source string; Start uint64})   []struct{Source string; Start uint64}   then: return
  { site := { file := "internal/driver/fetch.go", fn := "combineProfiles", kind := .append, sink := "append (slot keyed by the iteration variable)", sorted := false, total := false, returned := true },
    verdict := .orderIrrelevant "per-key slots; the outer loop runs over the slice of sources in command-line order" },
  -- line 384: range pprofCommands (map[string]*internal/driver.command)   []string   then: return
  { site := { file := "internal/driver/interactive.go", fn := "matchVariableOrCommand", kind := .append, sink := "append", sorted := false, total := false, returned := true },
    verdict := .orderIrrelevant "the result is used only when there is exactly one match" },
  -- pick sites: a variable declared outside the map walk is overwritten with a value of the iteration —
  -- an arbitrary element unless the map has at most one entry or all candidates lead to the same result
  { site := { file := "internal/graph/graph.go", fn := "Graph.TrimTree", kind := .pick, sink := "pick:assign", sorted := false, total := false, returned := false },
    verdict := .orderIrrelevant "the parent of a tree node: cur.In has exactly one entry here (len checked just above, panics otherwise)" },
  { site := { file := "internal/driver/cli.go", fn := "outputFormat", kind := .pick, sink := "pick:assign", sorted := false, total := false, returned := false },
    verdict := .orderIrrelevant "the selected output format: a second selected entry is an error whatever the order, so at most one entry ever assigns" },
  -- pick:first-element — s[0] of a slice collected in a map walk, read before any sort
  { site := { file := "internal/driver/cli.go", fn := "installConfigFlags", kind := .pick, sink := "pick:first-element", sorted := false, total := false, returned := false },
    verdict := .orderIrrelevant "set[0] is read only in the branch len(set) == 1" },
  { site := { file := "internal/driver/interactive.go", fn := "matchVariableOrCommand", kind := .pick, sink := "pick:first-element", sorted := false, total := false, returned := false },
    verdict := .orderIrrelevant "matches[0] is returned only when len(matches) == 1" },
  -- package profile (analysed since the seeded change C08-q: label keys feeding the merge key)
  { site := { file := "profile/filter.go", fn := "Profile.FilterTagsByName", kind := .delete, sink := "delete (from the ranged map)", sorted := false, total := false, returned := false },
    verdict := .orderIrrelevant "a label is removed iff its own key matches the regexps" },
  { site := { file := "profile/legacy_profile.go", fn := "cpuProfile", kind := .append, sink := "append", sorted := false, total := false, returned := false },
    verdict := .orderIrrelevant "cleanupDuplicateLocations: strips the second frame that occurs in at least N - N/32 of the N samples; the counts sum to at most N, so at most one address can qualify and the break takes that one" }
]

def sites : List Site := reviewed.map (·.site)

/-- the sites whose order-dependence can reach report output and is only hunted at run time -/
def huntedSites : List Reviewed := reviewed.filter (fun r => match r.verdict with | .hunted _ => true | _ => false)

end PV.Spec.MapRangesExpected
